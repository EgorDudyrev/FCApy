/-
  C12 — every order-construction routine computes exactly the cover relation.  The examples show that the
  hypotheses of the theorems can be met.

  Conventions: a concept is its extent (duplicate-free `List Nat`); `Spec.covers cs i` are the lower covers of
  concept `i` within the list `cs`; a returned dictionary `out` "is the cover relation" (`IsCoverDict cs out`) when
  it has one duplicate-free entry per index whose members are exactly `Spec.covers cs i` (sets are compared by
  membership; the driver prints them sorted).  Every loop over a Python `set` goes through `ord`, an arbitrary
  rearrangement (`OrdOK`), and the theorems hold for all of them.
-/
import Fca.Model.Construct
import Fca.Spec.Covers
import Fca.Lemmas.ConstructBasic
import Fca.Lemmas.ConstructCC
import Fca.Lemmas.ConstructOE
import Fca.Lemmas.ConstructAdd
import Fca.Lemmas.ConstructRemove
import Fca.Lemmas.ConstructHyps
import Fca.Lemmas.ConstructFast
import Fca.Lemmas.ConstructPruned
import Fca.Lemmas.CaspOrderExtents
import Fca.Lemmas.ExceptEq
namespace Fca.C12
open Fca.Spec Fca.Construct

/-- `complete_comparison(concepts, is_concepts_sorted=False, n_jobs)` returns for every concept exactly its
    lower covers within the list — any list of duplicate-free extents (a greatest / least element is not even
    needed), any listing order, any job count (`joblib` returns the per-concept results in submission order),
    any iteration order of the copied sets.  The model keeps the aliasing of the real code: the subtraction
    loop shrinks the very sets it later subtracts. -/
theorem complete_comparison_covers (cs : List Ext) (hnd : ExtsNodup cs) (nJobs : Nat)
    (ord : List Nat → List Nat) (hord : OrdOK ord) :
    IsCoverDict cs (completeComparisonC cs false nJobs ord) :=
  completeComparisonC_covers (isSorted := false) hnd nofun nJobs hord

/-- the same with `is_concepts_sorted=True` (the `b_i < a_i` shortcut and `sorted(b_is)`): what the flag needs is
    `TopoSorted` — every strict superconcept is listed before its subconcepts; sorting by non-increasing support
    (`SizeSorted`, what `sort_concepts` does) is one way to get it (`sizeSorted_topoSorted`). -/
theorem complete_comparison_sorted_covers (cs : List Ext) (hnd : ExtsNodup cs) (hsorted : TopoSorted cs)
    (nJobs : Nat) (ord : List Nat → List Nat) (hord : OrdOK ord) :
    IsCoverDict cs (completeComparisonC cs true nJobs ord) :=
  completeComparisonC_covers hnd (fun _ => hsorted) nJobs hord

example : ExtsNodup [[0, 1, 2], [0, 1], [2], []] ∧ TopoSorted [[0, 1, 2], [0, 1], [2], []] :=
  ⟨by decide +kernel, topoSorted_of_B (by decide +kernel)⟩

/-- a linear extension that is not sorted by size is admissible as well -/
example : TopoSorted [[0, 1, 2], [2], [0, 1], []] ∧ ¬ SizeSorted [[0, 1, 2], [2], [0, 1], []] :=
  ⟨topoSorted_of_B (by decide +kernel), fun h => absurd (h 1 2 (by decide) (by decide)) (by decide)⟩

/-- `construct_spanning_tree` followed by `_get_chains` (both flags, every iteration order of the child sets):
    both succeed; every chain starts at the greatest concept, every step goes from a concept to one of its
    children in the tree (its unique tree parent is the previous element) and is a strict inclusion of extents,
    all entries are valid indexes, and the chains cover all indexes (`Spec.chainsOK`, the checker the driver also
    applies to the implementation's own tree and chains).  `TreeInput`: duplicate-free extents, `top` is the
    greatest concept, and `TopoSorted` when the flag is set. -/
theorem chains_of_spanning_tree (cs : List Ext) (top : Nat) (isSorted : Bool)
    (hin : TreeInput cs top isSorted) (ord : List Nat → List Nat) (hord : OrdOK ord) :
    ∃ t chains, spanningTreeC cs isSorted ord = .ok t ∧ getChainsC cs t.sup isSorted = .ok chains ∧
      chainsOK cs.length (ssubAt cs) (parentOf t.sup) top chains = true := by
  obtain ⟨t, chs, h1, h2, h3⟩ := tree_chains_C cs top isSorted hin ord hord
  refine ⟨t, chs, h1, h2, ?_⟩
  rw [← ltAt_eq_ssubAt hin.nodup]; exact h3

example : TreeInput [[2], [0, 1, 2], [], [0, 1]] 1 false :=
  ⟨by decide +kernel, isTop_of_B (by decide +kernel), by intro h; cases h⟩

example : TreeInput [[0, 1, 2], [2], [0, 1], []] 0 true :=
  ⟨by decide +kernel, isTop_of_B (by decide +kernel), fun _ => topoSorted_of_B (by decide +kernel)⟩

/-- `construct_lattice_by_spanning_tree(concepts, is_concepts_sorted, n_jobs=1)`: spanning tree, chains, the
    sequential chain sweep (per-chain resume indexes, the three shared sets, the three exits of
    `iterate_chain`) and the final reduction return exactly the cover relation. -/
theorem spanning_tree_covers (cs : List Ext) (top : Nat) (isSorted : Bool)
    (hin : TreeInput cs top isSorted) (ord : List Nat → List Nat) (hord : OrdOK ord)
    (sched : Nat → Nat → List Nat → List Nat) :
    ∃ out, bySpanningTreeC cs isSorted 1 ord sched = .ok out ∧ IsCoverDict cs out :=
  bySpanningTree_C cs top isSorted hin ord hord 1 (Nat.le_refl _) sched (.inl rfl)

/-- the parallel twin `construct_lattice_from_spanning_tree_parallel` inside
    `construct_lattice_by_spanning_tree(…, n_jobs)`: for every `n_jobs ≥ 1` the chains are handed out in batches
    of `n_jobs`, and *for every order in which the scans of a batch take effect* (`SchedOK`: for each concept and
    batch an arbitrary permutation of the batch — every interleaving at the granularity of one `iterate_chain`
    call on the shared sets) the result is the cover relation; hence any two job counts / schedules give the same
    dictionary (second part).  NOT covered: interleavings *inside* a scan (two threads between two bytecodes of
    `iterate_chain`); the model does not exhibit them and the harness only probes them with a
    `sys.setswitchinterval` sweep. -/
theorem spanning_tree_parallel_sched_indep (cs : List Ext) (top : Nat) (isSorted : Bool)
    (hin : TreeInput cs top isSorted) (ord : List Nat → List Nat) (hord : OrdOK ord)
    (nJobs : Nat) (hjobs : 1 ≤ nJobs) (sched : Nat → Nat → List Nat → List Nat) (hsched : SchedOK sched) :
    (∃ out, bySpanningTreeC cs isSorted nJobs ord sched = .ok out ∧ IsCoverDict cs out) ∧
    ∀ (nJobs' : Nat) (ord' : List Nat → List Nat) (sched' : Nat → Nat → List Nat → List Nat),
      1 ≤ nJobs' → OrdOK ord' → SchedOK sched' →
      ∃ out out', bySpanningTreeC cs isSorted nJobs ord sched = .ok out ∧
        bySpanningTreeC cs isSorted nJobs' ord' sched' = .ok out' ∧
        ∀ i, i < cs.length → SameSetC (out.getD i []) (out'.getD i []) := by
  obtain ⟨out, e, c⟩ := bySpanningTree_C cs top isSorted hin ord hord nJobs hjobs sched (.inr hsched)
  refine ⟨⟨out, e, c⟩, fun nJobs' ord' sched' hj' ho' hs' => ?_⟩
  obtain ⟨out', e', c'⟩ := bySpanningTree_C cs top isSorted hin ord' ho' nJobs' hj' sched' (.inr hs')
  refine ⟨out, out', e, e', fun i hi x => ?_⟩
  rw [(c.2 i hi).2 x, (c'.2 i hi).2 x]

example : SchedOK (fun c k b => if (c + k) % 2 = 0 then b else b.reverse) := by
  intro c k b
  show (if (c + k) % 2 = 0 then b else b.reverse).Perm b
  split
  · exact List.Perm.refl _
  · exact List.reverse_perm _

/-- `order_extents_comparison` at specification level: `caspailleur` is third-party and enters by its contract
    (`id_to_topo_map` is a permutation `idToTopo` of the indexes and the bit-set routine returns the lower covers
    `Spec.covers` of the re-listed extents — its documented behaviour on complete concept sets).  What is proved is
    the code's own part: the dictionary comprehension that translates sorted positions back has every index as a
    key exactly once and maps it to exactly its lower covers in the original listing. -/
theorem order_extents_covers (cs : List Ext) (idToTopo : List Nat)
    (hperm : idToTopo.Perm (List.range cs.length)) :
    ((orderExtentsComparison cs.length idToTopo (Spec.covers (topoList cs idToTopo))).map (·.1)).Perm
        (List.range cs.length) ∧
    ∀ i, i < cs.length →
      (dictGet (orderExtentsComparison cs.length idToTopo (Spec.covers (topoList cs idToTopo))) i).Nodup ∧
      SameSetC (dictGet (orderExtentsComparison cs.length idToTopo (Spec.covers (topoList cs idToTopo))) i)
        (Spec.covers cs i) :=
  ⟨orderExtents_keys cs idToTopo ⟨hperm⟩ _, fun _ hi => orderExtents_covers cs idToTopo ⟨hperm⟩ hi⟩

/-- `add_concept(new, concepts, children, parents, top, bottom)` — given the correct cover relation (both
    directions) of a list with a greatest and a least concept, the true extreme indexes or `None` for either of
    them, and a new concept (not in the list) with which the list still has a greatest and a least concept — returns
    the correct children and parents dictionaries, top and bottom index of the enlarged list `concepts + [new]`,
    for every iteration order of the sets and every fuel above the closed-form bound `addFuel`
    (`AddInput` bundles exactly these hypotheses; the three branches new-top / new-bottom / in-between are covered).
    Purity: the model is a function — it returns new values and cannot modify `cs` / `r`.  That the real helper
    leaves the caller's list and dictionaries untouched with `inplace=False` (and puts the result into them with
    `inplace=True`) is therefore NOT a consequence of this theorem; the correspondence check establishes it on the
    explored inputs (deep comparison with a snapshot, and a history of further calls on the same base). -/
theorem add_concept_correct (cs : List Ext) (new : Ext) (r : Rel) (t0 b0 : Nat)
    (hin : AddInput cs new r t0 b0) (ord : List Nat → List Nat) (hord : OrdOK ord)
    (fuel : Nat) (hfuel : addFuel cs new r ≤ fuel) :
    ∃ r', addConcept cs new r ord fuel = .ok r' ∧
      IsCoverDict (cs ++ [new]) r'.sub ∧ IsUpperCoverDict (cs ++ [new]) r'.sup ∧
      ∃ t' b', r'.top = some t' ∧ IsTop (cs ++ [new]) t' ∧ r'.bot = some b' ∧ IsBottom (cs ++ [new]) b' := by
  have hnd := hin.nodupCs
  have hlen' : (cs ++ [new]).length = cs.length + 1 := List.length_append
  have so := ltAt_strictOrd (cs ++ [new])
  obtain ⟨dsup, dsub, t', b', hd, n1, s1, n2, s2, ht, hb⟩ := addDirect_ok hin ord hord hfuel
  have hfresh : (cs.any fun c => eqC new c) = false :=
    List.any_eq_false.mpr fun c hc => by rw [hin.fresh c hc]; exact Bool.false_ne_true
  unfold addConcept
  rw [hfresh, if_neg Bool.false_ne_true, if_neg (Nat.not_lt.mpr hin.len), hin.tb]
  simp only [hd]
  refine ⟨_, rfl, ?_, ?_, t', b', rfl, (isTop_iff hin.nodup).mpr (hlen' ▸ ht), rfl,
    (isBottom_iff hin.nodup).mpr (hlen' ▸ hb)⟩
  · rw [isCoverDict_iff hin.nodup, hlen']
    exact update_covers so
      (((isCoverDict_iff hnd).mp hin.sub).congr (ltAt_append_old cs new))
      n1 s1 n2 s2 (hord dsup)
  · rw [isUpperCoverDict_iff hin.nodup, hlen']
    exact update_covers (so.flip (suppAt_lt_walkFuel (cs ++ [new])))
      (((isUpperCoverDict_iff hnd).mp hin.sup).congr fun i j hi hj => ltAt_append_old cs new j i hj hi)
      n2 (upperCoversBy_flip ▸ s2) n1 (coversBy_flip ▸ s1) (hord dsub)

example : AddInput [[0, 1], [], [1]] [0] ⟨[[2], [], [1]], [[], [2], [0]], some 0, none⟩ 0 1 where
  nodup := by decide +kernel
  len := by decide +kernel
  fresh := by decide +kernel
  sub := isCoverDict_of_eq (by decide +kernel)
  sup := isUpperCoverDict_of_eq (by decide +kernel)
  top := isTop_of_B (by decide +kernel)
  bot := isBottom_of_B (by decide +kernel)
  rtop := Or.inr rfl
  rbot := Or.inl rfl
  top' := ⟨0, isTop_of_B (by decide +kernel)⟩
  bot' := ⟨1, isBottom_of_B (by decide +kernel)⟩

/-- the new concept may become the new top -/
example : AddInput [[0], []] [0, 1] ⟨[[1], []], [[], [0]], some 0, some 1⟩ 0 1 where
  nodup := by decide +kernel
  len := by decide +kernel
  fresh := by decide +kernel
  sub := isCoverDict_of_eq (by decide +kernel)
  sup := isUpperCoverDict_of_eq (by decide +kernel)
  top := isTop_of_B (by decide +kernel)
  bot := isBottom_of_B (by decide +kernel)
  rtop := Or.inr rfl
  rbot := Or.inr rfl
  top' := ⟨2, isTop_of_B (by decide +kernel)⟩
  bot' := ⟨1, isBottom_of_B (by decide +kernel)⟩

/-- `remove_concept(concept_i, concepts, children, parents, top, bottom)` — given the correct cover relation
    (both directions) of a list of at least three concepts with a greatest and a least one, the true extreme
    indexes or `None`, and an index whose removal leaves a list that still has a greatest and a least concept
    (this includes removing the top or the bottom itself when it has a single neighbour) — returns the correct
    children and parents dictionaries (re-indexed), top and bottom index of the reduced list, for every iteration
    order of the sets (`RemInput` bundles exactly these hypotheses).  Purity: as for `add_concept_correct` the
    model returns new values; that the real helper does not touch its inputs with `inplace=False` is checked by the
    correspondence check, not proved here. -/
theorem remove_concept_correct (cs : List Ext) (ci : Nat) (r : Rel) (t0 b0 : Nat)
    (hin : RemInput cs ci r t0 b0) (ord : List Nat → List Nat) (hord : OrdOK ord) :
    ∃ r', removeConcept cs ci r ord = .ok r' ∧
      IsCoverDict (cs.eraseIdx ci) r'.sub ∧ IsUpperCoverDict (cs.eraseIdx ci) r'.sup ∧
      ∃ t' b', r'.top = some t' ∧ IsTop (cs.eraseIdx ci) t' ∧ r'.bot = some b' ∧
        IsBottom (cs.eraseIdx ci) b' := by
  have hnd := hin.nodup
  have hci := hin.ciLt
  have so := ltAt_strictOrd cs
  have soF := so.flip (suppAt_lt_walkFuel cs)
  have hnd' : ExtsNodup (cs.eraseIdx ci) := fun e he => hnd e ((List.eraseIdx_sublist cs ci).subset he)
  have hlen' : (cs.eraseIdx ci).length = cs.length - 1 := by rw [List.length_eraseIdx, if_pos hci]
  have hsubD := (isCoverDict_iff hnd).mp hin.sub
  have hsupD := (isUpperCoverDict_iff hnd).mp hin.sup
  have hsubs := hsubD.2 ci hci
  have hsupers := hsupD.2 ci hci
  obtain ⟨t2, et, ht2⟩ := remExtreme_ok so hci ((isTop_iff hnd).mp hin.top) (r.sub.getD ci []) hsubs
    (hin.top'.imp fun t' ht' => by have := (isTop_iff hnd').mp ht'; rwa [ltAt_eraseIdx, hlen'] at this)
  obtain ⟨b2, eb, hb2⟩ := remExtreme_ok soF hci ((isBottom_iff hnd).mp hin.bot) (r.sup.getD ci []) hsupers
    (hin.bot'.imp fun b' hb' => by have := (isBottom_iff hnd').mp hb'; rwa [ltAt_eraseIdx, hlen'] at this)
  -- the two dictionaries: the parents of `ci` are reconnected in `sub`, its children in `sup`
  obtain ⟨allSuper, sup1, ec1, er2, hsup⟩ := removeHalf_ok soF hci hsupD ord hord
    (bySupportDesc cs.length (suppAt cs))
    ((pairwise_bySupportDesc cs.length (suppAt cs)).imp fun {a b} h hlt => Nat.not_lt_of_le h (so.rank_lt a b hlt))
    (perm_sortBy _ _)
    (fun a b => decide (suppAt cs a ≤ suppAt cs b)) true ((hord _).nodup_iff.mpr hsubs.1)
    (fun x => (hord.mem_iff.trans (hsubs.2 x)).trans (by rw [upperCoversBy_flip]))
  obtain ⟨allSub, sub1, ec2, er1, hsub⟩ := removeHalf_ok so hci hsubD ord hord
    (bySupportAsc cs.length (suppAt cs))
    ((pairwise_bySupportAsc cs.length (suppAt cs)).imp fun {a b} h hlt => Nat.not_lt_of_le h (so.rank_lt b a hlt))
    (perm_sortBy _ _)
    (fun a b => decide (suppAt cs b ≤ suppAt cs a)) false ((hord _).nodup_iff.mpr hsupers.1)
    (fun x => (hord.mem_iff.trans (hsupers.2 x)).trans (by rw [coversBy_flip]))
  have h1 : (!decide (ci < cs.length)) = false := by rw [decide_eq_true hci]; rfl
  unfold removeConcept
  simp only [h1, Bool.false_eq_true, if_false, Nat.not_lt.mpr hin.len,
    ListAux.getElem?_eq_some_getD [] (hsupD.1.symm ▸ hci), ListAux.getElem?_eq_some_getD [] (hsubD.1.symm ▸ hci), hin.tb,
    et, eb, ec1, ec2, er1, er2]
  refine ⟨_, rfl, ?_, ?_, decrement t2 ci, decrement b2 ci, rfl, ?_, rfl, ?_⟩
  · rw [isCoverDict_iff hnd', ltAt_eraseIdx, hlen']; exact hsub
  · rw [isUpperCoverDict_iff hnd', ltAt_eraseIdx, hlen']; exact hsup
  · rw [isTop_iff hnd', ltAt_eraseIdx, hlen']; exact ht2
  · rw [isBottom_iff hnd', ltAt_eraseIdx, hlen']; exact hb2

example : RemInput [[0, 1], [], [1]] 2 ⟨[[2], [], [1]], [[], [2], [0]], some 0, none⟩ 0 1 where
  nodup := by decide +kernel
  len := by decide +kernel
  ciLt := by decide +kernel
  sub := isCoverDict_of_eq (by decide +kernel)
  sup := isUpperCoverDict_of_eq (by decide +kernel)
  top := isTop_of_B (by decide +kernel)
  bot := isBottom_of_B (by decide +kernel)
  rtop := Or.inr rfl
  rbot := Or.inl rfl
  top' := ⟨0, isTop_of_B (by decide +kernel)⟩
  bot' := ⟨1, isBottom_of_B (by decide +kernel)⟩

/-- removing the top itself (its only child becomes the top) is within the hypotheses -/
example : RemInput [[0, 1], [], [1]] 0 ⟨[[2], [], [1]], [[], [2], [0]], none, some 1⟩ 0 1 where
  nodup := by decide +kernel
  len := by decide +kernel
  ciLt := by decide +kernel
  sub := isCoverDict_of_eq (by decide +kernel)
  sup := isUpperCoverDict_of_eq (by decide +kernel)
  top := isTop_of_B (by decide +kernel)
  bot := isBottom_of_B (by decide +kernel)
  rtop := Or.inl rfl
  rbot := Or.inr rfl
  top' := ⟨1, isTop_of_B (by decide +kernel)⟩
  bot' := ⟨0, isBottom_of_B (by decide +kernel)⟩

/-- **Pruned lists** (DESIGN's H8, size-gated code paths: the statement holds for lists of every size, with every
    kind of extent).  Take any list that meets the hypotheses of the spanning-tree theorems and keep an arbitrary
    sub-list of it that still contains the greatest concept (Sofia / random-forest style pruning, a filter on a
    measure, 20 concepts dropped out of 1024, …): the sub-list meets the hypotheses again, so
    `construct_lattice_by_spanning_tree` (every `n_jobs ≥ 1`, every schedule, both flags) and
    `complete_comparison` return exactly the cover relation OF THE SUB-LIST.  Nothing like closure under
    intersection is assumed anywhere (the example below is a sub-list that is not closed): a routine that is only
    right on complete concept sets — `order_extents_comparison` — is not a substitute, at any size. -/
theorem pruned_list_covers (cs cs' : List Ext) (top : Nat) (isSorted : Bool)
    (hin : TreeInput cs top isSorted) (hsub : cs'.Sublist cs) (hkeep : cs.getD top [] ∈ cs')
    (ord : List Nat → List Nat) (hord : OrdOK ord) (nJobs : Nat) (hjobs : 1 ≤ nJobs)
    (sched : Nat → Nat → List Nat → List Nat) (hsched : SchedOK sched) :
    (∃ out, bySpanningTreeC cs' isSorted nJobs ord sched = .ok out ∧ IsCoverDict cs' out) ∧
    IsCoverDict cs' (completeComparisonC cs' isSorted nJobs ord) := by
  obtain ⟨top', hin'⟩ := hin.sublist hsub hkeep
  exact ⟨bySpanningTree_C cs' top' isSorted hin' ord hord nJobs hjobs sched (.inr hsched),
    completeComparisonC_covers hin'.nodup hin'.sorted nJobs hord⟩

/-- the hypotheses are met by a complete lattice (all subsets of three objects, sorted) and a pruned sub-list of
    it that is NOT closed under intersection: `{0,1} ∩ {1,2} = {1}` was dropped -/
example :
    TreeInput [[0, 1, 2], [0, 1], [0, 2], [1, 2], [0], [1], [2], []] 0 true ∧
    [[0, 1, 2], [0, 1], [1, 2], [0], []].Sublist [[0, 1, 2], [0, 1], [0, 2], [1, 2], [0], [1], [2], []] ∧
    ([[0, 1, 2], [0, 1], [0, 2], [1, 2], [0], [1], [2], []] : List Ext).getD 0 [] ∈
      ([[0, 1, 2], [0, 1], [1, 2], [0], []] : List Ext) ∧
    interClosedB [[0, 1, 2], [0, 1], [0, 2], [1, 2], [0], [1], [2], []] = true ∧
    interClosedB [[0, 1, 2], [0, 1], [1, 2], [0], []] = false :=
  ⟨⟨by decide +kernel, isTop_of_B (by decide +kernel), fun _ => topoSorted_of_B (by decide +kernel)⟩,
    by decide +kernel, by decide +kernel, by decide +kernel, by decide +kernel⟩

/-- **Extents count as sets.**  Two listings of the same concepts that differ only in the ORDER in which each concept
    lists its objects (`extent_i` ascending, descending, shuffled — `SameExtents`) get the same cover relation from
    the spanning-tree routine and from `complete_comparison`, for any two job counts, set-iteration orders and
    schedules.  Object indexes are natural numbers of any size in all C12 theorems: there is no word size, object
    64 or 128 is an object like any other (second example below). -/
theorem result_depends_on_extents_as_sets (cs cs' : List Ext) (top : Nat) (isSorted : Bool)
    (hin : TreeInput cs top isSorted) (hsame : SameExtents cs cs') (hnd' : ExtsNodup cs')
    (ord ord' : List Nat → List Nat) (hord : OrdOK ord) (hord' : OrdOK ord')
    (nJobs nJobs' : Nat) (hj : 1 ≤ nJobs) (hj' : 1 ≤ nJobs')
    (sched sched' : Nat → Nat → List Nat → List Nat) (hs : SchedOK sched) (hs' : SchedOK sched') :
    (∃ out out', bySpanningTreeC cs isSorted nJobs ord sched = .ok out ∧
        bySpanningTreeC cs' isSorted nJobs' ord' sched' = .ok out' ∧
        ∀ i, i < cs.length → SameSetC (out.getD i []) (out'.getD i [])) ∧
    ∀ i, i < cs.length → SameSetC ((completeComparisonC cs isSorted nJobs ord).getD i [])
      ((completeComparisonC cs' isSorted nJobs' ord').getD i []) := by
  have hin' : TreeInput cs' top isSorted :=
    ⟨hnd', isTop_sameExtents hsame hin.top, fun h => topoSorted_sameExtents hsame (hin.sorted h)⟩
  obtain ⟨out, e, c⟩ := bySpanningTree_C cs top isSorted hin ord hord nJobs hj sched (.inr hs)
  obtain ⟨out', e', c'⟩ := bySpanningTree_C cs' top isSorted hin' ord' hord' nJobs' hj' sched' (.inr hs')
  have c'' := isCoverDict_sameExtents hsame c'
  have d := completeComparisonC_covers hin.nodup hin.sorted nJobs hord
  have d' := isCoverDict_sameExtents hsame (completeComparisonC_covers hnd' hin'.sorted nJobs' hord')
  refine ⟨⟨out, out', e, e', fun i hi x => ?_⟩, fun i hi x => ?_⟩
  · rw [(c.2 i hi).2 x, (c''.2 i hi).2 x]
  · rw [(d.2 i hi).2 x, (d'.2 i hi).2 x]

/-- the same concepts with the objects listed in another order, object indexes beyond any machine word -/
example : SameExtents [[0, 1, 2, 64, 200], [0, 64], [0, 1, 2], [0], []] [[200, 2, 64, 0, 1], [64, 0], [2, 0, 1], [0], []] ∧
    ExtsNodup [[200, 2, 64, 0, 1], [64, 0], [2, 0, 1], [0], []] ∧
    TreeInput [[0, 1, 2, 64, 200], [0, 64], [0, 1, 2], [0], []] 0 false :=
  ⟨⟨rfl, fun i => by
      match i with
      | 0 | 1 | 2 | 3 | 4 => exact fun x => List.Perm.mem_iff (by decide +kernel)
      | _ + 5 => exact fun x => Iff.rfl⟩,
    by decide +kernel, ⟨by decide +kernel, isTop_of_B (by decide +kernel), by intro h; cases h⟩⟩

/-- object 64 decides: `{0, 64}` is not below `{0, 1, 2}` (it would be if the object were dropped), and `{0}` is the
    only lower cover of either -/
example : Spec.coversDict [[0, 1, 2, 64, 200], [0, 64], [0, 1, 2], [0], []] = [[1, 2], [3], [3], [4], []] := by decide +kernel

/-- **The driver's oracle is the specification.**  The bit-set evaluation used by the driver (extents packed into
    unbounded `Nat` bit sets, the strict-inclusion relation tabulated as bit rows, "row minus the union of the rows
    of its members") returns EXACTLY the lists `Spec.coversDict` / `Spec.upperCoversDict` define, and the same
    greatest / least index, for every list of extents — 1000-concept lists are judged by the specification itself. -/
theorem fast_oracle_exact (cs : List Ext) :
    Spec.Fast.coversDictFast cs = Spec.coversDict cs ∧
    Spec.Fast.upperCoversDictFast cs = Spec.upperCoversDict cs ∧
    Spec.Fast.topFast cs = (List.range cs.length).find? (Spec.isTopB cs) ∧
    Spec.Fast.bottomFast cs = (List.range cs.length).find? (Spec.isBottomB cs) := by
  refine ⟨?_, ?_, ?_, ?_⟩
  · unfold Fast.coversDictFast coversDict covers
    rw [Fast.coversTable_eq, Fast.ssubAtM_masksOf]
  · unfold Fast.upperCoversDictFast upperCoversDict upperCoversC
    rw [Fast.coversTable_eq, Fast.ssubAtM_masksOf]
    exact congrArg (List.map · _) (coversBy_flip (lt := ssubAt cs))
  · show List.find? (Fast.isTopFast cs.length (Fast.masksOf cs)) _ = _
    rw [Fast.isTopFast_eq]
  · show List.find? (Fast.isBottomFast cs.length (Fast.masksOf cs)) _ = _
    rw [Fast.isBottomFast_eq]

example : Spec.Fast.coversDictFast [[0, 1, 2, 64, 200], [0, 64], [0, 1, 2], [0], []] = [[1, 2], [3], [3], [4], []] := by
  decide +kernel

/-- **The driver's model runs are the models.**  The driver evaluates the generic models at the tabulated concept
    comparison `ltAtFast cs` (supports and packed extents looked up in arrays); that comparison IS `ltAt cs`
    (`concepts[i] < concepts[j]` with its two support shortcuts) for every list, so the three entry points
    coincide with the ones the theorems above are about. -/
theorem models_at_fast_lt (cs : List Ext) :
    ltAtFast cs = ltAt cs ∧ completeComparisonF cs = completeComparisonC cs ∧
    spanningTreeF cs = spanningTreeC cs ∧ bySpanningTreeF cs = bySpanningTreeC cs := by
  have h : ltTab (Fast.masksOf cs) (lensOf cs) = ltAt cs := ltAtFast_eq cs
  unfold completeComparisonF spanningTreeF bySpanningTreeF completeComparisonC spanningTreeC bySpanningTreeC
  simp only [h, and_true]
  exact h

/-- the code-shaped model returns the very value the specification-level model is handed by contract -/
theorem order_extents_comparison_code_eq_contract (cs : List Ext)
    (hr : Casp.inRangeB cs = true) (hd : Casp.distinctSetsB cs = true) (hc : Casp.interClosedB cs = true) :
    ∃ idToTopo, idToTopo.Perm (List.range cs.length) ∧
      Casp.orderExtentsComparisonCode cs =
        .ok (orderExtentsComparison cs.length idToTopo (Spec.covers (topoList cs idToTopo))) := by
  obtain ⟨p, hp, e⟩ := Casp.orderExtentsComparisonCode_eq cs hr hd hc
  exact ⟨p, hp.perm, e⟩

/-- `order_extents_comparison(concepts)` — code-shaped model incl. the caspailleur routines — returns a
    dictionary whose keys are all indexes (each once) and whose value at `i` is exactly the set of lower
    covers of `cs[i]` within `cs` under extent inclusion: the statement of `order_extents_covers` with the
    permutation and the cover function COMPUTED instead of taken by contract.  FULL on duplicate-free
    intersection-closed families whose indexes fit `n_objects`. -/
theorem order_extents_comparison_code_exact (cs : List Ext)
    (hr : Casp.inRangeB cs = true) (hd : Casp.distinctSetsB cs = true) (hc : Casp.interClosedB cs = true) :
    ∃ d, Casp.orderExtentsComparisonCode cs = .ok d ∧
      (d.map (·.1)).Perm (List.range cs.length) ∧
      ∀ i, i < cs.length → (dictGet d i).Nodup ∧ SameSetC (dictGet d i) (Spec.covers cs i) := by
  obtain ⟨p, hp, e⟩ := order_extents_comparison_code_eq_contract cs hr hd hc
  exact ⟨_, e, order_extents_covers cs p hp⟩

/-- `sort_intents_inclusion(intents, return_transitive_order=True)` on a non-empty list of equal-length
    bitarrays that is duplicate-free, passes `check_topologically_sorted` and is closed under `&`:
    `lattice[i]` = the upper covers of `i` (smallest strict supersets), `trans_lattice[i]` = all strict
    supersets. -/
theorem sort_intents_inclusion_covers (intents : List Casp.Bits) (nA : Nat) (hne : intents ≠ [])
    (hu : Casp.Uniform intents nA) (hnd : intents.Nodup)
    (hs : Casp.checkTopologicallySorted true intents = true) (hc : Casp.Closed intents) :
    ∃ lattice trans, Casp.sortIntentsInclusion intents = .ok (lattice, trans) ∧
      lattice.length = intents.length ∧ trans.length = intents.length ∧
      ∀ i, i < intents.length → ∀ j,
        (Casp.bit (lattice.getD i []) j = true ↔
          (j < intents.length ∧ Casp.UpperCover intents.length (Casp.hasOf intents) i j)) ∧
        (Casp.bit (trans.getD i []) j = true ↔
          (j < intents.length ∧ Casp.SSub (Casp.hasOf intents) i j)) := by
  obtain ⟨st, e, inv⟩ := Casp.sortIntentsInclusion_spec hne hu hs (Casp.fam_of_list hu hnd hs hc)
  exact ⟨st.1, st.2, e, inv.shape1.1, inv.shape2.1, fun i hi j =>
    ⟨inv.lat i (Nat.zero_le _) hi j, inv.trans i (Nat.zero_le _) hi j⟩⟩

/-- `inverse_order` on an `n × n` table is the relation transpose: `new_order[j][i] = order[i][j]` -/
theorem inverse_order_transpose (order : List Casp.Bits) (n : Nat) (hs : Casp.Shape order n n) :
    ∃ inv, Casp.inverseOrder order = .ok inv ∧ Casp.Shape inv n n ∧
      ∀ i j, Casp.bit (inv.getD j []) i = true ↔ Casp.bit (order.getD i []) j = true :=
  Casp.inverseOrder_spec hs

/-- `topological_sorting(elements)`: the sorted list is a permutation of the input that passes
    `check_topologically_sorted`; on duplicate-free input the index map is a permutation of `range n`
    sending every position to the position of its element in the sorted list. -/
theorem topological_sorting_sorted (els : List Casp.Bits) (hnd : els.Nodup) :
    ∃ srt m, Casp.topologicalSorting els true = .ok (srt, m) ∧ srt.Perm els ∧
      Casp.checkTopologicallySorted true srt = true ∧ m.Perm (List.range els.length) ∧
      m = els.map srt.idxOf :=
  ⟨_, _, Casp.topologicalSorting_nodup hnd true, Casp.stableSort_perm true els, Casp.stableSort_check els,
    ListAux.map_idxOf_perm_range (Casp.stableSort_perm true els) hnd, rfl⟩

/-- the hypotheses of `order_extents_comparison_code_exact` hold on the Boolean lattice `2^3` (scrambled listing) -/
example : Casp.inRangeB [[0], [0, 1, 2], [], [1, 2], [0, 1], [2], [1], [0, 2]] = true ∧
    Casp.distinctSetsB [[0], [0, 1, 2], [], [1, 2], [0, 1], [2], [1], [0, 2]] = true ∧
    Casp.interClosedB [[0], [0, 1, 2], [], [1, 2], [0, 1], [2], [1], [0, 2]] = true := by decide +kernel

example : Casp.orderExtentsComparisonCode [[0], [0, 1, 2], [], [1, 2], [0, 1], [2], [1], [0, 2]] =
    .ok [(2, []), (0, [2]), (6, [2]), (5, [2]), (4, [0, 6]), (7, [0, 5]), (3, [6, 5]), (1, [4, 7, 3])] := by
  decide +kernel

/-- `N5`: `∅ ⊂ {0} ⊂ {0,1} ⊂ {0,1,2}` and `∅ ⊂ {2} ⊂ {0,1,2}` -/
example : Casp.inRangeB [[0, 1, 2], [0, 1], [2], [0], []] = true ∧
    Casp.distinctSetsB [[0, 1, 2], [0, 1], [2], [0], []] = true ∧
    Casp.interClosedB [[0, 1, 2], [0, 1], [2], [0], []] = true := by decide +kernel

example : Casp.orderExtentsComparisonCode [[0, 1, 2], [0, 1], [2], [0], []] =
    .ok [(4, []), (3, [4]), (2, [4]), (1, [3]), (0, [2, 1])] := by decide +kernel

/-- **why the family must be intersection-closed**: `{0,1} ∩ {0,2} = {0}` is missing from this list; while
    `∅` (index 4) is processed, every element of `{1,2}` (index 3) is first found in an earlier-listed
    superset of `∅` (`1` in `{0,1}`, `2` in `{0,2}`), so `{1,2}` is never recorded as an upper neighbour of
    `∅`: the routine answers "`{1,2}` has no lower neighbour" although `∅` is one. -/
theorem not_closed_witness :
    Casp.interClosedB [[0, 1, 2], [0, 1], [0, 2], [1, 2], []] = false ∧
    Casp.inRangeB [[0, 1, 2], [0, 1], [0, 2], [1, 2], []] = true ∧
    Casp.distinctSetsB [[0, 1, 2], [0, 1], [0, 2], [1, 2], []] = true ∧
    Casp.orderExtentsComparisonCode [[0, 1, 2], [0, 1], [0, 2], [1, 2], []] =
      .ok [(4, []), (1, [4]), (2, [4]), (3, []), (0, [1, 2, 3])] ∧
    Spec.covers [[0, 1, 2], [0, 1], [0, 2], [1, 2], []] 3 = [4] := by decide +kernel

/-- the two other hypotheses are needed as well: a repeated extent ends in `KeyError` (the `{el: i}`
    dictionary of `topological_sorting` collapses the two copies, `topo_to_id_map` misses a position), an
    index `≥ max(len(extent))` in `IndexError` (`isets2bas`) -/
theorem duplicate_and_range_witness :
    Casp.orderExtentsComparisonCode [[0, 1], [0], [0], []] = .error .KeyError ∧
    Casp.orderExtentsComparisonCode [[2], []] = .error .IndexError ∧
    Casp.orderExtentsComparisonCode [] = .error .ValueError := by decide +kernel

end Fca.C12
