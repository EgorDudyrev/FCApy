/-
  Property C05 — all binary-table backends are observationally interchangeable.

  `run b op t` is the code-shaped model of operation `op` on backend `b`
  (`Fca/Model/BinTable.lean`, `Fca/Model/BinTableOps.lean`); `Spec.Table.run op t` is what the
  operation means, said once in terms of the cells.  Scope (`Op.Valid`, `COp.Valid`): in-range
  integer indexes and index lists, slices with a non-zero step (negative start/stop/step allowed),
  duplicate-free column lists for `sum`, a well-formed second operand for `& | ==`.  No lower
  bound on the size: the 0×0 table (what an empty row selection returns) and h×0 tables are
  covered — every backend, numpy included (`np.zeros((0, 0))`), answers on them as on any other.
-/
import Fca.Model.BinTableOps
import Fca.Spec.Table
import Fca.Lemmas.BinTableOps
import Fca.Gen.EquivOps
namespace Fca.C05
open Fca.Spec.Table

/-- On every well-formed table, every backend's result of every operation in
    scope — shape, `to_list`, every `table[item]` shape (integer, slice, index list, pairs of
    those), `all/any/sum` overall and per axis with optional row / column selections (and
    `UnknownAxisError` for any other axis), `all_i/any_i`, `T`, `&`, `|`, `~`, `==` (any pair of
    backends, any shapes), conversion to any backend — is the specification value. -/
theorem backend_run_eq_spec (b : Backend) (op : Op) (t : Table) (hwf : t.WF) (hv : op.Valid t) :
    run b op t = Spec.Table.run op t := by
  cases op with
  | shape => rfl
  | toList => exact congrArg Res.rows (toList_spec t hwf b)
  | getitem it => exact run_getitem t hwf b it hv
  | all ax rows cols => exact run_all t hwf b rows cols hv.1 hv.2 ax
  | any ax rows cols => exact run_any t hwf b rows cols hv.1 hv.2 ax
  | sum ax rows cols => exact run_sum t hwf b rows cols hv.1 hv.2.1 ax hv.2.2
  | allI ax rows cols => exact allIRes_spec t hwf b rows cols hv.1 hv.2 ax
  | anyI ax rows cols => exact anyIRes_spec t hwf b rows cols hv.1 hv.2 ax
  | transpose => exact run_transpose b t
  | and o => exact run_and t hwf b o hv
  | or o => exact run_or t hwf b o hv
  | invert => exact run_invert t hwf b
  | eq b' o => exact congrArg Res.bool (tableEq_spec t hwf b b' o hv)
  | convert dst => exact congrArg Res.rows (convert_spec t hwf b dst)

/-- any two backends give the same answer to every operation -/
theorem backends_agree (b b' : Backend) (op : Op) (t : Table) (hwf : t.WF) (hv : op.Valid t) :
    run b op t = run b' op t := by
  rw [backend_run_eq_spec b op t hwf hv, backend_run_eq_spec b' op t hwf hv]

/-- converting a table from one backend to another (`init_bintable`) preserves its content -/
theorem conversion_preserves (src dst : Backend) (t : Table) (hwf : t.WF) :
    toList dst (convert src dst t) = toList src t := by
  rw [convert_spec t hwf src dst, toList_spec t hwf src]

/-- conversion (`init_bintable`) preserves the shape (for a table with at least one row) and well-formedness -/
theorem conversion_preserves_shape (src dst : Backend) (t : Table) (hwf : t.WF) (hrow : t.height ≠ 0) :
    (convert src dst t).height = t.height ∧ (convert src dst t).width = t.width ∧ (convert src dst t).WF := by
  -- with a first row to read the width from, rebuilding a well-formed table from its rows gives it back
  rw [convert_eq, show Table.ofRows t.data = t from Table.ofRows_eq_mk (Nat.pos_of_ne_zero hrow) hwf, ite_self]
  exact ⟨rfl, rfl, hwf⟩

/-- an axis other than `None`, `0`, `1` raises `UnknownAxisError` on every backend,
    whatever the table and the selections -/
theorem unknown_axis_error (b : Backend) (t : Table) (a : Int) (rows cols : Option (List Nat))
    (ha0 : a ≠ 0) (ha1 : a ≠ 1) :
    run b (.all (some a) rows cols) t = .err .UnknownAxisError ∧
    run b (.any (some a) rows cols) t = .err .UnknownAxisError ∧
    run b (.sum (some a) rows cols) t = .err .UnknownAxisError ∧
    run b (.allI a rows cols) t = .err .UnknownAxisError ∧
    run b (.anyI a rows cols) t = .err .UnknownAxisError := by
  cases b <;>
    simp [run, L.all, L.any, L.sum, B.all, B.any, B.sum, N.all, N.any, N.sum, axisDispatch, allIRes, anyIRes,
      ha0, ha1]

/-- a slice always selects valid positions, so slice selections need no range hypothesis -/
theorem slice_selection_in_range (a b c : Option Int) (len : Nat) :
    ∀ x ∈ sliceIndices a b c len, x < len := sliceIndices_lt a b c len

/-- sub-tables keep every row at one width, so the operations can be iterated on their results -/
theorem subtable_wf (b : Backend) (t : Table) (hwf : t.WF) (it : Item) (hv : it.Valid t)
    (t' : Table) (hres : run b (.getitem it) t = .table t') : t'.WF := by
  rw [run_getitem t hwf b it hv] at hres
  -- only `table[sel]` and `table[sel, sel]` answer with a table, and that table is a `sub`
  rcases it with ⟨i | s⟩ | ⟨i | rs, j | cs⟩ <;> cases hres <;> exact sub_wf t _ _

/-- `FormalContext.__getitem__` (every item: two integers give the cell; one
    integer with a selection, a lone integer or selection, or two selections give the sub-context),
    `.T`, `~` (with the `'not '` name toggle) and `==` give the same backend-free observation
    whichever backend the context was created with, and a resulting context keeps that backend. -/
theorem context_ops_backend_independent (K : Ctx) (hwf : K.table.WF)
    (hobj : K.objNames.length = K.nObjects) (hattr : K.attrNames.length = K.nAttributes)
    (op : COp) (hv : op.Valid K.table) :
    obs (K.runC op) = Spec.Table.runC K.table K.objNames K.attrNames op ∧
    (∀ K', K.runC op = .ctx K' → K'.backend = K.backend) := by
  match op, hv with
  | .getitem (.two (.int i) (.int j)), hv =>
    have hr := run_getitem K.table hwf K.backend (.two (.int i) (.int j)) hv
    simp only [Ctx.runC, Ctx.getitem, Key.isInt, bne_self_eq_false, Bool.false_eq_true, if_false, hr,
      Spec.Table.getitem, Spec.Table.runC, obs]
    exact ⟨trivial, fun K' hk => by cases hk⟩
  | .getitem (.two (.int i) (.sel cs)), hv =>
    exact K.runC_of_mkCtx _ (K.getitem_sub hwf hobj hattr _ _ hv.1 hv.2 rfl)
  | .getitem (.two (.sel rs) (.int j)), hv =>
    exact K.runC_of_mkCtx _ (K.getitem_sub hwf hobj hattr _ _ hv.1 hv.2 rfl)
  | .getitem (.two (.sel rs) (.sel cs)), hv =>
    exact K.runC_of_mkCtx _ (K.getitem_sub hwf hobj hattr _ _ hv.1 hv.2 rfl)
  | .getitem (.one r), hv =>
    -- `K[r]` is `K[r, 0:n_attributes]`, and that slice selects every attribute
    have h1 := K.getitem_sub hwf hobj hattr r (.sel (.slice (some 0) (some (K.nAttributes : Int)) none)) hv
      (by simp [Key.Valid, Sel.Valid]) (by simp [Key.isInt])
    rw [show keyIdx (.sel (.slice (some 0) (some (K.nAttributes : Int)) none)) K.table.width = allCols K.table from
      sliceIndices_full K.table.width] at h1
    exact K.runC_of_mkCtx _ h1
  | .transpose, _ => exact K.runC_of_mkCtx _ K.transposeC_eq
  | .invert, _ => exact K.runC_of_mkCtx _ (K.invertC_eq hwf)
  | .eq K2, hv =>
    simp only [Ctx.runC, Ctx.eqC, Spec.Table.runC, tableEq_spec K.table hwf K.backend K2.backend K2.table hv,
      apply_ite obs]
    refine ⟨rfl, fun K' hk => ?_⟩
    by_cases h1 : K.objNames ≠ K2.objNames
    · rw [if_pos h1] at hk; cases hk
    · by_cases h2 : K.attrNames ≠ K2.attrNames
      · rw [if_neg h1, if_pos h2] at hk; cases hk
      · rw [if_neg h1, if_neg h2] at hk; cases hk

/-- hence two contexts that differ only in the backend are observationally the same -/
theorem contexts_of_two_backends_agree (b b' : Backend) (t : Table) (objs attrs : List String) (hwf : t.WF)
    (hobj : objs.length = t.height) (hattr : attrs.length = t.width) (op : COp) (hv : op.Valid t) :
    obs ((⟨b, t, objs, attrs⟩ : Ctx).runC op) = obs ((⟨b', t, objs, attrs⟩ : Ctx).runC op) := by
  rw [(context_ops_backend_independent ⟨b, t, objs, attrs⟩ hwf hobj hattr op hv).1,
    (context_ops_backend_independent ⟨b', t, objs, attrs⟩ hwf hobj hattr op hv).1]

/-- `K[i, cols]`, `K[rows, j]`, `K[i]` (exactly one integer) are the one-row / one-column
    sub-contexts: the same as selecting with the one-element list, on every backend. -/
theorem context_getitem_one_integer (K : Ctx) (hwf : K.table.WF)
    (hobj : K.objNames.length = K.nObjects) (hattr : K.attrNames.length = K.nAttributes)
    (i : Nat) (s : Sel) :
    (i < K.table.height → s.Valid K.table.width →
      obs (K.runC (.getitem (.two (.int i) (.sel s))))
        = obs (K.runC (.getitem (.two (.sel (.idx [i])) (.sel s))))) ∧
    (i < K.table.width → s.Valid K.table.height →
      obs (K.runC (.getitem (.two (.sel s) (.int i))))
        = obs (K.runC (.getitem (.two (.sel s) (.sel (.idx [i])))))) ∧
    (i < K.table.height →
      obs (K.runC (.getitem (.one (.int i)))) = obs (K.runC (.getitem (.one (.sel (.idx [i])))))) := by
  have one : ∀ n, i < n → (Sel.idx [i]).Valid n := by
    intro n h x hx; simp at hx; subst hx; exact h
  have same : ∀ op op' : COp, op.Valid K.table → op'.Valid K.table →
      Spec.Table.runC K.table K.objNames K.attrNames op = Spec.Table.runC K.table K.objNames K.attrNames op' →
      obs (K.runC op) = obs (K.runC op') := fun op op' v v' e => by
    rw [(context_ops_backend_independent K hwf hobj hattr op v).1,
      (context_ops_backend_independent K hwf hobj hattr op' v').1, e]
  exact ⟨fun hi hs => same _ _ ⟨hi, hs⟩ ⟨one _ hi, hs⟩ rfl, fun hi hs => same _ _ ⟨hs, hi⟩ ⟨hs, one _ hi⟩ rfl,
    fun hi => same _ _ hi (one _ hi) rfl⟩

private def exT : Table := ⟨[[true, false, true], [false, true, true]], 3⟩

/-- the hypotheses are met by concrete, non-trivial inputs -/
example : exT.WF ∧
    (Op.getitem (.two (.sel (.idx [1, 0])) (.sel (.slice none none (some (-1)))))).Valid exT ∧
    run .numpy (.getitem (.two (.sel (.idx [1, 0])) (.sel (.slice none none (some (-1)))))) exT
      = .table ⟨[[true, true, false], [true, false, true]], 3⟩ := by
  have hrows : ∀ x ∈ [1, 0], x < 2 := by decide +kernel
  exact ⟨by decide +kernel, ⟨hrows, by intro h; cases h⟩, by decide +kernel⟩

example : (Op.sum (some 0) (some [1]) (some [2, 0])).Valid exT ∧
    run .bitarray (.sum (some 0) (some [1]) (some [2, 0])) exT = .nats [1, 0] := by
  have hrows : ∀ x ∈ [1], x < 2 := by decide +kernel
  have hcols : ∀ x ∈ [2, 0], x < 3 := by decide +kernel
  have hnd : [2, 0].Nodup := by decide +kernel
  exact ⟨⟨OptIdx.valid_some hrows, OptIdx.valid_some hcols, fun xs h => by cases h; exact hnd⟩, by decide +kernel⟩

example : (COp.getitem (.one (.sel (.slice (some 1) none none)))).Valid exT ∧
    obs ((⟨.lists, exT, ["g0", "g1"], ["a", "not b", "c"]⟩ : Ctx).runC (.getitem (.one (.sel (.slice (some 1) none none)))))
      = .ctx ⟨[[false, true, true]], 3⟩ ["g1"] ["a", "not b", "c"] := by
  exact ⟨(by intro h; cases h), by decide +kernel⟩

/-- the 0×0 table is in scope -/
example : (⟨[], 0⟩ : Table).WF ∧ (Op.all none none none).Valid ⟨[], 0⟩ ∧
    run .numpy (.all none none none) ⟨[], 0⟩ = .bool true ∧ run .numpy .transpose ⟨[], 0⟩ = .table ⟨[], 0⟩ := by
  refine ⟨by decide +kernel, ⟨?_, ?_⟩, by decide +kernel, by decide +kernel⟩ <;> (intro xs h; cases h)

example : (COp.getitem (.two (.int 1) (.sel (.idx [2, 0])))).Valid exT ∧
    obs ((⟨.numpy, exT, ["g0", "g1"], ["a", "not b", "c"]⟩ : Ctx).runC (.getitem (.two (.int 1) (.sel (.idx [2, 0])))))
      = .ctx ⟨[[true, false]], 2⟩ ["g1"] ["c", "a"] := by
  have hcols : ∀ x ∈ [2, 0], x < 3 := by decide +kernel
  exact ⟨⟨by show (1 : Nat) < 2; decide +kernel, hcols⟩, by decide +kernel⟩

/-- A table object that lives through any sequence of operations and `bt.data = ...`
    assignments answers every operation with the specification value for the content it holds at
    that moment — on every backend: no answer depends on what was asked or held before. -/
theorem histories_backend_independent (b : Backend) (t : Table) (steps : List Step) (hwf : t.WF)
    (hv : HistValid t steps) :
    runHist b t steps = Spec.Table.runHist t steps := by
  induction steps generalizing t with
  | nil => rfl
  | cons st rest ih =>
    cases st with
    | query op =>
      simp only [runHist, Spec.Table.runHist]
      rw [backend_run_eq_spec b op t hwf hv.1, ih t hwf hv.2]
    | setData rows =>
      simp only [runHist, Spec.Table.runHist, setData_eq]
      exact ih _ (Table.ofRows_wf hv.1) hv.2

/-- hence the same history gives the same answers on any two backends -/
theorem histories_agree (b b' : Backend) (t : Table) (steps : List Step) (hwf : t.WF) (hv : HistValid t steps) :
    runHist b t steps = runHist b' t steps := by
  rw [histories_backend_independent b t steps hwf hv, histories_backend_independent b' t steps hwf hv]

/-- the same for a context through `ctx.data.data = ...`, `ctx.object_names = ...`,
    `ctx.attribute_names = ...` -/
theorem context_histories_backend_independent (K : Ctx) (steps : List CStep) (hwf : K.table.WF)
    (hobj : K.objNames.length = K.nObjects) (hattr : K.attrNames.length = K.nAttributes)
    (hv : CHistValid K.table steps) :
    (K.runHist steps).map obs = Spec.Table.runHistC K.table K.objNames K.attrNames steps := by
  induction steps generalizing K with
  | nil => rfl
  | cons st rest ih =>
    cases st with
    | query op =>
      simp only [Ctx.runHist, Spec.Table.runHistC, List.map_cons]
      rw [(context_ops_backend_independent K hwf hobj hattr op hv.1).1, ih K hwf hobj hattr hv.2]
    | setData rows =>
      simp only [Ctx.runHist, Spec.Table.runHistC, setData_eq]
      obtain ⟨hrect, hh, hw, hrest⟩ := hv
      exact ih { K with table := Table.ofRows rows } (Table.ofRows_wf hrect)
        (hobj.trans hh.symm) (hattr.trans hw.symm) hrest
    | setObjNames ns =>
      exact ih { K with objNames := ns } hwf hv.1 hattr hv.2
    | setAttrNames ns =>
      exact ih { K with attrNames := ns } hwf hobj hv.1 hv.2

example : HistValid exT [.query .transpose, .setData [[false, true]], .query .transpose, .query (.getitem (.one (.int 0)))] ∧
    runHist .lists exT [.query .transpose, .setData [[false, true]], .query .transpose, .query (.getitem (.one (.int 0)))]
      = [.table ⟨[[true, false], [false, true], [true, true]], 2⟩, .table ⟨[[false], [true]], 1⟩, .bools [false, true]] := by
  have hrect : ∀ r ∈ [[false, true]], r.length = 2 := by decide +kernel
  exact ⟨⟨trivial, hrect, trivial, by show (0 : Nat) < 1; decide +kernel, trivial⟩, by decide +kernel⟩

/-! ### the same statements for the definitions GENERATED from the Python source

  `Fca.Gen.Lists.*` (`Fca/Gen/Generated.lean`) is what `harness/py2lean.py` makes of the source of
  `BinTableLists`; `Fca/Gen/Equiv.lean` and `Fca/Gen/EquivOps.lean` prove each of them equal to the hand-written model,
  so the specification value is reached by the source-derived definition itself (in `Except PyErr`: on in-range
  arguments no `IndexError`). -/

section
variable (t : Table) (hwf : t.WF) (rows cols : Option (List Nat))
  (hr : OptIdx.Valid rows t.height) (hc : OptIdx.Valid cols t.width)
include hwf hr hc

theorem gen_lists_all_spec : Gen.Lists.allAll t rows cols
    = .ok (Spec.Table.all t (rows.getD (allRows t)) (cols.getD (allCols t))) := by
  rw [Gen.Lists.allAll_eq_model t hwf rows cols hr hc, L.allAll_spec t hwf rows cols hr]

theorem gen_lists_any_spec : Gen.Lists.anyAny t rows cols
    = .ok (Spec.Table.any t (rows.getD (allRows t)) (cols.getD (allCols t))) := by
  rw [Gen.Lists.anyAny_eq_model t hwf rows cols hr hc, L.anyAny_spec t hwf rows cols hr]

theorem gen_lists_all_per_row_spec : Gen.Lists.allPerRow t rows cols
    = .ok (Spec.Table.allPerRow t (rows.getD (allRows t)) (cols.getD (allCols t))) :=
  (Gen.Lists.allPerRow_eq_model t hwf rows cols hr hc).trans (congrArg Except.ok (L.allPerRow_eq t hwf rows cols hr))

theorem gen_lists_any_per_row_spec : Gen.Lists.anyPerRow t rows cols
    = .ok (Spec.Table.anyPerRow t (rows.getD (allRows t)) (cols.getD (allCols t))) :=
  (Gen.Lists.anyPerRow_eq_model t hwf rows cols hr hc).trans (congrArg Except.ok (L.anyPerRow_eq t hwf rows cols hr))

theorem gen_lists_all_per_column_spec : Gen.Lists.allPerColumn t rows cols
    = .ok (Spec.Table.allPerColumn t (rows.getD (allRows t)) (cols.getD (allCols t))) :=
  (Gen.Lists.allPerColumn_eq_model t hwf rows cols hr hc).trans (congrArg Except.ok (L.allPerColumn_eq t rows cols))

theorem gen_lists_any_per_column_spec : Gen.Lists.anyPerColumn t rows cols
    = .ok (Spec.Table.anyPerColumn t (rows.getD (allRows t)) (cols.getD (allCols t))) :=
  (Gen.Lists.anyPerColumn_eq_model t hwf rows cols hr hc).trans (congrArg Except.ok (L.anyPerColumn_eq t rows cols))

theorem gen_lists_sum_per_row_spec : Gen.Lists.sumPerRow t rows cols
    = .ok (Spec.Table.sumPerRow t (rows.getD (allRows t)) (cols.getD (allCols t))) :=
  (Gen.Lists.sumPerRow_eq_model t hwf rows cols hr hc).trans (congrArg Except.ok (L.sumPerRow_eq t hwf rows cols hr))

theorem gen_lists_sum_per_column_spec : Gen.Lists.sumPerColumn t rows cols
    = .ok (Spec.Table.sumPerColumn t (rows.getD (allRows t)) (cols.getD (allCols t))) :=
  (Gen.Lists.sumPerColumn_eq_model t hwf rows cols hr hc).trans (congrArg Except.ok (L.sumPerColumn_eq t rows cols))

theorem gen_lists_sum_spec : Gen.Lists.sumAll t rows cols
    = .ok (Spec.Table.sum t (rows.getD (allRows t)) (cols.getD (allCols t))) := by
  rw [Gen.Lists.sumAll_eq_model t hwf rows cols hr hc, L.sumAll, L.sumPerRow_eq t hwf rows cols hr]; rfl

end

/-- `all_i(axis, rows, cols)` / `any_i(...)` of the lists backend for `axis = 0, 1` (`AbstractBinTable.all_i / any_i`
    specialised to the axis and to a `BinTableLists` receiver): the specification value of `Op.allI / Op.anyI` -/
theorem gen_lists_all_i_spec (t : Table) (hwf : t.WF) (rows cols : Option (List Nat))
    (hr : OptIdx.Valid rows t.height) (hc : OptIdx.Valid cols t.width) :
    Res.nats <$> Gen.Lists.allI0 t rows cols = .ok (Spec.Table.run (.allI 0 rows cols) t) ∧
    Res.nats <$> Gen.Lists.allI1 t rows cols = .ok (Spec.Table.run (.allI 1 rows cols) t) := by
  rw [Gen.Lists.allI0_eq_model t hwf rows cols hr hc, Gen.Lists.allI1_eq_model t hwf rows cols hr hc]
  exact ⟨congrArg Except.ok (allIRes_spec t hwf .lists rows cols hr hc 0),
    congrArg Except.ok (allIRes_spec t hwf .lists rows cols hr hc 1)⟩

theorem gen_lists_any_i_spec (t : Table) (hwf : t.WF) (rows cols : Option (List Nat))
    (hr : OptIdx.Valid rows t.height) (hc : OptIdx.Valid cols t.width) :
    Res.nats <$> Gen.Lists.anyI0 t rows cols = .ok (Spec.Table.run (.anyI 0 rows cols) t) ∧
    Res.nats <$> Gen.Lists.anyI1 t rows cols = .ok (Spec.Table.run (.anyI 1 rows cols) t) := by
  rw [Gen.Lists.anyI0_eq_model t hwf rows cols hr hc, Gen.Lists.anyI1_eq_model t hwf rows cols hr hc]
  exact ⟨congrArg Except.ok (anyIRes_spec t hwf .lists rows cols hr hc 0),
    congrArg Except.ok (anyIRes_spec t hwf .lists rows cols hr hc 1)⟩

/-- `_get_row(i, cols)` with `cols` an index list or `None` (slices are outside the translated subset) -/
theorem gen_lists_get_row_spec (t : Table) (hwf : t.WF) (i : Nat) (cols : Option (List Nat))
    (hi : i < t.height) (hc : OptIdx.Valid cols t.width) :
    Gen.Lists.getRow t i cols = .ok (rowSel t i (cols.getD (allCols t))) := by
  rw [Gen.Lists.getRow_eq_model t hwf i cols hi hc]
  cases cols with
  | none => exact congrArg Except.ok (Table.row_eq_map t hwf hi)
  | some cs => rfl

/-- `_get_column(rows, j)` with `rows` an index list -/
theorem gen_lists_get_column_spec (t : Table) (hwf : t.WF) (rs : List Nat) (j : Nat)
    (hrs : ∀ i ∈ rs, i < t.height) (hj : j < t.width) :
    Gen.Lists.getColumn t rs j = .ok (colSel t rs j) := by
  rw [Gen.Lists.getColumn_eq_model t hwf rs j hrs hj]
  rfl

/-- `&`, with its shape assertion -/
theorem gen_lists_and_spec (t : Table) (hwf : t.WF) (o : Table) (ho : o.WF) :
    exceptRes (Gen.Lists.band t o) = Spec.Table.run (.and o) t := by
  rw [Gen.Lists.band_eq_model]; exact run_and t hwf .lists o ho

/-- `|`, with its shape assertion -/
theorem gen_lists_or_spec (t : Table) (hwf : t.WF) (o : Table) (ho : o.WF) :
    exceptRes (Gen.Lists.bor t o) = Spec.Table.run (.or o) t := by
  rw [Gen.Lists.bor_eq_model]; exact run_or t hwf .lists o ho

theorem gen_lists_invert_spec (t : Table) (hwf : t.WF) :
    Gen.Lists.invert t = .ok (Spec.Table.invert t) := by
  rw [Gen.Lists.invert_eq_model]; exact congrArg Except.ok (Res.table.inj (run_invert t hwf .lists))

/-- the hypotheses are met, and the generated definition computes: a concrete run -/
example : Gen.Lists.allPerColumn ⟨[[true, false, true], [false, true, true]], 3⟩ (some [1, 0]) (some [2, 0])
    = .ok [true, false] := by rfl

/-! ### the rest of the lists backend's surface, for the definitions GENERATED from the Python source

  `_get_subtable`, `_get_item`, `T`, `to_list`, `==`, `len` and the `axis` dispatch of `all / any / sum` for
  `axis = None` (and of `sum` for `axis = 0, 1`), as `harness/py2lean.py` translates their source for a
  `BinTableLists` receiver (index lists; slices are outside the translated subset); `Fca/Gen/EquivOps.lean` proves
  them equal to the hand-written model, so the specification value is reached by the source-derived definition. -/

/-- `table[rows]` / `table[rows, cols]` with index lists: the sub-table of the selected cells -/
theorem gen_lists_get_subtable_spec (t : Table) (hwf : t.WF) (rs : List Nat) (cols : Option (List Nat))
    (hrs : ∀ i ∈ rs, i < t.height) (hc : OptIdx.Valid cols t.width) :
    Gen.Lists.getSubtable t rs cols = .ok (sub t rs (cols.getD (allCols t))) := by
  rw [Gen.Lists.getSubtable_eq_model t hwf rs cols hrs hc]
  cases cols with
  | none => exact congrArg Except.ok (ofRows_map_row t hwf (rs := .idx rs) hrs)
  | some cs => rfl

/-- `table[i, j]` -/
theorem gen_lists_get_item_spec (t : Table) (hwf : t.WF) (i j : Nat) (hi : i < t.height) (hj : j < t.width) :
    Gen.Lists.getItem t i j = .ok (t.get i j) := by
  rw [Gen.Lists.getItem_eq_model t hwf i j hi hj]
  rfl

/-- `T` -/
theorem gen_lists_transpose_spec (t : Table) (hwf : t.WF) :
    Gen.Lists.transpose t = .ok (Spec.Table.transpose t) := by
  rw [Gen.Lists.transpose_eq_model t hwf]
  rfl

/-- `to_list()` -/
theorem gen_lists_to_list_spec (t : Table) (hwf : t.WF) : Gen.Lists.toList t = .ok (Spec.Table.toList t) := by
  rw [Gen.Lists.toList_eq_model t]
  exact congrArg Except.ok (toList_spec t hwf .lists)

/-- `==` between two lists-backed tables: same shape and same cells -/
theorem gen_lists_eq_spec (t : Table) (hwf : t.WF) (o : Table) (ho : o.WF) :
    Gen.Lists.tableEq t o = .ok (Spec.Table.eq t o) := by
  rw [Gen.Lists.tableEq_eq_model t o, tableEq_spec t hwf .lists .lists o ho]

/-- `len(table)` -/
theorem gen_lists_len_spec (t : Table) : Gen.Lists.tableLen t = .ok t.height := Gen.Lists.tableLen_eq_model t

section
variable (t : Table) (hwf : t.WF) (rows cols : Option (List Nat))
  (hr : OptIdx.Valid rows t.height) (hc : OptIdx.Valid cols t.width)
include hwf hr hc

/-- `all(None, rows, cols)`, `any(None, …)`, `sum(None, …)`, `sum(0, …)`, `sum(1, …)` as dispatched by
    `AbstractBinTable.all / any / sum` on a `BinTableLists` -/
theorem gen_lists_axis_dispatch_spec :
    Gen.Lists.allAxisNone t rows cols = .ok (Spec.Table.all t (rows.getD (allRows t)) (cols.getD (allCols t))) ∧
    Gen.Lists.anyAxisNone t rows cols = .ok (Spec.Table.any t (rows.getD (allRows t)) (cols.getD (allCols t))) ∧
    Gen.Lists.sumAxisNone t rows cols = .ok (Spec.Table.sum t (rows.getD (allRows t)) (cols.getD (allCols t))) ∧
    Gen.Lists.sumAxis0 t rows cols = .ok (Spec.Table.sumPerColumn t (rows.getD (allRows t)) (cols.getD (allCols t))) ∧
    Gen.Lists.sumAxis1 t rows cols = .ok (Spec.Table.sumPerRow t (rows.getD (allRows t)) (cols.getD (allCols t))) := by
  refine ⟨?_, ?_, ?_, ?_, ?_⟩
  · rw [Gen.Lists.allAxisNone_eq_model t hwf rows cols hr hc, L.allAll_spec t hwf rows cols hr]
  · rw [Gen.Lists.anyAxisNone_eq_model t hwf rows cols hr hc, L.anyAny_spec t hwf rows cols hr]
  · rw [Gen.Lists.sumAxisNone_eq_model t hwf rows cols hr hc, L.sumAll, L.sumPerRow_eq t hwf rows cols hr]; rfl
  · rw [Gen.Lists.sumAxis0_eq_model t hwf rows cols hr hc, L.sumPerColumn_eq t rows cols]; rfl
  · rw [Gen.Lists.sumAxis1_eq_model t hwf rows cols hr hc, L.sumPerRow_eq t hwf rows cols hr]; rfl

end

/-- the generated definitions compute: -/
example : Gen.Lists.transpose ⟨[[true, false, true], [false, true, true]], 3⟩
    = .ok ⟨[[true, false], [false, true], [true, true]], 2⟩ := by rfl

end Fca.C05
