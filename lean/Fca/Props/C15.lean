/-
  Props/C15 — approximate miners return only genuine concepts and honour their limits.

  Sofia: stated for `sofiaWith tie meas …`, i.e. for EVERY set-iteration order `tie` (assumed only to enumerate the
  set: `TieOK`) and EVERY measure function returning one value per extent (`MeasLen`) — both `stability_lbounds`
  variants are instances (`sofia_both_bounds`), and so is whatever `caspailleur` really computes on families that are
  not closed under intersection; for every `L_max` (the property asks `L_max ≥ 1`) and every `min_supp = p/q`.

  Random forests: the fitted trees are data of the model (`Fca/Model/RFTree.lean`; the harness compares the real
  `decision_path` matrix with the model's on every fitted tree).  `rf_concepts_genuine` holds for point-valued
  interval columns; it fails for proper interval cells (`d19_proper_interval_not_genuine`: known finding D19) and on
  the `FormalContext` path (`formal_path_not_genuine`; `rf_formal_genuine_iff` says exactly when it holds).
-/
import Fca.Lemmas.RFTree
import Fca.Lemmas.AllI
namespace Fca.C15
open Fca.Spec Fca.SofiaApprox

/-- `from_objects(A, K, is_extent=True)` is a formal concept exactly when `A` is closed -/
theorem fromObjects_mem_allConcepts (K : Ctx) (hwf : K.table.WF) {A : List Nat} (hA : ∀ g ∈ A, g < K.table.height) :
    (A, K.intentionI A none) ∈ allConcepts K.table ↔ closure K.table A = A := by
  rw [K.intentionI_none hwf hA, mem_allConcepts, isConcept_iff]
  exact and_iff_left rfl

/-- `from_objects(extent.search(True), K, is_extent=True)` of the mask of `B'` is `(B', B'')` -/
theorem conceptOf_maskOf (K : Ctx) (hwf : K.table.WF) (B : List Nat) :
    conceptOf K (maskOf K.table B) = (extAll K.table B, closureAttr K.table B) := by
  unfold conceptOf
  simp only [search1_maskOf]
  rw [K.intentionI_none hwf (extAll_lt K.table)]
  rfl

/-- what the loop invariant says about the returned concepts, each the pair `(B', B'')` of a set `B` of applied
    attributes -/
theorem sofia_out (K : Ctx) (hwf : K.table.WF) (tie : Tie) (htie : TieOK tie) (meas : Measure) (hmeas : MeasLen meas)
    (ms : MinSupp) (lmax : Nat) (out : List (List Nat × List Nat)) (hout : sofiaWith tie meas ms lmax K = .ok out) :
    (∀ c ∈ out, ∃ B, (∀ b ∈ B, b ∈ applied ms K.table [] (List.range K.table.width)) ∧
      c = (extAll K.table B, closureAttr K.table B)) ∧
    (out.map (·.1)).Nodup ∧
    (∃ rest, out = (extAll K.table (applied ms K.table [] (List.range K.table.width)),
      closureAttr K.table (applied ms K.table [] (List.range K.table.width))) :: rest) ∧
    (∃ ys, out = ys ++ [(extAll K.table [], closureAttr K.table [])]) ∧
    (∀ c ∈ out.tail, ms.below K.table.height c.1.length = false) := by
  obtain ⟨masks, hm, hinv⟩ := inv_sofiaMasks htie hmeas ms lmax K.table
  rw [sofiaWith, hm] at hout
  cases hout
  refine ⟨fun c hc => ?_, ?_, ?_, ?_, fun c hc => ?_⟩
  · obtain ⟨e, he, rfl⟩ := List.mem_map.mp hc
    obtain ⟨B, hB, rfl⟩ := hinv.gen e he
    exact ⟨B, hB, conceptOf_maskOf K hwf B⟩
  · rw [List.map_map]
    refine ListAux.nodup_map_of_injOn hinv.nodup fun x hx y hy hxy => ?_
    obtain ⟨B, _, rfl⟩ := hinv.gen x hx
    obtain ⟨B', _, rfl⟩ := hinv.gen y hy
    rw [Function.comp_apply, Function.comp_apply, conceptOf_maskOf K hwf, conceptOf_maskOf K hwf] at hxy
    exact maskOf_eq_of_extAll_eq K.table hxy
  · obtain ⟨tl, htl⟩ := hinv.head
    exact ⟨tl.map (conceptOf K), by rw [htl, List.map_cons, conceptOf_maskOf K hwf]⟩
  · obtain ⟨ys, hys⟩ := hinv.last
    exact ⟨ys.map (conceptOf K), by rw [hys, List.map_append, List.map_cons, List.map_nil, conceptOf_maskOf K hwf]⟩
  · rw [← List.map_tail] at hc
    obtain ⟨e, he, rfl⟩ := List.mem_map.mp hc
    have hs := hinv.supp e he
    obtain ⟨B, _, rfl⟩ := hinv.gen e (List.mem_of_mem_tail he)
    rw [conceptOf_maskOf K hwf]
    rwa [count_maskOf] at hs

/-- Sofia never raises (in particular `sorted(measure_values)[::-1][L_max]` is in range). -/
theorem sofia_total (K : Ctx) (tie : Tie) (htie : TieOK tie) (meas : Measure) (hmeas : MeasLen meas)
    (ms : MinSupp) (lmax : Nat) : ∃ out, sofiaWith tie meas ms lmax K = .ok out := by
  obtain ⟨masks, hm, _⟩ := inv_sofiaMasks htie hmeas ms lmax K.table
  exact ⟨_, by rw [sofiaWith, hm]⟩

/-- Both `stability_lbounds` variants are covered by the theorems below. -/
theorem sofia_both_bounds (tie : Tie) (useLog : Bool) (ms : MinSupp) (lmax : Nat) (K : Ctx) :
    sofia tie useLog ms lmax K = sofiaWith tie (measureOf useLog K.table.height) ms lmax K ∧
    MeasLen (measureOf useLog K.table.height) :=
  ⟨rfl, measLen_measureOf useLog _⟩

/-- Every returned pair is a formal concept of the context (it is listed by the brute-force
    enumeration `allConcepts`), and its extent is closed. -/
theorem sofia_sound (K : Ctx) (hwf : K.table.WF) (tie : Tie) (htie : TieOK tie) (meas : Measure)
    (hmeas : MeasLen meas) (ms : MinSupp) (lmax : Nat) (out : List (List Nat × List Nat))
    (hout : sofiaWith tie meas ms lmax K = .ok out) :
    ∀ c ∈ out, c ∈ allConcepts K.table ∧ closure K.table c.1 = c.1 := by
  intro c hc
  obtain ⟨B, hB, rfl⟩ := (sofia_out K hwf tie htie meas hmeas ms lmax out hout).1 c hc
  have hr : ∀ b ∈ B, b < K.table.width := fun b hb => applied_lt ms K.table b (hB b hb)
  exact ⟨(mem_allConcepts K.table).mpr (isConcept_of_attrs K.table hr), extAll_closureAttr K.table hr⟩

/-- The returned concepts are pairwise distinct — even their extents are. -/
theorem sofia_no_dup (K : Ctx) (hwf : K.table.WF) (tie : Tie) (htie : TieOK tie) (meas : Measure)
    (hmeas : MeasLen meas) (ms : MinSupp) (lmax : Nat) (out : List (List Nat × List Nat))
    (hout : sofiaWith tie meas ms lmax K = .ok out) :
    (out.map (·.1)).Nodup ∧ out.Nodup := by
  have h1 := (sofia_out K hwf tie htie meas hmeas ms lmax out hout).2.1
  exact ⟨h1, List.Pairwise.of_map _ (fun a b hab heq => hab (by rw [heq])) h1⟩

/-- The top concept (all objects) is returned — as the last element — and the first returned
    extent is contained in every returned extent. -/
theorem sofia_top_and_least (K : Ctx) (hwf : K.table.WF) (tie : Tie) (htie : TieOK tie) (meas : Measure)
    (hmeas : MeasLen meas) (ms : MinSupp) (lmax : Nat) (out : List (List Nat × List Nat))
    (hout : sofiaWith tie meas ms lmax K = .ok out) :
    (∃ ys, out = ys ++ [(List.range K.table.height, intAll K.table (List.range K.table.height))]) ∧
    (∃ c₀ rest, out = c₀ :: rest ∧ ∀ c ∈ out, ∀ g ∈ c₀.1, g ∈ c.1) := by
  obtain ⟨hgen, _, ⟨rest, hrest⟩, hlast, _⟩ := sofia_out K hwf tie htie meas hmeas ms lmax out hout
  rw [closureAttr, extAll_nil] at hlast
  refine ⟨hlast, _, rest, hrest, fun c hc g hg => ?_⟩
  obtain ⟨B, hB, rfl⟩ := hgen c hc
  exact extAll_antitone K.table hB g hg

/-- Every returned concept other than the first one has support ≥ the threshold
    (`not (count < min_supp)` for the converted `min_supp`). -/
theorem sofia_support (K : Ctx) (hwf : K.table.WF) (tie : Tie) (htie : TieOK tie) (meas : Measure)
    (hmeas : MeasLen meas) (ms : MinSupp) (lmax : Nat) (out : List (List Nat × List Nat))
    (hout : sofiaWith tie meas ms lmax K = .ok out) :
    ∀ c ∈ out.tail, ms.below K.table.height c.1.length = false :=
  (sofia_out K hwf tie htie meas hmeas ms lmax out hout).2.2.2.2

/-- Never more than `L_max + 2` concepts (at most `L_max` measures exceed the `(L_max+1)`-th largest,
    plus the two extremes). -/
theorem sofia_count_le (K : Ctx) (tie : Tie) (htie : TieOK tie) (meas : Measure)
    (hmeas : MeasLen meas) (ms : MinSupp) (lmax : Nat) (out : List (List Nat × List Nat))
    (hout : sofiaWith tie meas ms lmax K = .ok out) : out.length ≤ lmax + 2 := by
  obtain ⟨masks, hm, hinv⟩ := inv_sofiaMasks htie hmeas ms lmax K.table
  rw [sofiaWith, hm] at hout
  cases hout
  rw [List.length_map]
  exact hinv.len

/-- When the limit is not binding (the `len(extents_proj) > L_max` block never runs), every concept
    of the context whose support meets the threshold is returned. -/
theorem sofia_nonbinding_all (K : Ctx) (hwf : K.table.WF) (tie : Tie) (htie : TieOK tie) (meas : Measure)
    (ms : MinSupp) (lmax : Nat) (hnb : neverBinds tie ms lmax K.table = true)
    (out : List (List Nat × List Nat)) (hout : sofiaWith tie meas ms lmax K = .ok out) :
    ∀ c ∈ allConcepts K.table, ms.below K.table.height c.1.length = false → c ∈ out := by
  obtain ⟨masks, hm, hall⟩ := complete_sofiaMasks (meas := meas) htie ms lmax K.table hnb
  simp only [sofiaWith, hm] at hout
  cases hout
  intro c hc hsupp
  obtain ⟨A, B⟩ := c
  rw [mem_allConcepts] at hc
  obtain ⟨hA, hB⟩ := (isConcept_iff _).mp hc
  have hmem := hall B (isConcept_intent_lt hc) (by rw [count_maskOf, hA]; exact hsupp)
  apply List.mem_map.mpr
  refine ⟨_, hmem, ?_⟩
  rw [conceptOf_maskOf K hwf]
  simp only [closureAttr, hA, hB]

/-- A decidable sufficient condition for "not binding": if the number of concepts meeting the threshold,
    plus one, is at most `L_max`, the pruning block never runs — for every tie order. -/
theorem sofia_nonbinding_of_count (K : Ctx) (tie : Tie) (htie : TieOK tie) (ms : MinSupp) (lmax : Nat)
    (hcnt : (Spec.C15.meeting K.table ms).length + 1 ≤ lmax) : neverBinds tie ms lmax K.table = true :=
  neverBinds_of_bound htie fun _ _ h hS => Nat.le_trans (length_le_meeting h hS) hcnt

/-- The result has exactly one greatest and exactly one least element w.r.t. extent inclusion
    (what `ConceptLattice` needs to accept the list). -/
theorem sofia_is_lattice (K : Ctx) (hwf : K.table.WF) (tie : Tie) (htie : TieOK tie) (meas : Measure)
    (hmeas : MeasLen meas) (ms : MinSupp) (lmax : Nat) (out : List (List Nat × List Nat))
    (hout : sofiaWith tie meas ms lmax K = .ok out) :
    (∃ top ∈ out, (∀ c ∈ out, ∀ g ∈ c.1, g ∈ top.1) ∧
        ∀ c ∈ out, (∀ c' ∈ out, ∀ g ∈ c'.1, g ∈ c.1) → c = top) ∧
    (∃ bot ∈ out, (∀ c ∈ out, ∀ g ∈ bot.1, g ∈ c.1) ∧
        ∀ c ∈ out, (∀ c' ∈ out, ∀ g ∈ c.1, g ∈ c'.1) → c = bot) := by
  obtain ⟨hgen, _, _, _, _⟩ := sofia_out K hwf tie htie meas hmeas ms lmax out hout
  obtain ⟨⟨ys, hys⟩, c₀, rest, hc₀, hleast⟩ := sofia_top_and_least K hwf tie htie meas hmeas ms lmax out hout
  have huniq : ∀ c ∈ out, ∀ d ∈ out, (∀ g, g ∈ c.1 ↔ g ∈ d.1) → c = d := by
    intro c hc d hd hcd
    obtain ⟨B, _, rfl⟩ := hgen c hc
    obtain ⟨B', _, rfl⟩ := hgen d hd
    rw [closureAttr, closureAttr, ListAux.sorted_ext (extAll_sorted _ B) (extAll_sorted _ B') hcd]
  have htop : (List.range K.table.height, intAll K.table (List.range K.table.height)) ∈ out :=
    hys ▸ List.mem_append_right _ List.mem_cons_self
  have hge : ∀ c ∈ out, ∀ g ∈ c.1, g ∈ List.range K.table.height := by
    intro c hc g hg
    obtain ⟨B, _, rfl⟩ := hgen c hc
    exact List.mem_range.mpr (extAll_lt K.table g hg)
  have hbot : c₀ ∈ out := hc₀ ▸ List.mem_cons_self
  exact ⟨⟨_, htop, hge, fun c hc hmax => huniq c hc _ htop fun g => ⟨hge c hc g, hmax _ htop g⟩⟩,
    ⟨c₀, hbot, hleast, fun c hc hmin => huniq c hc c₀ hbot fun g => ⟨hmin _ hbot g, hleast c hc g⟩⟩⟩

/-- The model's answer passes the checker `failsC15` that the harness applies to the IMPLEMENTATION's
    answers (so the checker is satisfiable and not stricter than what is proved of the model). -/
theorem sofia_satisfies_checker (K : Ctx) (hwf : K.table.WF) (tie : Tie) (htie : TieOK tie)
    (meas : Measure) (hmeas : MeasLen meas) (ms : MinSupp) (lmax : Nat) (out : List (List Nat × List Nat))
    (hout : sofiaWith tie meas ms lmax K = .ok out) :
    Spec.C15.failsC15 K.table ms lmax out = [] := by
  have hsound := sofia_sound K hwf tie htie meas hmeas ms lmax out hout
  obtain ⟨_, hnd, _, _, hsupp⟩ := sofia_out K hwf tie htie meas hmeas ms lmax out hout
  obtain ⟨⟨ys, hys⟩, c₀, rest, hc₀, hleast⟩ := sofia_top_and_least K hwf tie htie meas hmeas ms lmax out hout
  have c0 : (out.all fun c => isConcept K.table c.1 c.2) = true :=
    List.all_eq_true.mpr fun c hc => (mem_allConcepts K.table).mp (hsound c hc).1
  have c1 : ((out.map (·.1)).all fun A => closure K.table A == A) = true :=
    List.all_eq_true.mpr (List.forall_mem_map.mpr fun c hc => beq_iff_eq.mpr (hsound c hc).2)
  have c3 : (out.map (·.1)).contains (List.range K.table.height) = true :=
    List.contains_iff_mem.mpr (List.mem_map.mpr ⟨_, hys ▸ List.mem_append_right _ List.mem_cons_self, rfl⟩)
  have hleast' : ((out.map (·.1)).all fun A => subset c₀.1 A) = true :=
    List.all_eq_true.mpr (List.forall_mem_map.mpr fun c hc =>
      List.all_eq_true.mpr fun g hg => List.contains_iff_mem.mpr (hleast c hc g hg))
  have c4 : ((out.map (·.1)).any fun A0 => (out.map (·.1)).all fun A => subset A0 A) = true :=
    List.any_eq_true.mpr ⟨c₀.1, List.mem_map.mpr ⟨c₀, hc₀ ▸ List.mem_cons_self, rfl⟩, hleast'⟩
  have c5 : ((out.map (·.1)).all fun A => A == List.range K.table.height
      || ((out.map (·.1)).all fun A' => subset A A') || Spec.C15.meets ms K.table.height A) = true := by
    refine List.all_eq_true.mpr (List.forall_mem_map.mpr fun c hc => ?_)
    rw [hc₀] at hc hsupp
    rcases List.mem_cons.mp hc with rfl | hc
    · rw [hleast', Bool.or_true, Bool.true_or]
    · rw [Spec.C15.meets, hsupp c hc, Bool.not_false, Bool.or_true]
  have c6 : (out.map (·.1)).length ≤ lmax + 2 := by
    rw [List.length_map]; exact sofia_count_le K tie htie meas hmeas ms lmax out hout
  have c7 : ¬(decide ((Spec.C15.meeting K.table ms).length + 1 ≤ lmax) &&
      !((Spec.C15.meeting K.table ms).all fun c => (out.map (·.1)).contains c.1)) = true := by
    rw [Bool.and_eq_true, decide_eq_true_eq, Bool.not_eq_true']
    rintro ⟨hcnt, hmiss⟩
    have hall := sofia_nonbinding_all K hwf tie htie meas ms lmax
      (sofia_nonbinding_of_count K tie htie ms lmax hcnt) out hout
    refine Bool.false_ne_true (hmiss ▸ List.all_eq_true.mpr fun c hc => ?_)
    obtain ⟨hc1, hc2⟩ := List.mem_filter.mp hc
    exact List.contains_iff_mem.mpr (List.mem_map.mpr ⟨c, hall c hc1 (Bool.not_eq_true' _ ▸ hc2), rfl⟩)
  simp only [Spec.C15.failsC15, Spec.C15.failsPairs, Spec.C15.failsExt, if_pos c0, if_pos c1, if_pos (decide_eq_true hnd),
    if_pos c3, if_pos c4, if_pos c5, if_pos c6, if_neg c7, List.append_nil]

/-- For wide tables the driver enumerates the concepts through the transposed table; the verdict is the
    same as that of `failsC15`. -/
theorem checker_via_transpose (t : Table) (hwf : t.WF) (ms : MinSupp) (lmax : Nat)
    (out : List (List Nat × List Nat)) :
    Spec.C15.failsC15T t ms lmax out = Spec.C15.failsC15 t ms lmax out := by
  have hp : (Spec.C15.meetingT t ms).Perm (Spec.C15.meeting t ms) := (allConcepts_transpose_perm t hwf).filter _
  unfold Spec.C15.failsC15T Spec.C15.failsC15 Spec.C15.failsExtT Spec.C15.failsExt
  simp only [hp.length_eq, ListAux.all_eq_of_mem_iff (fun _ => hp.mem_iff) _]

/-- `parse_decision_tree_to_extents` returns exactly the distinct sets of training rows reaching the
    nodes (the distinct column supports of the decision-path matrix), each once. -/
theorem tree_extents_distinct_columns (M : List (List Bool)) (w : Nat) :
    (treeExtents M w).Nodup ∧ ∀ A, A ∈ treeExtents M w ↔ ∃ j, j < w ∧ colSupport M j = A :=
  ⟨ListAux.nodup_eraseDups _, mem_treeExtents M w⟩

/-- The same miner on a `FormalContext` (and, generally, on any 0/1 context with any path matrix that has one row
    per object): the returned pairs are all formal concepts EXACTLY WHEN every node extent is closed.  Node extents of
    a tree fitted on a Boolean table are in general not closed — a left child collects the objects that do NOT have an
    attribute (`formal_path_not_genuine` below) — which is why the property speaks of many-valued contexts only. -/
theorem rf_formal_genuine_iff (K : Ctx) (hwf : K.table.WF) (M : List (List Bool)) (w : Nat)
    (hM : M.length = K.table.height) :
    (∀ c ∈ rfConcepts K M w, c ∈ allConcepts K.table) ↔
      ∀ j, j < w → closure K.table (colSupport M j) = colSupport M j := by
  have hbot : K.extensionI (K.intentionI [] none) none = closure K.table [] := by
    rw [K.intentionI_none hwf (A := []) fun _ h => nomatch h]
    exact K.extensionI_none hwf (intAll_lt K.table)
  have hlt : ∀ j, ∀ g ∈ colSupport M j, g < K.table.height := fun j g hg => hM ▸ (mem_colSupport.mp hg).1
  constructor
  · intro h j hj
    refine (fromObjects_mem_allConcepts K hwf (hlt j)).mp (h _ ?_)
    exact List.mem_map.mpr ⟨_, List.mem_append_left _ ((mem_treeExtents M w _).mpr ⟨j, hj, rfl⟩), rfl⟩
  · intro hclosed c hc
    obtain ⟨A, hA, rfl⟩ := List.mem_map.mp hc
    rcases List.mem_append.mp hA with hA | hA
    · obtain ⟨j, hj, rfl⟩ := (mem_treeExtents M w A).mp hA
      exact (fromObjects_mem_allConcepts K hwf (hlt j)).mpr (hclosed j hj)
    · rw [List.mem_singleton.mp hA, hbot]
      exact (fromObjects_mem_allConcepts K hwf (extAll_lt K.table)).mpr (closure_idem K.table fun _ h => nomatch h)

/-- What a node extent is: the rows reaching node `j` in the model's `decision_path` (per-row descent, compared with
    sklearn's matrix on every fitted tree) are exactly the rows of the matrix that pass every test `x[f] <= thr` (where the
    root-to-`j` path goes left) / `x[f] > thr` (where it goes right). -/
theorem tree_node_extent_is_path_tests (t : DL.Tree) (hok : RF.treeOK t t.n 0 = true) (X : DL.Rows) (j : Nat)
    (hj : j < t.n) :
    colSupport (RF.pathMatrix [t] X) j = (List.range X.length).filter fun g =>
      match RF.testsTo t j t.n 0 with
      | some ts => RF.passes (X.getD g []) ts
      | none => false := by
  rw [RF.colSupport_pathMatrix, RF.locate, if_pos hj]
  exact List.filter_congr fun g _ => RF.contains_pathFrom t j _ t.n 0 hok

/-- Every node extent of a fitted forest — the rows of the context whose values pass every test `x[f] <= thr` /
    `x[f] > thr` on the way from the root to the node, i.e. a column support of `decision_path` — is closed in the
    interval pattern structure, when the cells are points: an object inside the coordinate-wise hull of the node's rows
    passes every half-space test that all of them pass.  (A column index beyond the forest's nodes has the empty
    support, closed because there is at least one column.) -/
theorem rf_node_extents_closed (D : RF.IRows) (k : Nat) (cast : Rat → Rat) (ts : List DL.Tree) (hk : 0 < k)
    (hrect : RF.rect D k = true) (hpt : RF.pointValued D = true) (hmono : RF.castMonoOn cast D = true)
    (hts : RF.forestOK ts = true) (j : Nat) :
    RF.closure D k (colSupport (RF.pathMatrix ts (RF.castRows cast (RF.toNumeric D))) j)
      = colSupport (RF.pathMatrix ts (RF.castRows cast (RF.toNumeric D))) j := by
  rw [RF.colSupport_forest]
  refine RF.closed_of_between hk hrect hpt hmono
    (fun x => match RF.locate ts j with
      | none => false
      | some (t, j') => (DL.pathFrom t x t.n 0).contains j') fun As x hb h => ?_
  -- for a column of no tree the property is `false`, while `Between As x` supplies a row of `As` that has it
  cases hloc : RF.locate ts j with
  | none => exact (hb 0).1.elim fun a ha => by have := h a ha.1; rwa [hloc] at this
  | some p =>
    rw [hloc] at h
    exact RF.path_between p.1 p.2 hb p.1.n 0 (List.all_eq_true.mp hts _ (RF.locate_mem ts j hloc)) h

/-- FULL for point-valued interval columns (numeric data; every float64 table, the trees being DATA of the model:
    any arrays `children_left/right, feature, threshold` in which the two subtrees of a node share no node, any
    number of trees, any monotone cast): every pair returned by `random_forest_concepts` is a genuine pattern concept
    of the context — `extension_i(intent) = extent` and `intent = intention_i(extent)` — and the concept of ALL objects
    is among them (the root of the first tree).  The extents are exactly the distinct node row sets plus
    `extension_i(intention_i([]))` (`tree_extents_distinct_columns`). -/
theorem rf_concepts_genuine (D : RF.IRows) (k : Nat) (cast : Rat → Rat) (ts : List DL.Tree) (hk : 0 < k)
    (hrect : RF.rect D k = true) (hpt : RF.pointValued D = true) (hmono : RF.castMonoOn cast D = true)
    (hts : RF.forestOK ts = true) :
    (∀ c ∈ RF.rfConceptsMV D k cast ts, RF.isPatternConcept D k c.1 c.2) ∧
    (∀ t rest, ts = t :: rest → 0 < t.n →
      (List.range D.length, RF.intentionI D k (List.range D.length)) ∈ RF.rfConceptsMV D k cast ts) := by
  constructor
  · intro c hc
    simp only [RF.rfConceptsMV, RF.rfExtents, List.mem_map, List.mem_append, List.mem_singleton] at hc
    obtain ⟨A, hA, rfl⟩ := hc
    refine ⟨?_, rfl⟩
    rcases hA with hA | hA
    · obtain ⟨j, _, rfl⟩ := (mem_treeExtents _ _ A).mp hA
      exact rf_node_extents_closed D k cast ts hk hrect hpt hmono hts j
    · subst hA
      have h0 : RF.extensionI D (RF.intentionI D k []) = [] := RF.closure_nil D k hk
      rw [h0]
      exact RF.closure_nil D k hk
  · intro t rest hts' hn
    simp only [RF.rfConceptsMV, RF.rfExtents, List.mem_map, List.mem_append, List.mem_singleton]
    refine ⟨_, Or.inl ((mem_treeExtents _ _ _).mpr ⟨0, ?_, ?_⟩), rfl⟩
    · rw [hts']
      simp only [RF.nNodes, List.map_cons, List.sum_cons]
      omega
    · rw [RF.colSupport_forest, hts', RF.locate, if_pos hn]
      exact List.filter_eq_self.mpr fun g _ => List.contains_iff_mem.mpr (DL.self_mem_pathFrom t _ _ 0)

/-- What the driver evaluates on every case (`castTableOK`: the float32 table is listed with strictly increasing keys
    and non-decreasing images, and covers every number of the context) implies the monotonicity hypothesis of
    `rf_concepts_genuine`. -/
theorem rf_cast_table_mono (tbl : List (Rat × Rat)) (D : RF.IRows) (h : RF.castTableOK tbl D = true) :
    RF.castMonoOn (RF.castOfList tbl) D = true := RF.castMonoOn_of_table h

/-- The order in which scipy lists the rows of a node does not matter: the intent depends on the set of rows only. -/
theorem rf_intent_order_free (D : RF.IRows) (k : Nat) {A B : List Nat} (h : A.Perm B) :
    RF.intentionI D k A = RF.intentionI D k B :=
  List.map_congr_left fun c _ => RF.intPS_perm D c h

/-- D19 (known finding): with a PROPER interval cell the statement fails.  Context `[[(2,2)], [(1,2)]]`, one tree
    whose root tests `0_from <= 3/2`: the left child is reached by object 1 only, but the description of object 1 is
    `(1, 2)`, which also covers object 0 — the returned pair `([1], (1,2))` is not a pattern concept. -/
def d19Data : RF.IRows := [[(2, 2)], [(1, 2)]]
def d19Tree : DL.Tree := ⟨[1, -1, -1], [2, -1, -1], [0, -2, -2], [3 / 2, -2, -2], [0, 0, 0]⟩

theorem d19_proper_interval_not_genuine :
    RF.rect d19Data 1 = true ∧ RF.castMonoOn id d19Data = true ∧ RF.forestOK [d19Tree] = true ∧
    RF.pointValued d19Data = false ∧
    ([1], [some (1, 2)]) ∈ RF.rfConceptsMV d19Data 1 id [d19Tree] ∧
    RF.closure d19Data 1 [1] = [0, 1] := by decide +kernel

/-- The `FormalContext` path (outside the property): objects `{a}`, `{b}`, `{}` and a tree whose root tests
    `a <= 1/2`; the left child collects the objects WITHOUT attribute `a`, the returned pair `([1, 2], [])` is not a
    formal concept (the extent of `[]` is `[0, 1, 2]`). -/
def formalK : Ctx := ⟨.bitarray, Table.mk [[true, false], [false, true], [false, false]] 2, [], []⟩
def formalTree : DL.Tree := ⟨[1, -1, -1], [2, -1, -1], [0, -2, -2], [1 / 2, -2, -2], [0, 0, 0]⟩

theorem formal_path_not_genuine :
    ([1, 2], []) ∈ RF.rfConceptsFormal formalK [formalTree] ∧ ([1, 2], []) ∉ allConcepts formalK.table := by
  decide +kernel

/-! ### the hypotheses are satisfiable -/

example : TieOK (fun _ l => l) := fun _ _ => List.Perm.refl _
example : TieOK (fun i l => if i % 2 = 0 then l.reverse else l) := by
  intro i l
  by_cases h : i % 2 = 0
  · simp only [h, ↓reduceIte]
    exact List.reverse_perm l
  · simp only [h, ↓reduceIte]
    exact List.Perm.refl _
example : MeasLen boundLog := measLen_boundLog
example : (Table.mk [[true, false], [true, true], [false, true]] 2).WF := by decide +kernel
example : (Spec.C15.meeting (Table.mk [[true, false], [true, true], [false, true]] 2) ⟨0, 1⟩).length + 1 ≤ 5 := by
  decide +kernel
/-- a binding limit: `L_max = 1` triggers the pruning block -/
example : neverBinds (fun _ l => l) ⟨0, 1⟩ 1 (Table.mk [[true, false], [true, true], [false, true]] 2) = false := by
  decide +kernel
example : neverBinds (fun _ l => l) ⟨0, 1⟩ 5 (Table.mk [[true, false], [true, true], [false, true]] 2) = true := by
  decide +kernel
example : (sofia (fun _ l => l) true ⟨0, 1⟩ 5
      ⟨.bitarray, Table.mk [[true, false], [true, true], [false, true]] 2, [], []⟩).toOption
    = some [([1], [0, 1]), ([0, 1], [0]), ([1, 2], [1]), ([0, 1, 2], [])] := by decide +kernel
/-- with a binding limit the middle concepts are pruned (here `use_log_stability_bound=False`) -/
example : (sofia (fun _ l => l) false ⟨0, 1⟩ 1
      ⟨.bitarray, Table.mk [[true, false], [true, true], [false, true]] 2, [], []⟩).toOption
    = some [([1], [0, 1]), ([0, 1, 2], [])] := by decide +kernel
/-- a point-valued context with two interval columns and a forest of two (identical) five-node trees meeting every
    hypothesis of `rf_concepts_genuine`, and what the model returns on it -/
def ptData : RF.IRows := [[(1, 1), (5, 5)], [(2, 2), (5, 5)], [(3, 3), (4, 4)]]
def ptTree : DL.Tree :=
  ⟨[1, -1, 3, -1, -1], [2, -1, 4, -1, -1], [0, -2, 3, -2, -2], [3 / 2, -2, 9 / 2, -2, -2], [0, 0, 0, 0, 0]⟩
example : RF.testsTo ptTree 3 ptTree.n 0 = some [(0, 3 / 2, false), (3, 9 / 2, true)] := by decide +kernel
example : RF.rect ptData 2 = true ∧ RF.pointValued ptData = true ∧ RF.castMonoOn id ptData = true ∧
    RF.forestOK [ptTree, ptTree] = true ∧
    RF.rfConceptsMV ptData 2 id [ptTree, ptTree] =
      [([0, 1, 2], [some (1, 3), some (4, 5)]), ([0], [some (1, 1), some (5, 5)]),
       ([1, 2], [some (2, 3), some (4, 5)]), ([2], [some (3, 3), some (4, 4)]),
       ([1], [some (2, 2), some (5, 5)]), ([], [none, none])] := by decide +kernel
/-- a cast that is monotone without being injective (two neighbouring values collapse, as in float32) -/
example : RF.castMonoOn (RF.castOfList [(2, 3)]) ptData = true := by decide +kernel
/-- a decision-path matrix whose node extents are closed in the 2-object nominal context -/
example : ∀ j, j < 3 → closure (Table.mk [[true, false], [false, true]] 2)
    (colSupport [[true, true, false], [true, false, true]] j) = colSupport [[true, true, false], [true, false, true]] j := by
  decide +kernel

end Fca.C15
