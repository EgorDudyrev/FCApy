/-
  Props/C03 — lattice order, covers, top/bottom, meet and join are those of extent inclusion.

  All theorems are about the code-shaped models of `Fca/Model/LatticeQuery.lean` (the uncached POSet
  queries instantiated with `FormalConcept.__le__`, `sort_concepts`, `_get_chains`) on a concept list
  `cs` that lists every formal concept of the table `t` exactly once (`IsConceptList t cs`; this is what
  C02 establishes for the construction algorithms), the `pruned_*` theorems on any duplicate-free list of
  concepts of `t` (`IsConceptSub t cs`).  Python set-iteration orders are the parameter `ord`: the query
  theorems hold for every `ord` with `PQ.IsOrder ord` (same members in any order); `lindig_path_correct`
  asks of its worklist order that it is a permutation.
-/
import Fca.Model.LatticeQuery
import Fca.Spec.LatticeQuery
import Fca.Lemmas.LatticeQueryReindex
namespace Fca.C03
open Fca.LQ Fca.Spec

/-- the hypothesis of all theorems but the `pruned_*` ones: `cs` lists `allConcepts t`, each concept once -/
abbrev IsConceptList := LQ.IsConceptList

/-- non-vacuity: the 3×3 table `[[1,0,1],[0,1,1],[1,1,0]]` with its 8 concepts in the order Lindig's
    algorithm emits them (not the sorted order) -/
def exTable : Table := ⟨[[true, false, true], [false, true, true], [true, true, false]], 3⟩
def exLat : Lat :=
  [([0, 1, 2], []), ([0, 2], [0]), ([1, 2], [1]), ([0, 1], [2]), ([2], [0, 1]), ([0], [0, 2]),
   ([1], [1, 2]), ([], [0, 1, 2])]
example : IsConceptList exTable exLat := by decide +kernel
example : PQ.IsOrder id ∧ PQ.IsOrder List.reverse := ⟨PQ.isOrder_id, PQ.isOrder_reverse⟩

/-- `descendants(i)` = the concepts with strictly smaller extent (as an ascending index list) -/
theorem descendants_strict_subextents (t : Table) (cs : Lat) (H : IsConceptList t cs)
    (i : Nat) (hi : i < cs.length) :
    descendants cs i = Spec.strictSub (cs.map (·.1)) i :=
  H.toSub.descendants_eq i hi

/-- `ancestors(i)` = the concepts with strictly larger extent -/
theorem ancestors_strict_superextents (t : Table) (cs : Lat) (H : IsConceptList t cs)
    (i : Nat) (hi : i < cs.length) :
    ancestors cs i = Spec.strictSuper (cs.map (·.1)) i :=
  H.toSub.ancestors_eq i hi

/-- `children(i)` = the lower covers of `i` w.r.t. extent inclusion, for every set-iteration order -/
theorem children_lower_covers (t : Table) (cs : Lat) (H : IsConceptList t cs)
    (ord : List Nat → List Nat) (ho : PQ.IsOrder ord) (i : Nat) (hi : i < cs.length) :
    children cs ord i = Spec.lowerCovers (cs.map (·.1)) i :=
  H.toSub.children_eq ho i hi

/-- `parents(i)` = the upper covers of `i` w.r.t. extent inclusion, for every set-iteration order -/
theorem parents_upper_covers (t : Table) (cs : Lat) (H : IsConceptList t cs)
    (ord : List Nat → List Nat) (ho : PQ.IsOrder ord) (i : Nat) (hi : i < cs.length) :
    parents cs ord i = Spec.upperCovers (cs.map (·.1)) i :=
  H.toSub.parents_eq ho i hi

/-- the constructor finds exactly one top, and its extent is the set of all objects -/
theorem top_all_objects (t : Table) (cs : Lat) (H : IsConceptList t cs) :
    ∃ k, k < cs.length ∧ top cs = .ok k ∧ extOf cs k = List.range t.height :=
  H.toSub.exists_top H.top_mem

/-- the constructor finds exactly one bottom, and its extent is the set of objects having every attribute -/
theorem bottom_ext_all_attrs (t : Table) (cs : Lat) (H : IsConceptList t cs) :
    ∃ k, k < cs.length ∧ bottom cs = .ok k ∧ extOf cs k = extAll t (List.range t.width) :=
  H.toSub.exists_bottom H.bottom_mem

/-- for a non-empty selection `S` of concepts the meet exists (is not `None`) and its extent is the
    intersection of the extents — for every order of `S` and every set-iteration order -/
theorem meet_extent_inter (t : Table) (cs : Lat) (H : IsConceptList t cs)
    (ord : List Nat → List Nat) (ho : PQ.IsOrder ord) (S : List Nat) (hS : S ≠ [])
    (hSn : ∀ s ∈ S, s < cs.length) :
    ∃ k, k < cs.length ∧ meet cs ord S = .ok (some k) ∧
      extOf cs k = Spec.interAll (List.range t.height) (S.map (extOf cs)) := by
  have P := H.toSub
  have hU : ∀ a ∈ S.flatMap (intOf cs), a < t.width := by
    intro a ha
    obtain ⟨s, hs, has⟩ := List.mem_flatMap.mp ha
    exact P.int_lt (hSn s hs) a has
  obtain ⟨k, hk, he, _⟩ := H.exists_idx (isConcept_of_attrs t hU)
  rw [← P.interAll_exts hSn] at he
  exact ⟨k, hk, P.meet_eq_of_ext_eq_inter ho hS hSn hk he, he⟩

/-- for a non-empty selection `S` the join exists and its intent is the intersection of the intents -/
theorem join_intent_inter (t : Table) (cs : Lat) (H : IsConceptList t cs)
    (ord : List Nat → List Nat) (ho : PQ.IsOrder ord) (S : List Nat) (hS : S ≠ [])
    (hSn : ∀ s ∈ S, s < cs.length) :
    ∃ k, k < cs.length ∧ join cs ord S = .ok (some k) ∧
      intOf cs k = Spec.interAll (List.range t.width) (S.map (intOf cs)) := by
  have P := H.toSub
  have hV : ∀ g ∈ S.flatMap (extOf cs), g < t.height := by
    intro g hg
    obtain ⟨s, hs, hgs⟩ := List.mem_flatMap.mp hg
    exact P.ext_lt (hSn s hs) g hgs
  obtain ⟨k, hk, _, hi⟩ := H.exists_idx (isConcept_of_objs t hV)
  rw [← P.interAll_ints hSn] at hi
  exact ⟨k, hk, P.join_eq_of_int_eq_inter ho hS hSn hk hi, hi⟩

/-- `sort_concepts` (key: (−support, comma-joined decimal extent string), stable) keeps the list an
    enumeration of all concepts, lists them by non-increasing support, puts the concept with all objects
    first and the concept with extent (all attributes)′ last; `top` / `bottom` of the sorted lattice are
    the positions `0` / `len−1`; the Lean listing checker used on the implementation accepts it. -/
theorem listing_sorted (t : Table) (cs : Lat) (H : IsConceptList t cs) :
    IsConceptList t (sortConcepts cs) ∧
    (sortConcepts cs).Pairwise (fun a b => b.1.length ≤ a.1.length) ∧
    (sortConcepts cs).head?.map (·.1) = some (List.range t.height) ∧
    (sortConcepts cs).getLast?.map (·.1) = some (extAll t (List.range t.width)) ∧
    top (sortConcepts cs) = .ok 0 ∧
    bottom (sortConcepts cs) = .ok ((sortConcepts cs).length - 1) ∧
    Spec.listingOk t (sortConcepts cs) = true :=
  ⟨H.sort, H.toSub.listing_sorted H.top_mem H.bottom_mem⟩

/-- `get_chains()` (= `_get_chains(elements, parents_dict)`; dictionaries keyed by concept, smallest parent
    index, fuel-bounded loops) never raises and returns chains such that: every chain starts at the top concept,
    every step goes from a concept to one of its children (lower covers), and every concept lies on some chain.
    The Lean checker `chainsOk`, which judges the implementation's chains, accepts the result. -/
theorem chains_correct (t : Table) (cs : Lat) (H : IsConceptList t cs)
    (ord : List Nat → List Nat) (ho : PQ.IsOrder ord) :
    ∃ chs k, top cs = .ok k ∧ chains cs ord = .ok chs ∧
      (∀ ch ∈ chs, ch.head? = some k ∧ Steps (fun p c => c ∈ children cs ord p) ch) ∧
      (∀ i, i < cs.length → ∃ ch ∈ chs, i ∈ ch) ∧
      Spec.chainsOk (cs.map (·.1)) (List.range t.height) chs = true :=
  H.toSub.chains_correct H.top_mem ho

/-- The Lindig path of `from_context`.  `cs0` is the concept list in the order Lindig's algorithm emitted it and
    `chd` its `children_dict`, assumed to hold one key per concept and at key `i` the lower covers of concept `i`
    (C02's `lindig_exact` speaks of the emitted concept list only).  Then `POSet.__init__` (worklist closure of the children
    relation with the closed-form fuel `closedFuel n = (n+1)^(n+1)`, `_transpose_hierarchy` twice, the semilattice
    constructors' top/bottom) followed by `from_context`'s re-sorting and re-indexing of the four caches and of
    top/bottom never fails, and in the resulting lattice — whose element list is `sort_concepts cs0` — the
    cached children / descendants / parents / ancestors of every concept are exactly the lower covers / strictly
    smaller extents / upper covers / strictly larger extents of the SORTED list, `_cache_top = 0` and
    `_cache_bottom = n-1`.  For every worklist order that is a permutation (`ord`). -/
theorem lindig_path_correct (t : Table) (cs0 : Lat) (H : IsConceptList t cs0) (chd : LC.Dict)
    (hkeys : LC.KeysNodup chd) (hklt : ∀ p ∈ chd, p.1 < cs0.length)
    (hch : ∀ i, i < cs0.length → ∃ l, LC.dget chd i = some l ∧
      ∀ x, x ∈ l ↔ x ∈ Spec.lowerCovers (cs0.map (·.1)) i)
    (ord : List Nat → List Nat) (hord : ∀ l, (ord l).Perm l)
    (fuel : Nat) (hfuel : LC.closedFuel cs0.length ≤ fuel) :
    ∃ c0 m c, LC.initFromChildren chd cs0.length ord fuel = .ok c0 ∧
      LC.reindex cs0 c0 = .ok (sortConcepts cs0, m, c) ∧
      (∀ j, j < cs0.length →
        (∃ l, LC.dget c.children j = some l ∧
          ∀ x, x ∈ l ↔ x ∈ Spec.lowerCovers ((sortConcepts cs0).map (·.1)) j) ∧
        (∃ l, LC.dget c.descendants j = some l ∧
          ∀ x, x ∈ l ↔ x ∈ Spec.strictSub ((sortConcepts cs0).map (·.1)) j) ∧
        (∃ l, LC.dget c.parents j = some l ∧
          ∀ x, x ∈ l ↔ x ∈ Spec.upperCovers ((sortConcepts cs0).map (·.1)) j) ∧
        (∃ l, LC.dget c.ancestors j = some l ∧
          ∀ x, x ∈ l ↔ x ∈ Spec.strictSuper ((sortConcepts cs0).map (·.1)) j)) ∧
      c.top = some 0 ∧ c.bottom = some (cs0.length - 1) := by
  have Hs := H.sort
  have P := H.toSub
  have Q := Hs.toSub
  have hlen := sortConcepts_length cs0
  have hp := sortConcepts_supports cs0
  have S : LC.ClosedSetup (leq cs0) cs0.length (fun a => (extOf cs0 a).length) chd := by
    refine ⟨P.isPO, fun _ _ => P.ext_len_lt, hkeys, hklt, fun i hi => ?_⟩
    rw [show PQ.children (leq cs0) cs0.length id i = _ from P.children_eq PQ.isOrder_id i hi]
    exact hch i hi
  obtain ⟨kt, hkt, _, hekt⟩ := top_all_objects t cs0 H
  obtain ⟨kb, hkb, _, hekb⟩ := bottom_ext_all_attrs t cs0 H
  obtain ⟨c0, hinit, gch, gdesc, gpar, ganc, htop, hbot⟩ :=
    S.init_ok hord hfuel hkb (fun _ => P.leq_of_ext_eq_extAll hkb hekb) hkt (fun _ => P.leq_of_ext_eq_range hekt)
  obtain ⟨m, hm, iso, hmap⟩ := LC.mapIsort_ok P
  have po1 : PQ.IsPO (leq (sortConcepts cs0)) cs0.length := hlen ▸ Q.isPO
  obtain ⟨hpos, _, h0⟩ := Q.top_of_sorted Hs.top_mem hp
  obtain ⟨_, hl⟩ := Q.bottom_of_sorted Hs.bottom_mem hp
  rw [hlen] at hpos hl
  refine ⟨c0, m, ⟨LC.reindexDict m c0.children, LC.reindexDict m c0.descendants, LC.reindexDict m c0.parents,
    LC.reindexDict m c0.ancestors, c0.top.map (m.getD · 0), c0.bottom.map (m.getD · 0)⟩, hinit, ?_, ?_, ?_, ?_⟩
  · unfold LC.reindex
    simp only [hm]
  · intro j hj
    -- the queries on the sorted list, with its length written as `cs0.length`
    obtain ⟨e2, e4, e1, e3⟩ := Q.relations_eq hlen PQ.isOrder_id hj
    exact ⟨e1 ▸ LC.reindex_good iso gch (fun i hi y => iso.children P.isPO po1 hi y) j hj,
      e2 ▸ LC.reindex_good iso gdesc (fun i hi y => iso.desc hi y) j hj,
      e3 ▸ LC.reindex_good iso gpar (fun i hi y => iso.parents P.isPO po1 hi y) j hj,
      e4 ▸ LC.reindex_good iso ganc (fun i hi y => iso.anc hi y) j hj⟩
  · rw [htop]
    exact congrArg some (hmap kt 0 hkt hpos (h0.trans hekt.symm))
  · rw [hbot]
    exact congrArg some (hmap kb _ hkb (Nat.sub_one_lt (Nat.ne_of_gt hpos)) (hl.trans hekb.symm))

/-- the hypothesis of the pruned versions (a lattice after `del L[i]` / `L.remove(c)`): a duplicate-free list of
    formal concepts of `t`, not necessarily all -/
abbrev IsConceptSub := LQ.IsConceptSub

/-- non-vacuity: the example lattice with two inner concepts deleted (top and bottom kept) -/
example : IsConceptSub exTable [([0, 1, 2], []), ([0, 2], [0]), ([2], [0, 1]), ([0], [0, 2]), ([], [0, 1, 2])] := by
  decide +kernel
example (t : Table) (cs : Lat) (H : IsConceptList t cs) : IsConceptSub t cs := H.toSub

/-- in a pruned lattice the four order queries are still those of extent inclusion *within the list*:
    strictly smaller / larger extents and the lower / upper covers among the remaining concepts -/
theorem pruned_relations (t : Table) (cs : Lat) (H : IsConceptSub t cs)
    (ord : List Nat → List Nat) (ho : PQ.IsOrder ord) (i : Nat) (hi : i < cs.length) :
    descendants cs i = Spec.strictSub (cs.map (·.1)) i ∧
    ancestors cs i = Spec.strictSuper (cs.map (·.1)) i ∧
    children cs ord i = Spec.lowerCovers (cs.map (·.1)) i ∧
    parents cs ord i = Spec.upperCovers (cs.map (·.1)) i :=
  H.relations_eq rfl ho hi

/-- a pruned lattice that keeps the concept of all objects and the concept of all attributes still has exactly
    one top (extent = all objects) and one bottom (extent = objects having every attribute) -/
theorem pruned_top_bottom (t : Table) (cs : Lat) (H : IsConceptSub t cs)
    (htop : (extAll t [], closureAttr t []) ∈ cs)
    (hbot : (extAll t (List.range t.width), closureAttr t (List.range t.width)) ∈ cs) :
    (∃ k, k < cs.length ∧ top cs = .ok k ∧ extOf cs k = List.range t.height) ∧
    (∃ k, k < cs.length ∧ bottom cs = .ok k ∧ extOf cs k = extAll t (List.range t.width)) :=
  ⟨H.exists_top htop, H.exists_bottom hbot⟩

end Fca.C03
