/-
  Props/C06 — transposition, complement and relabelling act as dualities on contexts and lattices;
  the monotone lattice is exactly the set of monotone concepts with a consistent cover relation.
-/
import Fca.Spec.DualityBig
import Fca.Lemmas.DualityStore
import Fca.Props.C01
namespace Fca.C06
open Fca.Spec Fca.Dual

/-- a well-formed context: rectangular table, one name per row / column -/
structure CtxWF (K : Ctx) : Prop where
  wf : K.table.WF
  objs : K.objNames.length = K.nObjects
  attrs : K.attrNames.length = K.nAttributes

/-- `K.T` is constructed (`ctxT K = .ok KT`), its table is the transposed table, its names are
    swapped, and its derivation operators are the exchanged operators of `K` — for every backend,
    every in-range selection and every in-range base list (as *lists*, so also in the same order). -/
theorem transpose_swaps_derivations (K : Ctx) (h : CtxWF K) (hm : 1 ≤ K.nAttributes) :
    ∃ KT, ctxT K = .ok KT ∧ KT.table = transpose K.table ∧
      KT.objNames = K.attrNames ∧ KT.attrNames = K.objNames ∧ KT.backend = K.backend ∧
      (∀ A base, C01.InRange A K.nObjects → C01.BaseInRange base K.nAttributes →
        KT.extensionI A base = K.intentionI A base) ∧
      (∀ B base, C01.InRange B K.nAttributes → C01.BaseInRange base K.nObjects →
        KT.intentionI B base = K.extensionI B base) := by
  let KT : Ctx := ⟨K.backend, transpose K.table, K.attrNames, K.objNames⟩
  have hKn : KT.nObjects = K.nAttributes := transpose_height K.table
  refine ⟨KT, ctxT_ok K hm h.objs h.attrs, rfl, rfl, rfl, rfl, ?_, ?_⟩
  · intro A base hA hbase
    rw [C01.extension_i_exact KT (transpose_wf K.table) A base hA (by rw [hKn]; exact hbase),
      C01.intention_i_exact K h.wf A base hA hbase, hKn]
    exact ext_transpose K.table A _ (OptIdx.getD_lt hbase)
  · intro B base hB hbase
    rw [C01.intention_i_exact KT (transpose_wf K.table) B base (by rw [hKn]; exact hB) hbase,
      C01.extension_i_exact K h.wf B base hB hbase]
    exact int_transpose K.table h.wf B _ (OptIdx.getD_lt hbase)

/-- base-list-free reading: the derivation operators of the transposed table are the exchanged
    operators (specification level, any well-formed table). -/
theorem transpose_swaps_derivations_spec (t : Table) (hwf : t.WF) (A B : List Nat) :
    extAll (transpose t) A = intAll t A ∧ intAll (transpose t) B = extAll t B :=
  ⟨extAll_transpose t A, intAll_transpose t hwf B⟩

/-- `K.T.T = K`: table, both name lists and the backend (every backend; `n, m ≥ 1`). -/
theorem transpose_involutive (K : Ctx) (h : CtxWF K) (hn : 1 ≤ K.nObjects) (hm : 1 ≤ K.nAttributes) :
    ∃ KT, ctxT K = .ok KT ∧ ctxT KT = .ok K := by
  refine ⟨_, ctxT_ok K hm h.objs h.attrs, ?_⟩
  rw [ctxT_ok (Ctx.mk K.backend (transpose K.table) K.attrNames K.objNames) hn
    (h.attrs.trans (transpose_height K.table).symm) h.objs, transpose_transpose K.table h.wf]

/-- `~K` is constructed on every well-formed context: complemented table, the object names of `K`,
    every attribute name toggled (no hypothesis on the names). -/
theorem complement_exec (K : Ctx) (h : CtxWF K) (hn : 1 ≤ K.nObjects) :
    ctxNot K = .ok ⟨K.backend, complement K.table, K.objNames, K.attrNames.map toggleNot⟩ := by
  rw [ctxNot, tableNot_eq_complement K.backend K.table h.wf hn]
  exact mkCtx_ok _ (h.objs.trans (complement_height _).symm) ((List.length_map _).trans h.attrs)

theorem CtxWF.complement {K : Ctx} (h : CtxWF K) :
    CtxWF ⟨K.backend, complement K.table, K.objNames, K.attrNames.map toggleNot⟩ :=
  ⟨complement_wf _ h.wf, h.objs.trans (complement_height K.table).symm, (List.length_map _).trans h.attrs⟩

/-- the name hypothesis of `complement_involutive` is needed: the toggle is an involution on a name
    *iff* the name does not start with `"not not "`. -/
theorem complement_names_hypothesis_needed (s : String) :
    toggleNot (toggleNot s) = s ↔ NameOK s := by
  rw [nameOK_iff, ← toggleL_toggleL_iff, ← toggleNot_toList, ← toggleNot_toList]
  exact String.toList_inj.symm

/-- the hypothesis on attribute names of `complement_involutive`: no name starts with `"not not "` -/
def NamesOK (names : List String) : Prop := ∀ s ∈ names, NameOK s

/-- `~~K = K`: table, names (the `'not '` prefix toggled twice) and backend — every backend,
    `n ≥ 1`, under the explicit hypothesis that no attribute name starts with `"not not "`. -/
theorem complement_involutive (K : Ctx) (h : CtxWF K) (hn : 1 ≤ K.nObjects)
    (hnames : NamesOK K.attrNames) :
    ∃ KN, ctxNot K = .ok KN ∧ KN.table = complement K.table ∧
      KN.attrNames = K.attrNames.map toggleNot ∧ ctxNot KN = .ok K := by
  refine ⟨_, complement_exec K h hn, rfl, rfl, ?_⟩
  rw [complement_exec _ h.complement (Nat.le_trans hn (Nat.le_of_eq (complement_height K.table).symm)),
    complement_complement, map_map_cancel fun s hs => (complement_names_hypothesis_needed s).mpr (hnames s hs)]

/-- … and the excluded point really breaks `~~K = K` (`'not not a' ↦ 'not a' ↦ 'a'`). -/
example : toggleNot "not not a" = "not a" ∧ toggleNot "not a" = "a" ∧ ¬ NameOK "not not a" := by
  decide +kernel

private def exBad : Ctx :=
  { backend := .lists, table := ⟨[[true, false]], 2⟩, objNames := ["g0"], attrNames := ["not not a", "b"] }

private def attrNamesOf : Except PyErr Ctx → Option (List String)
  | .ok K => some K.attrNames
  | .error _ => none
private def isValueError : Except PyErr Bool → Bool
  | .error .ValueError => true
  | _ => false

/-- a concrete well-formed context outside `NamesOK` on which `~~K` has other attribute names than
    `K` (so `~~K == K` raises `ValueError` in the model as in the implementation). -/
example : attrNamesOf (ctxNot exBad >>= ctxNot) = some ["a", "b"] ∧
    isValueError ((ctxNot exBad >>= ctxNot) >>= fun K2 => ctxEq K2 exBad) = true := by decide +kernel

/-- the lattice of the transposed context is the transposed lattice, as sets of concepts:
    `(B, A)` is a concept of `tᵀ` iff `(A, B)` is a concept of `t`. -/
theorem lattice_of_transpose (t : Table) (hwf : t.WF) (A B : List Nat) :
    (B, A) ∈ allConcepts (transpose t) ↔ (A, B) ∈ allConcepts t := by
  rw [mem_allConcepts, mem_allConcepts, isConcept_transpose t hwf]

/-- … and the executable `ConceptLattice.T` (swap the fields, hand `parents_dict` over as
    `children_dict`) maps any lattice that lists exactly the concepts of `t` with the cover relation
    of extent inclusion to one that lists exactly the concepts of `tᵀ` with the cover relation of
    *its* extent inclusion — the order is reversed. -/
theorem lattice_of_transpose_exec (t : Table) (hwf : t.WF) (L : Lat) (h : IsLatticeOf t L) :
    IsLatticeOf (transpose t) (latT L) ∧ (latT L).exts = L.ints ∧ (latT L).ints = L.exts ∧
      ∀ i j, i < L.concepts.length → j < L.concepts.length →
        (j ∈ dget (latT L).children i ↔ i ∈ dget L.children j) := by
  have hT := isLatticeOf_latT t hwf L h
  refine ⟨hT, latT_exts L, latT_ints L, fun i j hi hj => ?_⟩
  rw [mem_dget_children hT.total hT.covers (i := i) (by rw [latT, List.length_map]; exact hi) j,
    mem_dget_children h.total h.covers hj i, latT_exts, ← h.upperCovers_exts hi]
  exact (mem_upperCovers_iff L.exts ((exts_length L).symm ▸ hi)).trans (and_iff_right ((exts_length L).symm ▸ hj))

/-- the hypothesis of `lattice_of_transpose_exec` is satisfiable for every table -/
theorem lattice_of_transpose_nonvacuous (t : Table) : IsLatticeOf t (specLat t) := by
  have hpairs : (specLat t).pairs = allConcepts t := (List.map_map ..).trans (List.map_id _)
  have hexts : (specLat t).exts = (allConcepts t).map (·.1) := List.map_map ..
  obtain ⟨hk, ht, hc⟩ := map_range_covers (L := specLat t) rfl (List.length_map _)
    (cov := lowerCovers (specLat t).exts) fun i _ j => by rw [hexts]
  exact ⟨fun A B => by rw [hpairs, mem_allConcepts], hk, ht, hc⟩

/-- relabelling (set level): for permutations `π` of the rows and `σ` of the columns,
    `(A', B')` is a concept of the permuted table `K[π, σ]` iff its image `(π[A'], σ[B'])` is a
    concept of `t`. -/
theorem relabel_lattice (t : Table) (π σ : List Nat) (hπ : π.Perm (List.range t.height))
    (hσ : σ.Perm (List.range t.width)) (A' B' : List Nat) :
    SetConcept (permute t π σ) A' B' ↔
      (SetConcept t (A'.map (at_ π)) (B'.map (at_ σ)) ∧ (∀ r ∈ A', r < t.height) ∧ (∀ c ∈ B', c < t.width)) := by
  have hπl := ListAux.length_of_perm_range hπ
  have hσl := ListAux.length_of_perm_range hσ
  -- once both lists are known to be in range, the entries of the permuted table can be read off `t`
  have key : (∀ r ∈ A', r < t.height) → (∀ c ∈ B', c < t.width) →
      (SetConcept (permute t π σ) A' B' ↔ SetConcept t (A'.map (at_ π)) (B'.map (at_ σ))) := by
    intro hA' hB'
    unfold SetConcept
    rw [permute_height, permute_width, hπl, hσl]
    refine and_congr
      ((forall_congr' fun r => iff_congr Iff.rfl (and_congr_right fun hr => ?_)).trans (perm_image_iff hπ hA' _))
      ((forall_congr' fun c => iff_congr Iff.rfl (and_congr_right fun hc => ?_)).trans (perm_image_iff hσ hB' _))
    · exact (forall₂_congr fun c hc => by
        rw [permute_get t π σ (hπl ▸ hr) (hσl ▸ hB' c hc)]).trans List.forall_mem_map.symm
    · exact (forall₂_congr fun r hr => by
        rw [permute_get t π σ (hπl ▸ hA' r hr) (hσl ▸ hc)]).trans List.forall_mem_map.symm
  constructor
  · intro h
    have hA' : ∀ r ∈ A', r < t.height := fun r hr => by
      have := ((h.1 r).mp hr).1
      rwa [permute_height, hπl] at this
    have hB' : ∀ c ∈ B', c < t.width := fun c hc => by
      have := ((h.2 c).mp hc).1
      rwa [permute_width, hσl] at this
    exact ⟨(key hA' hB').mp h, hA', hB'⟩
  · rintro ⟨h, hA', hB'⟩
    exact (key hA' hB').mpr h

/-- relabelling (list level, the form the concept lists have): the canonical (ascending) image
    of a concept of the permuted table is a concept of `t` and conversely. -/
theorem relabel_lattice_lists (t : Table) (π σ : List Nat) (hπ : π.Perm (List.range t.height))
    (hσ : σ.Perm (List.range t.width)) (A' B' : List Nat)
    (hA' : ∀ r ∈ A', r < t.height) (hB' : ∀ c ∈ B', c < t.width) :
    isConcept (permute t π σ) (canon t.height A') (canon t.width B') =
      isConcept t (canon t.height (A'.map (at_ π))) (canon t.width (B'.map (at_ σ))) := by
  have hmA : ∀ g ∈ A'.map (at_ π), g < t.height :=
    List.forall_mem_map.mpr fun r hr => ListAux.getD_lt_of_perm_range hπ (hA' r hr)
  have hmB : ∀ a ∈ B'.map (at_ σ), a < t.width :=
    List.forall_mem_map.mpr fun c hc => ListAux.getD_lt_of_perm_range hσ (hB' c hc)
  rw [Bool.eq_iff_iff, isConcept_iff_setConcept, isConcept_iff_setConcept,
    permute_height, permute_width, ListAux.length_of_perm_range hπ, ListAux.length_of_perm_range hσ]
  simp only [canon_canon, and_true]
  rw [setConcept_congr _ (mem_canon_of_lt hA') (mem_canon_of_lt hB'),
    setConcept_congr _ (mem_canon_of_lt hmA) (mem_canon_of_lt hmB), relabel_lattice t π σ hπ hσ]
  exact ⟨fun h => h.1, fun h => ⟨h, hA', hB'⟩⟩

/-- relabelling, as a statement about the whole concept lists: the concepts of `t` are exactly the
    canonical images of the concepts of the permuted table (so every exact algorithm, run on
    `K[π, σ]`, returns the relabelled lattice). -/
theorem relabel_lattice_allConcepts (t : Table) (π σ : List Nat) (hπ : π.Perm (List.range t.height))
    (hσ : σ.Perm (List.range t.width)) (A B : List Nat) :
    (A, B) ∈ allConcepts t ↔
      ∃ A' B', (A', B') ∈ allConcepts (permute t π σ) ∧
        A = canon t.height (A'.map (at_ π)) ∧ B = canon t.width (B'.map (at_ σ)) := by
  constructor
  · intro h
    rw [mem_allConcepts] at h
    obtain ⟨_, cA, cB⟩ := (isConcept_iff_setConcept t).mp h
    refine ⟨preimage t.height π A, preimage t.width σ B, ?_, ?_, ?_⟩
    · rw [mem_allConcepts]
      have := relabel_lattice_lists t π σ hπ hσ _ _ (preimage_lt _ π A) (preimage_lt _ σ B)
      rw [canon_map_preimage hπ, canon_map_preimage hσ, cA, cB, h, canon_preimage, canon_preimage] at this
      exact this
    · rw [canon_map_preimage hπ, cA]
    · rw [canon_map_preimage hσ, cB]
  · rintro ⟨A', B', h, rfl, rfl⟩
    rw [mem_allConcepts] at h ⊢
    obtain ⟨hs, cA, cB⟩ := (isConcept_iff_setConcept _).mp h
    rw [permute_height, ListAux.length_of_perm_range hπ] at cA
    rw [permute_width, ListAux.length_of_perm_range hσ] at cB
    obtain ⟨_, hA', hB'⟩ := (relabel_lattice t π σ hπ hσ A' B').mp hs
    rw [← relabel_lattice_lists t π σ hπ hσ A' B' hA' hB', cA, cB]
    exact h

/-- … and the relabelling preserves the order (extent inclusion), hence the cover relation. -/
theorem relabel_lattice_order (t : Table) (π : List Nat) (hπ : π.Perm (List.range t.height))
    (A₁ A₂ : List Nat) (h₁ : ∀ r ∈ A₁, r < t.height) (h₂ : ∀ r ∈ A₂, r < t.height) :
    Spec.subset (A₁.map (at_ π)) (A₂.map (at_ π)) = Spec.subset A₁ A₂ := by
  rw [Bool.eq_iff_iff, Trace.subset_iff, Trace.subset_iff, List.forall_mem_map]
  refine forall₂_congr fun r hr => ⟨fun h => ?_, fun h => List.mem_map.mpr ⟨r, h, rfl⟩⟩
  obtain ⟨r', hr', heq⟩ := List.mem_map.mp h
  rw [← ListAux.getD_inj_of_perm_range hπ (h₂ r' hr') (h₁ r hr) heq]
  exact hr'

/-- the executable `K[π, σ]` (every backend) is the permuted table with the permuted names. -/
theorem getitem_is_permute (K : Ctx) (π σ : List Nat) (hn : 1 ≤ K.nObjects)
    (hπ : π.Perm (List.range K.nObjects)) (hσ : σ.Perm (List.range K.nAttributes)) :
    ctxGet K π σ = .ok ⟨K.backend, permute K.table π σ,
      π.map (fun i => K.objNames.getD i ""), σ.map (fun j => K.attrNames.getD j "")⟩ := by
  rw [ctxGet, any_ge_eq_false hπ, any_ge_eq_false hσ, if_neg (by decide),
    subtable_eq_permute K.backend K.table π σ (by rw [ListAux.length_of_perm_range hπ]; exact hn)]
  exact mkCtx_ok _ ((List.length_map _).trans (permute_height _ π σ).symm) (List.length_map _)

/-- the monotone lattice consists exactly of the monotone concepts: the result of the loop of
    `_from_context_monotone`, run on *any* lattice `L` that lists exactly the concepts of the
    complemented table, lists exactly the pairs `(A, B)` with `A = {g | ∃ b ∈ B, has g b}` and
    `B = {a | ∀ g ∉ A, ¬ has g a}`. -/
theorem monotone_lattice_exact (K : Ctx) (h : CtxWF K) (hash : Int) (L : Lat)
    (hL : ∀ C B, (C, B) ∈ L.pairs ↔ isConcept (complement K.table) C B = true) (A B : List Nat) :
    (A, B) ∈ (fromContextMonotone K hash L).pairs ↔
      (A = extMonoAll K.table B ∧ B = intMonoAll K.table A) := by
  rw [fromContextMonotone_pairs]
  exact mem_map_compl_iff K.table h.wf hL

/-- the defining conditions of a monotone concept, read as sets -/
theorem monotone_concept_meaning (t : Table) (A B : List Nat) :
    (A = extMonoAll t B ∧ B = intMonoAll t A) →
      (∀ g, g ∈ A ↔ g < t.height ∧ ∃ b ∈ B, t.get g b = true) ∧
      (∀ a, a ∈ B ↔ a < t.width ∧ ∀ g, g < t.height → g ∉ A → t.get g a = false) := by
  rintro ⟨hA, hB⟩
  refine ⟨fun g => ?_, fun a => ?_⟩
  · rw [hA]
    exact mem_extMonoAll t
  · conv => lhs; rw [hB]
    simp only [intMonoAll, intMono, List.mem_filter, List.mem_range, List.all_eq_true, Bool.or_eq_true,
      List.contains_iff_mem, Bool.not_eq_true']
    exact and_congr_right fun _ => forall₂_congr fun _ _ => Decidable.or_iff_not_imp_left

/-- the brute-force oracle `monoConcepts` used by the driver lists exactly the monotone concepts -/
theorem monoConcepts_exact (t : Table) (A B : List Nat) :
    (A, B) ∈ monoConcepts t ↔ (A = extMonoAll t B ∧ B = intMonoAll t A) := by
  rw [← isMonoConcept_iff]
  unfold monoConcepts
  simp only [List.mem_flatMap, List.mem_map, List.mem_filter, Prod.mk.injEq]
  constructor
  · rintro ⟨A', _, B', ⟨_, h⟩, rfl, rfl⟩
    exact h
  · intro h
    have h' := (isMonoConcept_iff t).mp h
    refine ⟨A, ?_, B, ⟨?_, h⟩, rfl, rfl⟩
    · rw [h'.1]
      exact filter_mem_sublists _ _
    · rw [h'.2]
      exact filter_mem_sublists _ _

/-- the children relation the monotone lattice inherits is the cover relation of the order monotone
    concepts compare by (`c ≤ d` iff `extent d ⊆ extent c`): `j ∈ children[i]` iff the new extent
    of `j` is a minimal strict superset of the new extent of `i`. -/
theorem monotone_cover_consistent (K : Ctx) (h : CtxWF K) (hash : Int) (L : Lat)
    (hL : IsLatticeOf (complement K.table) L) :
    IsMonoLatticeOf K.table (fromContextMonotone K hash L) ∧
    ∀ i, i < L.concepts.length → ∀ j,
      (j ∈ dget (fromContextMonotone K hash L).children i ↔ j ∈ dget L.children i) ∧
      (j ∈ dget (fromContextMonotone K hash L).children i ↔
        j ∈ monoLowerCovers (fromContextMonotone K hash L).exts i) := by
  have hR := isMonoLatticeOf_fromContextMonotone K h.wf hash L hL
  refine ⟨hR, fun i hi j => ⟨?_, ?_⟩⟩
  · show j ∈ dget L.childrenDict i ↔ _
    rw [Lat.childrenDict, dget_map_range _ _ hi]
  · exact mem_dget_children hR.total hR.covers (by rw [fromContextMonotone, List.length_map]; exact hi) j

/-- names of a monotone concept: the extent names are the object names of the new extent, and —
    under `NamesOK` — the intent names (toggled back from those of `~K`) are the attribute names of `K`. -/
theorem monotone_names (K : Ctx) (h : CtxWF K) (hnames : NamesOK K.attrNames) (hash : Int) (c : Concept)
    (hin : ∀ a ∈ c.intI, a < K.nAttributes)
    (hc : c.int = c.intI.map fun a => (K.attrNames.map toggleNot).getD a "") :
    (monoConcept K hash c).ext = (monoConcept K hash c).extI.map (fun g => K.objNames.getD g "") ∧
    (monoConcept K hash c).int = c.intI.map (fun a => K.attrNames.getD a "") := by
  refine ⟨rfl, ?_⟩
  show c.int.map toggleNot = _
  rw [hc, List.map_map]
  apply List.map_congr_left
  intro a ha
  have hlt : a < K.attrNames.length := by
    rw [h.attrs]
    exact hin a ha
  rw [Function.comp_apply, ListAux.getD_map _ _ _ "" "" hlt]
  exact (complement_names_hypothesis_needed _).mpr (hnames _ (ListAux.getD_mem _ _ "" hlt))

/-- the whole of `_from_context_monotone`, for *every exact algorithm* `algo` (one that returns the
    concept lattice of the context it is given) and every backend: the result is the monotone lattice. -/
theorem monotone_lattice_any_exact_algorithm (algo : Ctx → Lat) (hashFixed : Ctx → Int)
    (halgo : ∀ K', CtxWF K' → IsLatticeOf K'.table (algo K'))
    (K : Ctx) (h : CtxWF K) (hn : 1 ≤ K.nObjects) :
    ∃ R, fromContextMonotoneWith algo hashFixed K = .ok R ∧ IsMonoLatticeOf K.table R := by
  refine ⟨_, by rw [fromContextMonotoneWith, complement_exec K h hn]; rfl, ?_⟩
  apply isMonoLatticeOf_fromContextMonotone K h.wf
  exact halgo _ h.complement

/-- soundness of the two executable oracles the driver applies to the implementation's lattices:
    `sameSet` decides equality as sets, `coverOK` decides "children[i] = lower covers of i" for the
    (reversed, when `rev`) extent-inclusion order. -/
theorem oracles_sound (rev : Bool) (xs ys : List (List Nat × List Nat)) (exts children : List (List Nat)) :
    (sameSet xs ys = true ↔ ∀ p, p ∈ xs ↔ p ∈ ys) ∧
    (coverOK rev exts children = true ↔
      children.length = exts.length ∧ ∀ i, i < exts.length → ∀ j,
        (j ∈ children.getD i [] ↔
          j ∈ (if rev = true then monoLowerCovers exts i else lowerCovers exts i))) :=
  ⟨sameSet_iff xs ys, relOK_iff (fun e i => if rev = true then monoLowerCovers e i else lowerCovers e i) exts children⟩

/-- soundness of the further oracles used on lattices after a history of queries / mutations and
    on large tables: `relOK strictDown` / `relOK strictUp` decide "rel[i] = all strictly smaller /
    larger elements", `relOK upperCovers` decides "rel[i] = upper covers of i", and the cheap
    enumeration `monoConceptsFast` lists exactly the monotone concepts. -/
theorem order_oracles_sound (f : List (List Nat) → Nat → List Nat) (exts rel : List (List Nat))
    (t : Table) (hwf : t.WF) (A B : List Nat) :
    (relOK f exts rel = true ↔
      rel.length = exts.length ∧ ∀ i, i < exts.length → ∀ j, (j ∈ rel.getD i [] ↔ j ∈ f exts i)) ∧
    (∀ i j, j ∈ strictDown exts i ↔ j < exts.length ∧ ssubset (exts.getD j []) (exts.getD i []) = true) ∧
    (∀ i j, j ∈ strictUp exts i ↔ j < exts.length ∧ ssubset (exts.getD i []) (exts.getD j []) = true) ∧
    ((A, B) ∈ monoConceptsFast t ↔ (A = extMonoAll t B ∧ B = intMonoAll t A)) := by
  refine ⟨relOK_iff f exts rel, fun i j => by rw [strictDown, List.mem_filter, List.mem_range],
    fun i j => by rw [strictUp, List.mem_filter, List.mem_range], ?_⟩
  exact mem_map_compl_iff t hwf fun _ _ => mem_allConcepts _

/-! ### class H6 (near-miss spellings): the name toggle looks at the exact prefix `'not '` and at nothing else -/

/-- the toggle, read without `drop`: a name that starts with exactly `n,o,t,blank` IS `'not '` + its toggle;
    the toggle of every other name is `'not '` + the name.  Nothing but the exact four-character prefix
    is looked at. -/
theorem toggle_exact_prefix (s : String) :
    (notPrefix <+: s.toList → notPrefix ++ (toggleNot s).toList = s.toList) ∧
    (¬ notPrefix <+: s.toList → (toggleNot s).toList = notPrefix ++ s.toList) := by
  rw [toggleNot_toList]
  exact ⟨toggleL_of_prefix, toggleL_of_not_prefix⟩

/-- near misses: a name whose first four characters are not exactly `'not '` — shorter than four characters
    (`'not'`, `''`), another capitalisation (`'Not x'`, `'NOT x'`), another separator (`'not_x'`, `'not-x'`,
    `'not\tx'`, `'notx'`) — gets the prefix, is a valid name (`NameOK`), and toggling twice returns it. -/
theorem toggle_near_miss (s : String) (h : s.toList.take 4 ≠ notPrefix) :
    (toggleNot s).toList = notPrefix ++ s.toList ∧ NameOK s ∧ toggleNot (toggleNot s) = s := by
  have hp : ¬ notPrefix <+: s.toList := by
    intro hp
    have := List.prefix_iff_eq_take.mp hp
    rw [notPrefix_length] at this
    exact h this.symm
  exact ⟨(toggle_exact_prefix s).2 hp, nameOK_of_not_prefix hp,
    (complement_names_hypothesis_needed s).mpr (nameOK_of_not_prefix hp)⟩

/-- the attribute names of `~K`, position by position: the exact prefix is stripped where it is present and
    added everywhere else; the object names are those of `K`. -/
theorem complement_names_exact_prefix (K : Ctx) (h : CtxWF K) (hn : 1 ≤ K.nObjects) :
    ∃ KN, ctxNot K = .ok KN ∧ KN.objNames = K.objNames ∧ KN.attrNames.length = K.attrNames.length ∧
      ∀ j, j < K.attrNames.length →
        (notPrefix <+: (K.attrNames.getD j "").toList →
          notPrefix ++ (KN.attrNames.getD j "").toList = (K.attrNames.getD j "").toList) ∧
        (¬ notPrefix <+: (K.attrNames.getD j "").toList →
          (KN.attrNames.getD j "").toList = notPrefix ++ (K.attrNames.getD j "").toList) := by
  refine ⟨_, complement_exec K h hn, rfl, List.length_map _, fun j hj => ?_⟩
  rw [ListAux.getD_map _ _ _ "" "" hj]
  exact toggle_exact_prefix _

/-- the near misses used by the harness are outside the prefix (and one exact form is inside) -/
example : (["Not x", "NOT x", "nOt x", "not_x", "not-x", "not\tx", "notx", "not", "no", "", "not.x", " not x",
    "not x", "Not not x", "notnot x"].all fun s => decide (s.toList.take 4 ≠ notPrefix)) = true ∧
    "not x".toList.take 4 = notPrefix ∧ "not ".toList.take 4 = notPrefix ∧ "not not".toList.take 4 = notPrefix := by
  decide +kernel

example : toggleNot "Not x" = "not Not x" ∧ toggleNot "not_x" = "not not_x" ∧ toggleNot "not" = "not not" ∧
    toggleNot "not not" = "not" ∧ toggleNot "not " = "" ∧ toggleNot "" = "not " ∧ toggleNot "not Not x" = "Not x" ∧
    NameOK "not not" ∧ NameOK "not  not x" ∧ ¬ NameOK "not not " := by
  decide +kernel

/-! ### class H5 (derived-object independence): context objects are values; a derived object and its source
    never influence each other after the derivation -/

/-- FRAME PROPERTY.  Whatever happens in a history over a store of context objects — deriving `K.T`, `~K`,
    `K[rows, cols]` from any object, creating new objects, calling the setters of any object — an object that
    existed at the start holds at the end exactly what its OWN setter calls (in their order) make of its
    initial content. -/
theorem store_independence (S S' : List Ctx) (ops : List HOp) (h : runStore S ops = .ok S')
    (j : Nat) (K : Ctx) (hK : S[j]? = some K) :
    ∃ K', applyMuts K (ownMuts j ops) = .ok K' ∧ S'[j]? = some K' := by
  induction ops generalizing S K with
  | nil =>
    cases h
    exact ⟨K, rfl, hK⟩
  | cons op ops ih =>
    obtain ⟨S1, hs, h⟩ := runStore_cons_ok.mp h
    obtain ⟨K1, h1, h2⟩ := stepStore_frame hs hK
    rw [h2]
    exact ih S1 h K1 h1

/-- … and an object derived in the middle of a history holds at the end what its own later setter calls make
    of the derivation of the source's content AT THE MOMENT of the derivation: later changes of the source
    (or of anything else) do not reach it. -/
theorem derived_object_independent (S S' : List Ctx) (pre post : List HOp) (src : Nat) (d : Derive)
    (h : runStore S (pre ++ HOp.derive src d :: post) = .ok S') :
    ∃ Smid K D D', runStore S pre = .ok Smid ∧ Smid[src]? = some K ∧ derive K d = .ok D ∧
      applyMuts D (ownMuts Smid.length post) = .ok D' ∧ S'[Smid.length]? = some D' := by
  obtain ⟨Smid, hpre, h⟩ := runStore_append_ok.mp h
  obtain ⟨S1, hs, hpost⟩ := runStore_cons_ok.mp h
  obtain ⟨K, D, hsrc, hd, rfl⟩ := stepStore_derive_ok hs
  obtain ⟨D', h1, h2⟩ := store_independence _ S' post hpost Smid.length D List.getElem?_concat_length
  exact ⟨Smid, K, D, D', hpre, hsrc, hd, h1, h2⟩

/-- LAST WRITE WINS.  After any sequence of valid setter calls (names of the right length, a table of the same
    shape) a context holds, field by field, the value of the last assignment to that field (its original
    value if there was none), and is well-formed with the same shape. -/
theorem history_last_write_wins (K : Ctx) (h : CtxWF K) (hn : 1 ≤ K.nObjects) (muts : List Mut)
    (hv : ∀ x ∈ muts, MutValid K.nObjects K.nAttributes x) :
    applyMuts K muts = .ok (finalCtx K muts) ∧ CtxWF (finalCtx K muts) ∧
    (finalCtx K muts).nObjects = K.nObjects ∧ (finalCtx K muts).nAttributes = K.nAttributes := by
  obtain ⟨h1, h2⟩ := applyMuts_final hn muts K ⟨h.wf, rfl, rfl, h.objs, h.attrs⟩ hv
  exact ⟨h1, ⟨h2.wf, h2.objs.trans h2.h.symm, h2.attrs.trans h2.w.symm⟩, h2.h, h2.w⟩

/-- ASKING AGAIN.  `K.T`, `~K` and `K[π, σ]` are functions of the CURRENT content of `K` only: after any
    history of renamings / table replacements they are the transposed / complemented / permuted FINAL table
    with the FINAL names (exchanged / toggled / permuted) — whatever was derived, renamed or asked before. -/
theorem derive_after_history (K : Ctx) (h : CtxWF K) (hn : 1 ≤ K.nObjects) (hm : 1 ≤ K.nAttributes)
    (muts : List Mut) (hv : ∀ x ∈ muts, MutValid K.nObjects K.nAttributes x) :
    applyMuts K muts = .ok (finalCtx K muts) ∧
    ctxT (finalCtx K muts) = .ok ⟨K.backend, transpose (finalCtx K muts).table,
      (finalCtx K muts).attrNames, (finalCtx K muts).objNames⟩ ∧
    ctxNot (finalCtx K muts) = .ok ⟨K.backend, complement (finalCtx K muts).table,
      (finalCtx K muts).objNames, (finalCtx K muts).attrNames.map toggleNot⟩ ∧
    ∀ π σ, π.Perm (List.range K.nObjects) → σ.Perm (List.range K.nAttributes) →
      ctxGet (finalCtx K muts) π σ = .ok ⟨K.backend, permute (finalCtx K muts).table π σ,
        π.map (fun i => (finalCtx K muts).objNames.getD i ""),
        σ.map (fun j => (finalCtx K muts).attrNames.getD j "")⟩ := by
  obtain ⟨h1, hwf, hno, hna⟩ := history_last_write_wins K h hn muts hv
  exact ⟨h1, ctxT_ok _ (by rw [hna]; exact hm) hwf.objs hwf.attrs,
    complement_exec _ hwf (by rw [hno]; exact hn), fun π σ hπ hσ =>
      getitem_is_permute _ π σ (by rw [hno]; exact hn) (by rw [hno]; exact hπ) (by rw [hna]; exact hσ)⟩

/-- the oracles used beyond the brute-force scope (64/65, 128/129 objects or attributes) are exact:
    `allConceptsFast` (enumeration over the smaller side) lists the formal concepts, `monoConceptsFast2`
    (through the complemented table) the monotone concepts. -/
theorem big_oracles_sound (t : Table) (hwf : t.WF) (A B : List Nat) :
    ((A, B) ∈ allConceptsFast t ↔ (A, B) ∈ allConcepts t) ∧
    ((A, B) ∈ monoConceptsFast2 t ↔ (A = extMonoAll t B ∧ B = intMonoAll t A)) := by
  refine ⟨by rw [mem_allConceptsFast t hwf, mem_allConcepts], ?_⟩
  exact mem_map_compl_iff t hwf fun _ _ => mem_allConceptsFast (complement t) (complement_wf t hwf)

/-! ### non-vacuity: the hypotheses are met by a concrete, non-trivial context -/

private def exK : Ctx :=
  { backend := .bitarray, table := ⟨[[true, false, true], [true, true, false]], 3⟩,
    objNames := ["g0", "g1"], attrNames := ["a", "not b", "c"] }

example : CtxWF exK ∧ 1 ≤ exK.nObjects ∧ 1 ≤ exK.nAttributes ∧ NamesOK exK.attrNames := by
  refine ⟨⟨by decide +kernel, by decide +kernel, by decide +kernel⟩, by decide +kernel, by decide +kernel, ?_⟩
  show ∀ s ∈ exK.attrNames, NameOK s
  decide +kernel

example : [1, 0].Perm (List.range exK.table.height) ∧ [2, 0, 1].Perm (List.range exK.table.width) := by
  decide +kernel

example : (fromContextMonotone exK 7 (specLat (complement exK.table))).pairs
    = [([], []), ([0], [2]), ([1], [1]), ([0, 1], [0, 1, 2])] := by decide +kernel

/-- a history over a store: `Kt = K.T`; rename `Kt`; rename `K`; replace `K`'s table; ask `K.T`, `~K` and `Kt.T`
    again — every object answers for its own current content. -/
private def exHist : List HOp :=
  [.derive 0 .T, .set 1 (.objs ["x", "Not y", "not_z"]), .set 0 (.attrs ["not a", "Not b", "not"]),
   .set 0 (.data [[false, false, true], [true, true, true]]), .derive 0 .T, .derive 0 .not, .derive 1 .T]

private def storeView : Except PyErr (List Ctx) → List (List Row × List String × List String)
  | .ok S => S.map fun K => (K.table.data, K.objNames, K.attrNames)
  | .error _ => []

example : storeView (runStore [exK] exHist) =
    [([[false, false, true], [true, true, true]], ["g0", "g1"], ["not a", "Not b", "not"]),
     ([[true, true], [false, true], [true, false]], ["x", "Not y", "not_z"], ["g0", "g1"]),
     ([[false, true], [false, true], [true, true]], ["not a", "Not b", "not"], ["g0", "g1"]),
     ([[true, true, false], [false, false, false]], ["g0", "g1"], ["a", "not Not b", "not not"]),
     ([[true, false, true], [true, true, false]], ["g0", "g1"], ["x", "Not y", "not_z"])] := by decide +kernel

example : ownMuts 0 exHist = [.attrs ["not a", "Not b", "not"], .data [[false, false, true], [true, true, true]]] ∧
    (∀ x ∈ ownMuts 0 exHist, MutValid exK.nObjects exK.nAttributes x) := by
  refine ⟨rfl, ?_⟩
  intro x hx
  simp only [exHist, ownMuts] at hx
  simp at hx
  rcases hx with rfl | rfl
  · show ["not a", "Not b", "not"].length = 3
    rfl
  · refine ⟨rfl, ?_⟩
    intro r hr
    simp at hr
    rcases hr with rfl | rfl <;> rfl

end Fca.C06
