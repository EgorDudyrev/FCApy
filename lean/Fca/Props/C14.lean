/-
  Props/C14 — many-valued contexts: lattice and binarisation preserve the closure system.
-/
import Fca.Lemmas.MVLattice
import Fca.Lemmas.ExceptEq
namespace Fca.C14
open Fca.MV

def InRange (xs : List Nat) (n : Nat) : Prop := ∀ x ∈ xs, x < n

instance (xs : List Nat) (n : Nat) : Decidable (InRange xs n) := by unfold InRange; infer_instance

/-- `extension_i(descriptions_i, base)` = the objects of the base (default: all objects, in context order)
    that the description of *every* named column covers, in the order of the base — whatever the
    iteration order of the dict, and although the loop stops early once nothing is left.  FULL. -/
theorem mv_ext_conjunctive (K : MVCtx) (desc : Desc) (base : Option (List Nat)) (hwt : K.WellTyped desc) :
    K.extensionI desc base = .ok ((base.getD (List.range K.nObjects)).filter fun g =>
      desc.all fun p => match K.cols[p.1]? with
        | some c => c.covers p.2 g
        | none => false) :=
  K.extensionI_eq desc base hwt

/-- `intention_i(A)` is a well-typed description with one entry per column, in column order, and
    `extension_i(intention_i(A))` is the set of objects covered by every column's own description of `A`. -/
theorem mv_int_columnwise (K : MVCtx) (A : List Nat) :
    K.WellTyped (K.intentionI A) ∧
    (K.intentionI A).map (·.1) = List.range K.cols.length ∧
    K.cl A = .ok ((List.range K.nObjects).filter fun g =>
      (K.intentionI A).all fun p => match K.cols[p.1]? with
        | some c => c.covers p.2 g
        | none => false) := by
  refine ⟨K.wellTyped_intentionI A, ?_, K.cl_eq A⟩
  unfold MVCtx.intentionI
  rw [List.map_map]
  exact (List.zipIdx_map_snd ..).trans List.range_eq_range'.symm

/-- closure laws: on a non-empty in-range object list `cl = extension_i ∘ intention_i` never raises, is
    extensive, monotone, idempotent, independent of the order of the list, and `intention_i(A)` is the most
    specific description covering `A` (every well-typed description covering `A` covers `cl A`).  FULL. -/
theorem mv_closure_laws (K : MVCtx) (A : List Nat) (hne : A ≠ []) (hA : InRange A K.nObjects) :
    ∃ X, K.cl A = .ok X ∧
      (∀ g ∈ A, g ∈ X) ∧
      (∀ B, (∀ g ∈ A, g ∈ B) → ∃ Y, K.cl B = .ok Y ∧ ∀ g ∈ X, g ∈ Y) ∧
      K.cl X = .ok X ∧
      (∀ B, B ≠ [] → (∀ g, g ∈ A ↔ g ∈ B) → K.cl B = .ok X) ∧
      (∀ desc, K.WellTyped desc → (∀ g ∈ A, K.coversAll desc g = true) → ∀ g ∈ X, K.coversAll desc g = true) := by
  refine ⟨K.clSpec A, K.cl_eq A, K.clSpec_extensive A hA, ?_, ?_, ?_, ?_⟩
  · intro B hAB
    exact ⟨K.clSpec B, K.cl_eq B, K.clSpec_mono A B hne hAB⟩
  · rw [K.cl_eq, K.clSpec_idem A hne hA]
  · intro B hB h
    rw [K.cl_eq, K.clSpec_congr A B hne hB h]
  · intro desc hwt hcov
    exact K.clSpec_least A hne desc hwt hcov

example : ∃ (K : MVCtx) (A : List Nat), A ≠ [] ∧ InRange A K.nObjects ∧ K.WF ∧ K.clSpec A = [0, 2] :=
  ⟨⟨[.interval [(0, 0), (1, 2), (0, 1)], .attr [true, false, true]], 3, ["a", "b", "c"]⟩, [2, 0],
   by decide +kernel⟩

/-- `binarize()` succeeds, keeps the object names, has one row per object, and its (well-formed) table is as
    wide as `n_bin_attrs` declares, which is the number of binary attributes `to_bin_attr_extents` produces.
    FULL (contexts with at least one object and one pattern structure). -/
theorem binarize_objects_and_width (K : MVCtx) (hwf : K.WF) (hn : 1 ≤ K.nObjects) (hc : K.cols ≠ []) :
    ∃ Kb, K.binarize = .ok Kb ∧ Kb.objNames = K.objNames ∧ Kb.table.height = K.nObjects ∧ Kb.table.WF ∧
      Kb.table.width = K.nBinAttrs ∧ K.nBinAttrs = K.binAttrExtents.length := by
  exact ⟨_, K.binarize_eq hc, rfl, K.binTable_height hwf hc, Spec.transpose_wf _, (K.nBinAttrs_eq hwf hn).symm,
    K.nBinAttrs_eq hwf hn⟩

/-- the binarised context closes every non-empty object set exactly as the many-valued context does — so the
    two have the same non-empty closed object sets; its least closed set is the extent of the bottom
    description, which under `BottomOK` is what the code computes as the closure of the empty set.  FULL for
    the non-empty sets; the empty set needs `BottomOK` (finding D17, see `not_BottomOK_witness`). -/
theorem binarize_same_closed_sets (K : MVCtx) (hwf : K.WF) (hc : K.cols ≠ []) :
    ∃ Kb, K.binarize = .ok Kb ∧
      (∀ A, A ≠ [] → InRange A K.nObjects → K.cl A = .ok (Spec.closure Kb.table A)) ∧
      (∀ X, X ≠ [] → InRange X K.nObjects → (Spec.closure Kb.table X = X ↔ K.cl X = .ok X)) ∧
      Spec.closure Kb.table [] = K.extBottom ∧
      (K.BottomOK → K.cl [] = .ok (Spec.closure Kb.table [])) := by
  refine ⟨_, K.binarize_eq hc, fun A hA hr => ?_, fun X hX hr => ?_, K.closure_binTable_nil hwf hc, fun hb => ?_⟩
  · exact (K.cl_eq A).trans (congrArg Except.ok (K.closure_binTable hwf hc A hA hr).symm)
  · show Spec.closure K.binTable X = X ↔ _
    rw [K.cl_eq, K.closure_binTable hwf hc X hX hr]
    exact ⟨congrArg Except.ok, Except.ok.inj⟩
  · exact (K.cl_eq []).trans
      (congrArg Except.ok ((K.bottomOK_iff.mp hb).trans (K.closure_binTable_nil hwf hc).symm))

/-- One binary attribute per produced description, in order, WHATEVER the generated names are.  `nm` (column,
    position ↦ the `describe_pattern` string) is arbitrary — nothing is assumed about it, in particular not that it is
    injective (`SetPS` calls the descriptions `{'a','b'}` and `{'a, b'}` both `"s: a, b"`, `{'∅'}` and the empty
    description both `"s: ∅"`).  `binarize()` with names succeeds; its table and object names are those of the
    unnamed model `binarize` (so `binarize_same_closed_sets` speaks about it); its attribute names are the produced
    names in the produced order, repetitions kept; it has as many names as columns; the width is the SUM of the
    `n_bin_attrs` the columns declare; and column `a` of the table is the `a`-th produced extent.  FULL. -/
theorem binarize_one_attribute_per_description (K : MVCtx) (nm : Nat → Nat → String) (hwf : K.WF)
    (hn : 1 ≤ K.nObjects) (hc : K.cols ≠ []) :
    ∃ Kn, K.binarizeNamed nm = .ok Kn ∧
      K.binarize = .ok ⟨Kn.table, Kn.objNames⟩ ∧
      Kn.attrNames = (K.binAttrNamed nm).map (·.1) ∧
      Kn.attrNames.length = Kn.table.width ∧
      Kn.table.width = (K.cols.map Col.nBinAttrs).sum ∧
      (∀ g a, g < K.nObjects → a < Kn.table.width →
        Kn.table.get g a = (K.binAttrExtents.getD a []).getD g false) := by
  have hne : K.binAttrNamed nm ≠ [] := fun h =>
    K.binAttrExtents_ne_nil hc (by rw [← K.binAttrNamed_map_snd nm, h]; rfl)
  refine ⟨⟨K.binTable, K.objNames, (K.binAttrNamed nm).map (·.1)⟩, ?_, K.binarize_eq hc, rfl, ?_,
    (K.nBinAttrs_eq hwf hn).symm, fun g a hg _ => K.binTable_get hwf hc g a hg⟩
  · unfold MVCtx.binarizeNamed
    simp only [List.isEmpty_eq_false_iff.mpr hne, Bool.false_eq_true, ↓reduceIte, K.binAttrNamed_map_snd nm]
    rfl
  · rw [List.length_map, K.binTable_width, ← K.binAttrNamed_map_snd nm, List.length_map]

/-- the context of seeded change C14-g: one `SetPS` column over the values `'a' < 'a, b' < 'b'` (numbered 0, 1, 2) with
    the cells `{'a'}`, `{'b'}`, `{'a, b'}` -/
def collideK : MVCtx := ⟨[.set [[0], [2], [1]]], 3, ["g0", "g1", "g2"]⟩
/-- the names `SetPS.describe_pattern` gives its 8 descriptions: positions 2 (`{'a','b'}`) and 5 (`{'a, b'}`) collide -/
def collideNm : Nat → Nat → String := fun _ k =>
  ["s: a, a, b, b", "s: a, a, b", "s: a, b", "s: a, b, b", "s: a", "s: a, b", "s: b", "s: ∅"].getD k ""

/-- `d[k] = v` on a dict kept as an association list in insertion order: an existing key keeps its position and gets
    the new value -/
def dictSet (d : List (String × List Bool)) (k : String) (v : List Bool) : List (String × List Bool) :=
  if d.any (·.1 == k) then d.map fun q => if q.1 == k then (k, v) else q else d ++ [(k, v)]

/-- assembling the pairs through a name-keyed dict (`dict(pairs)`) — NOT what `binarize()` does; it is here only to
    show that the theorem above excludes it -/
def dictAssemble (pairs : List (String × List Bool)) : List (String × List Bool) :=
  pairs.foldl (fun d p => dictSet d p.1 p.2) []

/-- Non-vacuity: the hypotheses are satisfiable WITH colliding names — the attribute names of the binarised context are
    not duplicate-free, the width is still the declared 8, and `{0,1}` (the objects `'a'` and `'b'`) is closed in the
    binarised context exactly as in the many-valued one; a name-keyed assembly of the same pairs would have 7 columns
    and close `{0,1}` to all three objects. -/
example : collideK.WF ∧ 1 ≤ collideK.nObjects ∧ collideK.cols ≠ [] ∧
    (∃ Kn, collideK.binarizeNamed collideNm = .ok Kn ∧ ¬ Kn.attrNames.Nodup ∧ Kn.table.width = 8 ∧
      collideK.nBinAttrs = 8 ∧ Spec.closure Kn.table [0, 1] = [0, 1] ∧ collideK.clSpec [0, 1] = [0, 1]) ∧
    (dictAssemble (collideK.binAttrNamed collideNm)).length = 7 ∧
    Spec.closure (MVCtx.tr (Table.ofRows ((dictAssemble (collideK.binAttrNamed collideNm)).map (·.2)))) [0, 1]
      = [0, 1, 2] := by
  exact ⟨by decide, by decide, by decide, ⟨_, rfl, by decide +kernel⟩, by decide +kernel⟩

/-- Binarisation depends only on the CURRENT column contents.  Let one context object live through any history of
    queries (`n_bin_attrs`, `binarize`, `to_bin_attr_extents`, `intention_i`, `extension_i`, closures, lattice
    constructions) and public mutations (`ps.data = …`, in-place edits of `ps.data[i]`, `K.pattern_structures = […]`,
    `K.object_names = […]`), each accepted by its setter.  Then for the state `K'` reached:
    `binarize()` succeeds with the CURRENT object names, one row per object, width = the sum of the `n_bin_attrs` of the
    CURRENT columns = the number of produced extents; it closes every non-empty object set exactly as the current
    many-valued context does; and its table is a function of the current columns alone — any other context with the
    same columns (other names, another history, a freshly built one) binarises to the same table.  FULL. -/
theorem binarize_after_history (K : MVCtx) (steps : List MVCtx.Step) (hwf : K.WF) (hn : 1 ≤ K.nObjects)
    (hc : K.cols ≠ []) (hv : K.HistValid steps) :
    ∃ Kb, (K.run steps).binarize = .ok Kb ∧
      Kb.objNames = (K.run steps).objNames ∧ Kb.table.height = K.nObjects ∧
      Kb.table.width = ((K.run steps).cols.map Col.nBinAttrs).sum ∧
      Kb.table.width = (K.run steps).binAttrExtents.length ∧
      (∀ A, A ≠ [] → InRange A K.nObjects → (K.run steps).cl A = .ok (Spec.closure Kb.table A)) ∧
      (∀ K₂ : MVCtx, K₂.cols = (K.run steps).cols → ∃ Kb₂, K₂.binarize = .ok Kb₂ ∧ Kb₂.table = Kb.table) := by
  obtain ⟨hwf', hc', hn'⟩ := K.run_invariants steps hwf hc hv
  refine ⟨_, (K.run steps).binarize_eq hc', rfl, ((K.run steps).binTable_height hwf' hc').trans hn',
    ((K.run steps).nBinAttrs_eq hwf' (hn' ▸ hn)).symm, rfl, fun A hA hr => ?_, fun K₂ h₂ => ?_⟩
  · exact ((K.run steps).cl_eq A).trans
      (congrArg Except.ok ((K.run steps).closure_binTable hwf' hc' A hA (hn' ▸ hr)).symm)
  · refine ⟨_, K₂.binarize_eq (h₂ ▸ hc'), ?_⟩
    show Spec.transpose (Table.ofRows K₂.binAttrExtents) = Spec.transpose (Table.ofRows (K.run steps).binAttrExtents)
    unfold MVCtx.binAttrExtents
    rw [h₂]

/-- a history in the scope of the theorem: everything is used, a reading −1 is corrected to −2 through the setter
    (the edit of seeded change C14-h: it keeps CPython's `hash` of the column), one cell is edited in place, the objects
    are renamed; the final binarisation has the 5 attributes of the final column -/
example : (⟨[.interval [(-3, -3), (-1, -1), (0, 0)]], 3, ["a", "b", "c"]⟩ : MVCtx).HistValid
      [.query .nBinAttrs, .query .binarize, .query (.lattice 1000),
       .setData 0 (.interval [(-3, -3), (-2, -2), (0, 0)]), .query .binarize,
       .setCell 0 2 (.iv (-2, 0)), .setObjNames ["x", "y", "z"]] ∧
    ((⟨[.interval [(-3, -3), (-1, -1), (0, 0)]], 3, ["a", "b", "c"]⟩ : MVCtx).run
      [.query .nBinAttrs, .query .binarize, .query (.lattice 1000),
       .setData 0 (.interval [(-3, -3), (-2, -2), (0, 0)]), .query .binarize,
       .setCell 0 2 (.iv (-2, 0)), .setObjNames ["x", "y", "z"]]).nBinAttrs = 5 := by
  decide +kernel

/-! `BottomOK K` ("the closure of the empty object set, as the code computes it, lies in every closed set") is a
  hypothesis of the lattice-level theorems **by design**: it is the decidable side condition that separates the
  tables on which the convention `AttributePS.intention_i([]) is False` (finding D17) is harmless from
  those on which the unrestricted statement is false (`not_BottomOK_witness`).  It holds whenever the context
  has an `IntervalPS`/`IntervalNumpyPS` column or no `AttributePS` column. -/

/-- `BottomOK` is exactly "the code's closure of the empty set is the least closed set (the extent of the bottom
    description)", and it holds for every context without an `AttributePS` column and for every context with
    an interval column. -/
theorem bottomOK_characterised (K : MVCtx) :
    (K.BottomOK ↔ K.cl [] = .ok K.extBottom) ∧
    ((∀ c ∈ K.cols, c.isAttr = false) → K.BottomOK) ∧
    ((∃ c ∈ K.cols, c.isInterval = true) → K.BottomOK) := by
  refine ⟨?_, fun h => ?_, fun ⟨c, hc, hi⟩ => ?_⟩
  · rw [K.bottomOK_iff, K.cl_eq]
    exact ⟨congrArg Except.ok, Except.ok.inj⟩
  · rw [K.bottomOK_iff]
    have : K.intentionI [] = K.bottomDesc := by
      unfold MVCtx.intentionI MVCtx.bottomDesc
      apply List.map_congr_left
      intro ci hci
      have hc : ci.1 ∈ K.cols := List.mem_of_getElem? (List.mem_zipIdx_iff_getElem?.mp hci)
      have := h ci.1 hc
      cases hci1 : ci.1 with
      | interval d => rfl
      | set d => rfl
      | attr d => rw [hci1] at this; cases this
    unfold MVCtx.clSpec MVCtx.extBottom
    rw [this]
  · rw [K.bottomOK_iff]
    have e1 : K.clSpec [] = [] := by
      rw [List.eq_nil_iff_forall_not_mem]
      intro g hg
      have := (K.coversAll_colDesc (·.intentionI []) g).mp ((K.mem_clSpec [] g).mp hg).2 c hc
      cases c with
      | interval d => cases this
      | set d => cases hi
      | attr d => cases hi
    have e2 : K.extBottom = [] := by
      rw [List.eq_nil_iff_forall_not_mem]
      intro g hg
      have := K.extBottom_subset_clSpec [] g hg
      rw [e1] at this; cases this
    rw [e1, e2]

/-- Lattice exactness (all three mining paths).  For every many-valued context with `BottomOK`, every
    threshold `n_projections_to_binarize` — hence whichever of the object-wise path (CbO directly on
    descriptions), the binarising path, or the binarising path on the transposed binarised context
    `close_by_one` takes — and every fuel from the closed form `closeByOneFuel` (`(k+1)^(k+1)+1`, `k` the number
    of objects the worklist runs over) on:  `close_by_one` terminates without raising, `ConceptLattice
    .from_context` accepts its result (no extent is repeated, so the `KeyError` of finding D17 cannot occur), and
    the concepts are exact (`ExactMV`): every closed object set exactly once and nothing else, each with
    `intention_i(extent)` — its most specific description by `mv_closure_laws`.
    The binarising paths rest on property C02's machine analysis for `cboFbarray`; the object-wise path
    instantiates the same abstract worklist machine with the many-valued closure `ext ∘ int`
    (`MVCtx.hyp_mv` in `Lemmas/MVLattice`).
    Not in this statement: the cover relation ("ordered by inclusion") is computed from the extents by
    `order_extents_comparison` (caspailleur), which the model takes by its contract; the correspondence check
    compares the implementation's `children_dict` with the covers of inclusion (`Spec.lowerCovers`). -/
theorem mv_lattice_exact (K : MVCtx) (hwf : K.WF) (hn : 1 ≤ K.nObjects) (hc : K.cols ≠ []) (hb : K.BottomOK)
    (thr fuel : Nat) (hf : K.closeByOneFuel thr ≤ fuel) :
    ∃ pcs, K.closeByOne thr fuel = .ok pcs ∧ K.latticeConcepts thr fuel = .ok pcs ∧ MVCtx.ExactMV K pcs := by
  have key : ∃ pcs, K.closeByOne thr fuel = .ok pcs ∧ MVCtx.ExactMV K pcs := by
    unfold MVCtx.closeByOne
    unfold MVCtx.closeByOneFuel at hf
    generalize K.choosePath thr = path at hf ⊢
    cases path with
    | objectwise => exact K.cboObjectwise_exact hb fuel hf
    | binDirect =>
      obtain ⟨cs, hcs, hex⟩ := K.bin_direct_exact hwf hc fuel hf
      simp only [K.binarize_eq hc, show cboFbarray (MVCtx.BinCtx.toCtx ⟨K.binTable, K.objNames⟩) fuel = .ok cs from hcs]
      exact K.exact_of_fcaExact hwf hc hb _ hex
    | binTransposed =>
      have hw : K.binTable.width = K.nBinAttrs := (K.nBinAttrs_eq hwf hn).symm
      obtain ⟨cs, hcs, hex⟩ := K.bin_transposed_exact fuel (hw ▸ hf)
      simp only [K.binarize_eq hc,
        show cboFbarray (MVCtx.BinCtx.toCtx ⟨K.binTable, K.objNames⟩).T fuel = .ok cs from hcs]
      exact K.exact_of_fcaExact hwf hc hb _ hex
  obtain ⟨pcs, h1, h2⟩ := key
  refine ⟨pcs, h1, ?_, h2⟩
  unfold MVCtx.latticeConcepts
  rw [h1]
  simp only [hasDupExtent_false pcs h2.distinct, Bool.false_eq_true, ↓reduceIte]

/-- Path agreement (all three paths).  Under `BottomOK`, for any two thresholds — so for any two of the
    object-wise path, the binarising path and its transposed shape — the two lattices hold the same pattern
    concepts: every concept of one has a concept of the other with the same extent (as a set; the object-wise
    path lists extents in generation order) and an equivalent description (`DescEquiv`: equal interval and
    flag values, set values equal as sets).  Together with `ExactMV.distinct` of both sides this is a bijection. -/
theorem paths_agree (K : MVCtx) (hwf : K.WF) (hn : 1 ≤ K.nObjects) (hc : K.cols ≠ []) (hb : K.BottomOK)
    (thr₁ thr₂ fuel₁ fuel₂ : Nat) (hf₁ : K.closeByOneFuel thr₁ ≤ fuel₁) (hf₂ : K.closeByOneFuel thr₂ ≤ fuel₂) :
    ∃ p₁ p₂, K.latticeConcepts thr₁ fuel₁ = .ok p₁ ∧ K.latticeConcepts thr₂ fuel₂ = .ok p₂ ∧
      (∀ pc ∈ p₁, ∃ pc' ∈ p₂, MVCtx.SetEqL pc.extent pc'.extent ∧ DescEquiv pc.intent pc'.intent) ∧
      (∀ pc ∈ p₂, ∃ pc' ∈ p₁, MVCtx.SetEqL pc.extent pc'.extent ∧ DescEquiv pc.intent pc'.intent) := by
  obtain ⟨p₁, _, h₁, e₁⟩ := mv_lattice_exact K hwf hn hc hb thr₁ fuel₁ hf₁
  obtain ⟨p₂, _, h₂, e₂⟩ := mv_lattice_exact K hwf hn hc hb thr₂ fuel₂ hf₂
  exact ⟨p₁, p₂, h₁, h₂, K.exactMV_agree p₁ p₂ e₁ e₂, K.exactMV_agree p₂ p₁ e₂ e₁⟩

/-- the hypotheses are satisfiable with all three paths occurring: a 3×2 table (SetPS, AttributePS) with
    `BottomOK`; threshold 0 takes the object-wise path, 1000 the binarising one; a tall one-column table takes
    the transposed shape -/
example : ∃ K : MVCtx, K.WF ∧ 1 ≤ K.nObjects ∧ K.cols ≠ [] ∧ K.BottomOK ∧
    K.choosePath 0 = .objectwise ∧ K.choosePath 1000 = .binDirect :=
  ⟨⟨[.set [[0], [], [0, 1]], .attr [false, true, true]], 3, ["a", "b", "c"]⟩,
   by decide +kernel⟩

example : ∃ K : MVCtx, K.WF ∧ 1 ≤ K.nObjects ∧ K.cols ≠ [] ∧ K.BottomOK ∧ K.choosePath 1000 = .binTransposed :=
  ⟨⟨[.interval [(1, 1), (1, 1), (1, 1)]], 3, ["a", "b", "c"]⟩,
   by decide +kernel⟩

/-- `MVContext([[False],[True]], {'a': AttributePS})` -/
def witness₁ : MVCtx := ⟨[.attr [false, true]], 2, ["0", "1"]⟩
/-- `MVContext([[False]], {'a': AttributePS})` -/
def witness₂ : MVCtx := ⟨[.attr [false]], 1, ["0"]⟩

/-- Without `BottomOK` the unrestricted statements fail *in the model* (and, by the correspondence check, in the
    implementation: finding D17, `AttributePS.intention_i([]) is False`):
    * `MVContext([[False],[True]], one AttributePS column)`: `{1}` is a closed object set, but the object-wise
      path (`n_projections_to_binarize = 0`) returns only the extent `{0,1}`;
    * `MVContext([[False]], one AttributePS column)`: the binarising path mines the extent `{0}` twice and
      `ConceptLattice.from_context` fails with `KeyError`. -/
theorem not_BottomOK_witness :
    (witness₁.WF ∧ ¬ witness₁.BottomOK ∧ [1] ∈ witness₁.closedSets ∧ witness₁.choosePath 0 = .objectwise ∧
       witness₁.latticeConcepts 0 50 = .ok [⟨[0, 1], [(0, .bval false)]⟩]) ∧
    (witness₂.WF ∧ ¬ witness₂.BottomOK ∧ witness₂.choosePath 1000 = .binDirect ∧
       witness₂.closeByOne 1000 50 = .ok [⟨[0], [(0, .bval false)]⟩, ⟨[0], [(0, .bval false)]⟩] ∧
       witness₂.latticeConcepts 1000 50 = .error .KeyError) := by
  decide +kernel

end Fca.C14
