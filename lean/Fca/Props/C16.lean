/-
  Props/C16 — stability equals its definition and is bracketed by its published bounds.

  Setting: `K` a formal context (any of the three backends) over a well-formed table `t = K.table`;
  `L` the lattice data the measure functions read (`lattice[i] = (extent_i, intent_i)`,
  `lattice.children(i)` in whatever order the frozenset is iterated) with
  `Spec.IsLatticeOf t L`: the concept list enumerates `Spec.allConcepts t` without repetition and
  `children(i)` lists exactly the lower covers of concept `i` (decidable; the driver re-checks it on
  every explored case).  No size bound anywhere.
-/
import Fca.Lemmas.MeasuresCalc
import Fca.Lemmas.ExceptEq
namespace Fca.C16
open Fca.Measures Fca.Spec

/-- **stability = its definition.**  For every concept `(A, B)` of the table (only `isConcept` is needed, not
    the whole lattice) the powerset loop of `stability` returns
    `|{S ⊆ A | S' = B}| / 2^|A|` — the count taken over `Spec.sublists A` — on every backend,
    including the empty-extent branch. -/
theorem stability_def (K : Ctx) (hwf : K.table.WF) (L : Lattice) (i : Nat) (A B : List Nat)
    (hi : L.concepts[i]? = some (A, B)) (hc : isConcept K.table A B = true) :
    stability i L K = .ok (stabilityDef K.table A B) := by
  simp only [stability, get_ok L hi, bind, Except.bind, pure, Except.pure]
  by_cases hlen : A.length > 0
  · rw [if_pos hlen, stabilityLoop_genCount K hwf A B hc]
    rfl
  · have hA : A = [] := List.eq_nil_of_length_eq_zero (Nat.eq_zero_of_not_pos hlen)
    subst hA
    have hg : genCount K.table [] B = 1 := by
      rw [genCount, sublists, List.countP_singleton, ((isConcept_iff K.table).mp hc).2, beq_self_eq_true]
      rfl
    rw [if_neg hlen, stabilityDef, hg, List.length_nil, Nat.pow_zero, Rat.natCast_ofNat, Rat.div_def,
      Rat.mul_inv_cancel 1 (by decide)]

/-- the same, for every index of a concept lattice -/
theorem stability_def_lattice (K : Ctx) (hwf : K.table.WF) (L : Lattice) (h : IsLatticeOf K.table L)
    (i : Nat) (hi : i < L.concepts.length) :
    stability i L K = .ok (stabilityDef K.table (L.concepts[i]).1 (L.concepts[i]).2) :=
  stability_def K hwf L i _ _ (List.getElem?_eq_getElem hi)
    (isConcept_of_get h (List.getElem?_eq_getElem hi))

/-- **LStab ≤ stability ≤ UStab** for every concept of every concept lattice, as inequalities of exact
    fractions; both functions return (no exception). -/
theorem stability_bracket (K : Ctx) (hwf : K.table.WF) (L : Lattice) (h : IsLatticeOf K.table L)
    (i : Nat) (hi : i < L.concepts.length) :
    ∃ lb ub s, stabilityBounds i L = .ok (lb, ub) ∧ stability i L K = .ok s ∧ lb ≤ s ∧ s ≤ ub := by
  obtain ⟨lb, ub, hev, hle⟩ := stabilityBounds_bracket h (List.getElem?_eq_getElem hi)
  exact ⟨lb, ub, _, hev, stability_def_lattice K hwf L h i hi, hle⟩

/-- **the logarithmic lower bound never exceeds `−log2(1 − stability)`**, stated exponentiated
    (`Spec.LogLe`): the model returns the symbolic float `Δ_min − log2 |M|` (or `+inf − log2 |M|` for a
    childless concept) and `(1 − stability) · 2^{Δ_min} ≤ |M|` (resp. `1 − stability ≤ 0`). -/
theorem log_bound (K : Ctx) (hwf : K.table.WF) (L : Lattice) (h : IsLatticeOf K.table L)
    (hw : K.nAttributes ≠ 0) (i : Nat) (hi : i < L.concepts.length) :
    ∃ b s, logStabilityLbound i L K.nAttributes = .ok b ∧ b.nBin = K.nAttributes ∧
      stability i L K = .ok s ∧ LogLe b s := by
  obtain ⟨b, hb, hle⟩ := logStabilityLbound_spec h (List.getElem?_eq_getElem hi) hw (Nat.le_refl _)
  exact ⟨_, _, hb, rfl, stability_def_lattice K hwf L h i hi, hle⟩

/-- **one value per concept, equally long arrays.**  Starting from concepts without measures, after any
    non-empty sequence of `calc_concepts_measures(name, K)` calls with the C16 measure names, the `measures`
    property returns (its `assert` passes) at least one array; every array has exactly one entry per concept,
    none of them `None`, and entry `i` of the array `k` is the value of that measure for concept `i`. -/
theorem measures_arrays (K : Ctx) (hwf : K.table.WF) (L : Lattice) (h : IsLatticeOf K.table L)
    (hw : K.nAttributes ≠ 0) (names : List String) (hnames : ∀ m ∈ names, inScope m) (hne : names ≠ []) :
    ∃ st arrays, runCalls L K names (List.replicate L.concepts.length []) = .ok st ∧
      st.length = L.concepts.length ∧
      measures st = .ok arrays ∧ arrays ≠ [] ∧
      ∀ p ∈ arrays, p.2.length = L.concepts.length ∧
        ∀ i, i < L.concepts.length → ∃ v, p.2[i]? = some (some v) ∧ valueOf L K p.1 i = .ok v :=
  runCalls_measures K L h hw names hnames hne

/-! ### the hypotheses are satisfiable, and the statements are not vacuous

A 4 × 3 table with an empty row; its lattice has 8 concepts, the top one has three children, the bounds of
the top concept are strict (`1/4 < 9/16 < 3/4`) and the bottom concept has an empty extent. -/

def exT : Table :=
  ⟨[[true, false, true], [false, true, true], [true, true, false], [false, false, false]], 3⟩
def exK : Ctx := ⟨.bitarray, exT, [], []⟩
def exL : Lattice :=
  ⟨[([0, 1, 2, 3], []), ([0, 1], [2]), ([0, 2], [0]), ([1, 2], [1]), ([0], [0, 2]), ([1], [1, 2]),
    ([2], [0, 1]), ([], [0, 1, 2])],
   [[3, 1, 2], [4, 5], [4, 6], [5, 6], [7], [7], [7], []]⟩

example : exT.WF := by decide
example : IsLatticeOf exT exL := (isLatticeOfB_iff _ _).mp (by decide +kernel)
example : exK.nAttributes ≠ 0 := by decide
example : inScope "stability" ∧ inScope "LStab" ∧ inScope "log_stability_lbound" := by
  refine ⟨?_, ?_, ?_⟩ <;> simp [inScope]
/-- the three values of the top concept: `LStab = 1/4 < Stab = 9/16 < UStab = 3/4`, log bound `2 − log2 3` -/
example : stabilityBounds 0 exL = .ok (1 / 4, 3 / 4) ∧ stability 0 exL exK = .ok (9 / 16) ∧
    logStabilityLbound 0 exL 3 = .ok ⟨some 2, 3⟩ := by decide +kernel
/-- `LogLe` really is the exponentiated inequality: `(1 − 9/16)·2² = 7/4 ≤ 3`, and it fails for `Δ = 3` -/
example : LogLe ⟨some 2, 3⟩ (9 / 16) ∧ ¬ LogLe ⟨some 3, 3⟩ (9 / 16) := by decide +kernel

end Fca.C16
