/-
  Props/C13 — each shipped pattern structure is a Galois connection, and the two interval
  engines agree.

  Per structure (`interval_…` = IntervalPS, `intervalnp_…` = IntervalNumpyPS, `set_…` = SetPS,
  `attr_…` = AttributePS):
    * `…_ext_exact`             extension_i d base = the base objects (all objects when no base is
                                given) whose value `d` covers — a list of ORIGINAL indexes, in base order
    * `…_int_extensive`         for an in-range `A` (non-empty, except for SetPS): every object of `A` (that
                                is in the base) lies in extension_i (intention_i A)
    * `…_int_most_specific`     for a non-empty in-range `A`: extension_i (intention_i A) ⊆ extension_i d for
                                every `d` covering all of `A`
    * `…_n_bin_attrs_eq_length` n_bin_attrs = number of pairs to_bin_attr_extents yields
    * `…_bin_attr_is_extension` each of these pairs holds the extension of its description (`interval_…`, `set_…`;
                                AttributePS: second half of `attr_n_bin_attrs_eq_length`; IntervalNumpyPS: through
                                `numpy_eq_python`)
  and `numpy_eq_python`.  `covers` is defined once per structure in `Fca.Spec.PS`.

  Scope convention (DESIGN §6): a column has at least one row.  The theorems about `IntervalNumpyPS`
  that do not already force this through a non-empty in-range `A` carry the hypothesis `data ≠ []`;
  `numpy_zero_rows_differ` shows that it cannot be dropped (a 0-row numpy column is a 1-dimensional
  array and every 2-d access raises `IndexError`, where the pure-python class answers `[]`).
-/
import Fca.Model.PS
import Fca.Spec.PS
import Fca.Lemmas.PS
import Fca.Gen.EquivPS
import Fca.Lemmas.ExceptEq
namespace Fca.C13
open Fca.PS Fca.Spec.PS

def InRange (xs : List Nat) (n : Nat) : Prop := ∀ x ∈ xs, x < n
def BaseInRange (base : Option (List Nat)) (n : Nat) : Prop := ∀ bs, base = some bs → ∀ x ∈ bs, x < n

/-- `IntervalPS.extension_i(d, base)` for a description `d` (`None`, a number, a pair) = the objects
    of the base (default: all objects) whose interval `d` covers, by original index, in base order. -/
theorem interval_ext_exact (data : List Iv) (d : IvDesc) (s : Option Iv) (hd : ivDescSem d = some s)
    (base : Option (List Nat)) (hb : BaseInRange base data.length) :
    pyExtensionI data d base = .ok (ext ivCovers data s (base.getD (List.range data.length))) :=
  pyExtensionI_exact data d s hd base hb

/-- an argument that is not a description (a sequence not of length 2) is rejected with `ValueError`
    by both engines -/
theorem interval_ext_rejects (data : List Iv) (d : IvDesc) (hd : ivDescSem d = none)
    (base : Option (List Nat)) :
    pyExtensionI data d base = .error .ValueError ∧ npExtensionI data d base = .error .ValueError := by
  simp only [pyExtensionI, npExtensionI, ivUnpack_eq_sem, hd, and_self]

/-- `A ⊆ extension_i(intention_i(A))` (restricted to the base when one is given). -/
theorem interval_int_extensive (data : List Iv) (A : List Nat) (hne : A ≠ [])
    (hA : InRange A data.length) :
    ∃ dA, pyIntentionI data A = .ok (some dA) ∧
      ∀ base, BaseInRange base data.length →
        ∃ E, pyExtensionI data (IvDesc.ofOpt (some dA)) base = .ok E ∧
          ∀ g ∈ A, g ∈ base.getD (List.range data.length) → g ∈ E := by
  obtain ⟨h, hint, hm⟩ := pyIntentionI_mostSpecific data A hne hA
  exact ⟨h, hint, fun base hb => ⟨_, pyExtensionI_exact data _ (some h) (ivDescSem_ofOpt _) base hb,
    ext_extensive hm.1 _⟩⟩

/-- `intention_i(A)` is the most specific description of `A`: its extension lies in the extension of
    every description that covers all of `A`. -/
theorem interval_int_most_specific (data : List Iv) (A : List Nat) (hne : A ≠ [])
    (hA : InRange A data.length) (d : IvDesc) (s : Option Iv) (hd : ivDescSem d = some s)
    (hcov : coversAll ivCovers data s A = true)
    (base : Option (List Nat)) (hb : BaseInRange base data.length) :
    ∃ dA E E', pyIntentionI data A = .ok (some dA) ∧
      pyExtensionI data (IvDesc.ofOpt (some dA)) base = .ok E ∧
      pyExtensionI data d base = .ok E' ∧ ∀ g ∈ E, g ∈ E' := by
  obtain ⟨h, hint, hm⟩ := pyIntentionI_mostSpecific data A hne hA
  exact ⟨h, _, _, hint, pyExtensionI_exact data _ (some h) (ivDescSem_ofOpt _) base hb,
    interval_ext_exact data d s hd base hb, hm.ext_subset hcov _⟩

/-- `n_bin_attrs` = the number of binary attributes `to_bin_attr_extents` yields. -/
theorem interval_n_bin_attrs_eq_length (data : List Iv) (hne : data ≠ []) :
    ∃ bins, pyBinExtents data = .ok bins ∧ pyNBinAttrs data = .ok bins.length := by
  have hl : pySet (data.map (·.1)) ≠ [] := pySet_ne_nil (mt List.map_eq_nil_iff.mp hne)
  have hr : pySet (data.map (·.2)) ≠ [] := pySet_ne_nil (mt List.map_eq_nil_iff.mp hne)
  obtain ⟨m, hm, _⟩ := pyMin_ok hl
  obtain ⟨m', hm', _⟩ := pyMax_ok hr
  unfold pyBinExtents pyNBinAttrs
  simp only [List.isEmpty_eq_false_iff.mpr hne, Bool.false_eq_true, ↓reduceIte, hm, hm']
  refine ⟨_, rfl, congrArg Except.ok ?_⟩
  simp only [List.length_append, List.length_map, List.length_cons, List.length_nil, List.length_drop,
    List.length_reverse, length_pySorted, Nat.zero_add]
  exact interval_bin_count (List.length_pos_iff.mpr hl) (List.length_pos_iff.mpr hr)

/-- each yielded binary attribute is the extension (flag vector over all objects) of the description
    printed in its name -/
theorem interval_bin_attr_is_extension (data : List Iv) (bins : List IvBinAttr)
    (h : pyBinExtents data = .ok bins) : ∀ b ∈ bins, b.2 = data.map (ivCovers b.1) := by
  by_cases hne : data = []
  · subst hne; cases h
  obtain ⟨m, hm, hmin⟩ := pyMin_ok (pySet_ne_nil (mt List.map_eq_nil_iff.mp hne : data.map (·.1) ≠ []))
  obtain ⟨m', hm', hmax⟩ := pyMax_ok (pySet_ne_nil (mt List.map_eq_nil_iff.mp hne : data.map (·.2) ≠ []))
  have hL : ∀ v ∈ data, m ≤ v.1 := fun v hv => hmin.2 _ (mem_pySet.mpr (List.mem_map_of_mem hv))
  have hR : ∀ v ∈ data, v.2 ≤ m' := fun v hv => hmax.2 _ (mem_pySet.mpr (List.mem_map_of_mem hv))
  unfold pyBinExtents at h
  simp only [List.isEmpty_eq_false_iff.mpr hne, Bool.false_eq_true, ↓reduceIte, hm, hm', Except.ok.injEq] at h
  subst h
  intro b hb
  simp only [List.mem_append, List.mem_cons, List.mem_map, List.not_mem_nil, or_false] at hb
  -- a bound that every interval meets does not show in the flags
  rcases hb with ((rfl | ⟨lb, _, rfl⟩) | ⟨rb, _, rfl⟩) | rfl
  · rw [← List.map_const']
    exact List.map_congr_left fun v hv => by simp [ivCovers, hL v hv, hR v hv]
  · exact List.map_congr_left fun v hv => by simp [ivCovers, hR v hv]
  · exact List.map_congr_left fun v hv => by simp [ivCovers, hL v hv]
  · rw [← List.map_const']
    exact List.map_congr_left fun v _ => by simp [ivCovers]

/-- The numpy interval structure returns the same results as the pure-python one:
    `intention_i` on every input (results and the `IndexError` for an out-of-range object), and on
    every column with at least one row `extension_i` (any description argument, any base list — also
    unsorted, non-prefix and out-of-range ones), `to_bin_attr_extents` and `n_bin_attrs`. -/
theorem numpy_eq_python (data : List Iv) :
    (∀ objs, npIntentionI data objs = pyIntentionI data objs) ∧
    (data ≠ [] →
      (∀ d base, npExtensionI data d base = pyExtensionI data d base) ∧
      npBinExtents data = pyBinExtents data ∧
      npNBinAttrs data = pyNBinAttrs data) :=
  ⟨npIntentionI_eq_py data, fun hne =>
    ⟨npExtensionI_eq_py data hne, npBinExtents_eq_py data hne, npNBinAttrs_eq_py data hne⟩⟩

/-- the hypothesis `data ≠ []` of `numpy_eq_python` cannot be dropped -/
theorem numpy_zero_rows_differ :
    npExtensionI [] (.seq [0, 1]) none = .error .IndexError ∧ pyExtensionI [] (.seq [0, 1]) none = .ok [] ∧
    npBinExtents [] = .error .IndexError ∧ pyBinExtents [] = .error .ValueError := by
  decide +kernel

theorem intervalnp_ext_exact (data : List Iv) (hne : data ≠ []) (d : IvDesc) (s : Option Iv)
    (hd : ivDescSem d = some s) (base : Option (List Nat)) (hb : BaseInRange base data.length) :
    npExtensionI data d base = .ok (ext ivCovers data s (base.getD (List.range data.length))) := by
  rw [npExtensionI_eq_py data hne]; exact interval_ext_exact data d s hd base hb

theorem intervalnp_int_extensive (data : List Iv) (A : List Nat) (hne : A ≠ [])
    (hA : InRange A data.length) :
    ∃ dA, npIntentionI data A = .ok (some dA) ∧
      ∀ base, BaseInRange base data.length →
        ∃ E, npExtensionI data (IvDesc.ofOpt (some dA)) base = .ok E ∧
          ∀ g ∈ A, g ∈ base.getD (List.range data.length) → g ∈ E := by
  have hd := data_ne_nil_of_inRange hne hA
  simp only [npIntentionI_eq_py, npExtensionI_eq_py data hd]
  exact interval_int_extensive data A hne hA

theorem intervalnp_int_most_specific (data : List Iv) (A : List Nat) (hne : A ≠ [])
    (hA : InRange A data.length) (d : IvDesc) (s : Option Iv) (hd : ivDescSem d = some s)
    (hcov : coversAll ivCovers data s A = true)
    (base : Option (List Nat)) (hb : BaseInRange base data.length) :
    ∃ dA E E', npIntentionI data A = .ok (some dA) ∧
      npExtensionI data (IvDesc.ofOpt (some dA)) base = .ok E ∧
      npExtensionI data d base = .ok E' ∧ ∀ g ∈ E, g ∈ E' := by
  have hdn := data_ne_nil_of_inRange hne hA
  simp only [npIntentionI_eq_py, npExtensionI_eq_py data hdn]
  exact interval_int_most_specific data A hne hA d s hd hcov base hb

theorem intervalnp_n_bin_attrs_eq_length (data : List Iv) (hne : data ≠ []) :
    ∃ bins, npBinExtents data = .ok bins ∧ npNBinAttrs data = .ok bins.length := by
  rw [npBinExtents_eq_py data hne, npNBinAttrs_eq_py data hne]
  exact interval_n_bin_attrs_eq_length data hne

/-- `SetPS.extension_i(d, base)`: `None ↦ []`; a set `d` selects the base objects whose value set is
    contained in `d`, by original index, in base order. -/
theorem set_ext_exact (data : List VSet) (d : Option VSet) (base : Option (List Nat))
    (hb : BaseInRange base data.length) :
    setExtensionI data d base = .ok (ext setCovers data d (base.getD (List.range data.length))) := by
  unfold setExtensionI
  cases d with
  | none => exact congrArg Except.ok (ext_eq_nil (fun _ => rfl) data _).symm
  | some ds =>
    simp only [setEq_setInter_eq_all]
    exact filterLoop_base_eq_ext setCovers data (some ds) base hb

theorem set_int_extensive (data : List VSet) (A : List Nat) (hA : InRange A data.length) :
    ∃ dA, setIntentionI data A = .ok dA ∧
      ∀ base, BaseInRange base data.length →
        ∃ E, setExtensionI data (some dA) base = .ok E ∧
          ∀ g ∈ A, g ∈ base.getD (List.range data.length) → g ∈ E := by
  obtain ⟨r, hr, hm⟩ := setIntentionI_mostSpecific data A hA
  exact ⟨r, hr, fun base hb => ⟨_, set_ext_exact data (some r) base hb, ext_extensive hm.1 _⟩⟩

theorem set_int_most_specific (data : List VSet) (A : List Nat) (hne : A ≠ [])
    (hA : InRange A data.length) (d : Option VSet)
    (hcov : coversAll setCovers data d A = true)
    (base : Option (List Nat)) (hb : BaseInRange base data.length) :
    ∃ dA E E', setIntentionI data A = .ok dA ∧
      setExtensionI data (some dA) base = .ok E ∧
      setExtensionI data d base = .ok E' ∧ ∀ g ∈ E, g ∈ E' := by
  obtain ⟨r, hr, hm⟩ := setIntentionI_mostSpecific data A hA
  exact ⟨r, _, _, hr, set_ext_exact data (some r) base hb, set_ext_exact data d base hb,
    (hm.2 hne).ext_subset hcov _⟩

/-- `SetPS.n_bin_attrs` (`2 ** n_uniq`) = the number of binary attributes `to_bin_attr_extents` yields. -/
theorem set_n_bin_attrs_eq_length (data : List VSet) :
    setNBinAttrs data = (setBinExtents data).length := by
  unfold setBinExtents setNBinAttrs
  simp only [List.length_flatMap, List.length_map, List.map_reverse, List.sum_reverse]
  rw [isCombs_combs.count _ _ (Nat.le_refl _), length_pySorted]

theorem set_bin_attr_is_extension (data : List VSet) :
    ∀ b ∈ setBinExtents data, b.2 = data.map (setCovers (some b.1)) := by
  intro b hb
  simp only [setBinExtents, List.mem_flatMap, List.mem_map] at hb
  obtain ⟨_, _, comb, _, rfl⟩ := hb
  exact List.map_congr_left fun row _ => setEq_setInter_eq_all row comb

/-- `AttributePS.extension_i(d, base)`: a `False` description means "anything" (the whole base),
    `True` selects the base objects having the attribute; original indexes, base order. -/
theorem attr_ext_exact (data : List Bool) (d : Bool) (base : Option (List Nat))
    (hb : BaseInRange base data.length) :
    attrExtensionI data d base = .ok (ext attrCovers data d (base.getD (List.range data.length))) := by
  unfold attrExtensionI
  cases d with
  | false =>
    have : ext attrCovers data false (base.getD (List.range data.length)) = base.getD (List.range data.length) :=
      List.filter_eq_self.mpr fun g hg => by rw [List.getElem?_eq_getElem (OptIdx.getD_lt hb g hg)]; rfl
    cases base <;> exact congrArg Except.ok this.symm
  | true => exact filterLoop_base_eq_ext attrCovers data true base hb

theorem attr_intention_nonempty (data : List Bool) (A : List Nat) (hne : A ≠ [])
    (hA : InRange A data.length) :
    attrIntentionI data A = .ok (A.all fun g => (data[g]?).any id) := by
  unfold attrIntentionI
  cases A with
  | nil => exact absurd rfl hne
  | cons g gs => exact attrAllLoop_eq data _ hA

theorem attr_int_extensive (data : List Bool) (A : List Nat) (hne : A ≠ [])
    (hA : InRange A data.length) :
    ∃ dA, attrIntentionI data A = .ok dA ∧
      ∀ base, BaseInRange base data.length →
        ∃ E, attrExtensionI data dA base = .ok E ∧
          ∀ g ∈ A, g ∈ base.getD (List.range data.length) → g ∈ E :=
  ⟨_, attr_intention_nonempty data A hne hA, fun base hb =>
      ⟨_, attr_ext_exact data _ base hb, ext_extensive (attrAll_mostSpecific data A hA).1 _⟩⟩

theorem attr_int_most_specific (data : List Bool) (A : List Nat) (hne : A ≠ [])
    (hA : InRange A data.length) (d : Bool)
    (hcov : coversAll attrCovers data d A = true)
    (base : Option (List Nat)) (hb : BaseInRange base data.length) :
    ∃ dA E E', attrIntentionI data A = .ok dA ∧
      attrExtensionI data dA base = .ok E ∧
      attrExtensionI data d base = .ok E' ∧ ∀ g ∈ E, g ∈ E' :=
  ⟨_, _, _, attr_intention_nonempty data A hne hA, attr_ext_exact data _ base hb, attr_ext_exact data d base hb,
    (attrAll_mostSpecific data A hA).ext_subset hcov _⟩

/-- `AttributePS.n_bin_attrs` (the constant 1) = the number of binary attributes yielded, and the one
    yielded attribute is the extension of the description `True`. -/
theorem attr_n_bin_attrs_eq_length (data : List Bool) :
    attrNBinAttrs data = (attrBinExtents data).length ∧
    ∀ b ∈ attrBinExtents data, b.2 = data.map (attrCovers b.1) := by
  refine ⟨rfl, fun b hb => ?_⟩
  cases List.mem_singleton.mp hb
  exact (List.map_id data).symm.trans (List.map_congr_left fun v _ => rfl)

private def exIv : List Iv := [(1, 1), (1, 3), (2, 2), (0, 2)]

/-- the hypotheses are met by concrete, non-trivial inputs -/
example : exIv ≠ [] ∧ InRange [2, 0] exIv.length ∧ BaseInRange (some [3, 1, 0]) exIv.length ∧
    ivDescSem (.seq [1, 2]) = some (some (1, 2)) ∧ coversAll ivCovers exIv (some (1, 2)) [2, 0] = true ∧
    pyIntentionI exIv [2, 0] = .ok (some (1, 2)) ∧
    pyExtensionI exIv (.seq [1, 2]) (some [3, 1, 0]) = .ok [0] ∧
    npExtensionI exIv (.seq [0, 2]) (some [3, 1, 0]) = .ok [3, 0] ∧
    pyNBinAttrs exIv = .ok 6 := by
  refine ⟨by decide, by unfold InRange; decide, fun bs h => by cases h; decide, rfl, ?_⟩
  decide +kernel

example : InRange [1, 0] 3 ∧ coversAll setCovers [[0], [1, 2], []] (some [2, 1, 0]) [1, 0] = true ∧
    setIntentionI [[0], [1, 2], []] [1, 0] = .ok [1, 2, 0] ∧
    setExtensionI [[0], [1, 2], []] (some [1, 2]) (some [2, 1]) = .ok [2, 1] ∧
    setNBinAttrs [[0], [1, 2], []] = 8 := by
  unfold InRange
  decide +kernel

example : InRange [2, 0] 3 ∧ coversAll attrCovers [true, false, true] true [2, 0] = true ∧
    attrIntentionI [true, false, true] [2, 0] = .ok true ∧
    attrExtensionI [true, false, true] true (some [2, 1, 0]) = .ok [2, 0] := by
  unfold InRange
  decide +kernel

/-! ### the definitions GENERATED from the Python source

  `Fca.Gen.Lists.iv* / set* / attr*` (`Fca/Gen/GeneratedPS.lean`) is what `harness/py2lean.py` makes of the
  source of `intention_i` / `extension_i` of the three pure-Python pattern structures; `Fca/Gen/EquivPS.lean` proves
  them EQUAL to the hand-written models (no hypothesis: `IndexError` included), so the theorems above hold verbatim for
  the translated code.  (`IntervalPS.extension_i` is translated for a description that is `None` or a pair.) -/

theorem gen_interval_ext_exact (P : Gen.IvPS) (d : Option Iv) (base : Option (List Nat))
    (hb : BaseInRange base P.data.length) :
    Gen.Lists.ivExtensionI P d base = .ok (ext ivCovers P.data d (base.getD (List.range P.data.length))) := by
  rw [Gen.Lists.ivExtensionI_eq_model]
  exact interval_ext_exact P.data (IvDesc.ofOpt d) d (ivDescSem_ofOpt d) base hb

theorem gen_interval_int_extensive (P : Gen.IvPS) (A : List Nat) (hne : A ≠ []) (hA : InRange A P.data.length) :
    ∃ dA, Gen.Lists.ivIntentionI P A = .ok (some dA) ∧
      ∀ base, BaseInRange base P.data.length →
        ∃ E, Gen.Lists.ivExtensionI P (some dA) base = .ok E ∧
          ∀ g ∈ A, g ∈ base.getD (List.range P.data.length) → g ∈ E := by
  simp only [Gen.Lists.ivIntentionI_eq_model, Gen.Lists.ivExtensionI_eq_model]
  exact interval_int_extensive P.data A hne hA

theorem gen_interval_int_most_specific (P : Gen.IvPS) (A : List Nat) (hne : A ≠ []) (hA : InRange A P.data.length)
    (d : Option Iv) (hcov : coversAll ivCovers P.data d A = true)
    (base : Option (List Nat)) (hb : BaseInRange base P.data.length) :
    ∃ dA E E', Gen.Lists.ivIntentionI P A = .ok (some dA) ∧
      Gen.Lists.ivExtensionI P (some dA) base = .ok E ∧
      Gen.Lists.ivExtensionI P d base = .ok E' ∧ ∀ g ∈ E, g ∈ E' := by
  simp only [Gen.Lists.ivIntentionI_eq_model, Gen.Lists.ivExtensionI_eq_model]
  exact interval_int_most_specific P.data A hne hA (IvDesc.ofOpt d) d (ivDescSem_ofOpt d) hcov base hb

theorem gen_set_ext_exact (P : Gen.SetPS) (d : Option VSet) (base : Option (List Nat))
    (hb : BaseInRange base P.data.length) :
    Gen.Lists.setExtensionI P d base = .ok (ext setCovers P.data d (base.getD (List.range P.data.length))) := by
  rw [Gen.Lists.setExtensionI_eq_model]; exact set_ext_exact P.data d base hb

theorem gen_set_int_extensive (P : Gen.SetPS) (A : List Nat) (hA : InRange A P.data.length) :
    ∃ dA, Gen.Lists.setIntentionI P A = .ok dA ∧
      ∀ base, BaseInRange base P.data.length →
        ∃ E, Gen.Lists.setExtensionI P (some dA) base = .ok E ∧
          ∀ g ∈ A, g ∈ base.getD (List.range P.data.length) → g ∈ E := by
  simp only [Gen.Lists.setIntentionI_eq_model, Gen.Lists.setExtensionI_eq_model]
  exact set_int_extensive P.data A hA

theorem gen_set_int_most_specific (P : Gen.SetPS) (A : List Nat) (hne : A ≠ []) (hA : InRange A P.data.length)
    (d : Option VSet) (hcov : coversAll setCovers P.data d A = true)
    (base : Option (List Nat)) (hb : BaseInRange base P.data.length) :
    ∃ dA E E', Gen.Lists.setIntentionI P A = .ok dA ∧
      Gen.Lists.setExtensionI P (some dA) base = .ok E ∧
      Gen.Lists.setExtensionI P d base = .ok E' ∧ ∀ g ∈ E, g ∈ E' := by
  simp only [Gen.Lists.setIntentionI_eq_model, Gen.Lists.setExtensionI_eq_model]
  exact set_int_most_specific P.data A hne hA d hcov base hb

theorem gen_attr_ext_exact (P : Gen.AttrPS) (d : Bool) (base : Option (List Nat))
    (hb : BaseInRange base P.data.length) :
    Gen.Lists.attrExtensionI P d base = .ok (ext attrCovers P.data d (base.getD (List.range P.data.length))) := by
  rw [Gen.Lists.attrExtensionI_eq_model]; exact attr_ext_exact P.data d base hb

theorem gen_attr_intention_nonempty (P : Gen.AttrPS) (A : List Nat) (hne : A ≠ []) (hA : InRange A P.data.length) :
    Gen.Lists.attrIntentionI P A = .ok (A.all fun g => (P.data[g]?).any id) := by
  rw [Gen.Lists.attrIntentionI_eq_model]; exact attr_intention_nonempty P.data A hne hA

theorem gen_attr_int_extensive (P : Gen.AttrPS) (A : List Nat) (hne : A ≠ []) (hA : InRange A P.data.length) :
    ∃ dA, Gen.Lists.attrIntentionI P A = .ok dA ∧
      ∀ base, BaseInRange base P.data.length →
        ∃ E, Gen.Lists.attrExtensionI P dA base = .ok E ∧
          ∀ g ∈ A, g ∈ base.getD (List.range P.data.length) → g ∈ E := by
  simp only [Gen.Lists.attrIntentionI_eq_model, Gen.Lists.attrExtensionI_eq_model]
  exact attr_int_extensive P.data A hne hA

theorem gen_attr_int_most_specific (P : Gen.AttrPS) (A : List Nat) (hne : A ≠ []) (hA : InRange A P.data.length)
    (d : Bool) (hcov : coversAll attrCovers P.data d A = true)
    (base : Option (List Nat)) (hb : BaseInRange base P.data.length) :
    ∃ dA E E', Gen.Lists.attrIntentionI P A = .ok dA ∧
      Gen.Lists.attrExtensionI P dA base = .ok E ∧
      Gen.Lists.attrExtensionI P d base = .ok E' ∧ ∀ g ∈ E, g ∈ E' := by
  simp only [Gen.Lists.attrIntentionI_eq_model, Gen.Lists.attrExtensionI_eq_model]
  exact attr_int_most_specific P.data A hne hA d hcov base hb

/-- the generated definitions compute: -/
example : Gen.Lists.ivIntentionI ⟨[(1, 1), (1, 3), (2, 2), (0, 2)]⟩ [2, 0] = .ok (some (1, 2)) ∧
    Gen.Lists.ivExtensionI ⟨[(1, 1), (1, 3), (2, 2), (0, 2)]⟩ (some (1, 2)) (some [3, 1, 0]) = .ok [0] := by
  decide +kernel

end Fca.C13
