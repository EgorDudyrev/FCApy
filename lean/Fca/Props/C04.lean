/-
  Props/C04 — the reduced-labelled line diagram is a lossless representation of the context.

  The theorems are about the code-shaped models `newExtentI` / `newIntentI` (= `get_concept_new_extent_i` /
  `get_concept_new_intent_i`: own set minus the union over the children / parents computed by the POSet
  queries) and their name versions, on a concept list `cs` listing every concept of `t` exactly once
  (`IsConceptList t cs`, what C02 establishes), for every set-iteration order `ord`.
  This is the basic theorem of FCA (object concepts γg, attribute concepts μa, g I a ⇔ γg ≤ μa) on the
  executable definitions.
-/
import Fca.Model.LatticeQuery
import Fca.Spec.LatticeQuery
import Fca.Lemmas.LatticeQueryC04
namespace Fca.C04
open Fca.LQ Fca.Spec

abbrev IsConceptList := LQ.IsConceptList

/-- non-vacuity: a 3×3 table with two identical rows (objects 0 and 1 share a node) and two identical
    columns (attributes 0 and 1 share a node), concepts in an unsorted order -/
def exTable : Table := ⟨[[true, true, false], [true, true, false], [false, false, true]], 3⟩
def exLat : Lat := [([], [0, 1, 2]), ([0, 1], [0, 1]), ([0, 1, 2], []), ([2], [2])]
example : IsConceptList exTable exLat := by decide +kernel
example : newExtentI exLat id 1 = [0, 1] ∧ newIntentI exLat id 1 = [0, 1] := by decide +kernel

/-- each object `g` labels exactly one node: `g` is in the new extent of concept `i` iff `i` is the
    position of the object concept `({g}″, {g}′)` -/
theorem object_label_unique (t : Table) (cs : Lat) (H : IsConceptList t cs)
    (ord : List Nat → List Nat) (ho : PQ.IsOrder ord) (g : Nat) (hg : g < t.height) :
    ∃ k, k < cs.length ∧ extOf cs k = closure t [g] ∧
      ∀ i, i < cs.length → (g ∈ newExtentI cs ord i ↔ i = k) := by
  obtain ⟨k, hk, he⟩ := H.exists_objConcept g hg
  exact ⟨k, hk, he, fun i hi => H.toSub.mem_newExtentI_iff_objConcept ho hg hk he hi⟩

/-- each attribute `a` labels exactly one node: the position of the attribute concept `({a}′, {a}″)` -/
theorem attribute_label_unique (t : Table) (cs : Lat) (H : IsConceptList t cs)
    (ord : List Nat → List Nat) (ho : PQ.IsOrder ord) (a : Nat) (ha : a < t.width) :
    ∃ k, k < cs.length ∧ extOf cs k = extAll t [a] ∧ intOf cs k = closureAttr t [a] ∧
      ∀ i, i < cs.length → (a ∈ newIntentI cs ord i ↔ i = k) := by
  obtain ⟨k, hk, he, hik⟩ :=
    H.exists_idx (isConcept_of_attrs t (B := [a]) fun _ hx => List.mem_singleton.mp hx ▸ ha)
  exact ⟨k, hk, he, hik, fun i hi => H.toSub.mem_newIntentI_iff_attrConcept ho ha hk he hi⟩

/-- the table is recovered from the diagram: object `g` has attribute `a` iff the node labelled `g` is
    below or equal to the node labelled `a` (equivalently: the node labelled `a` is it or one of its ancestors) -/
theorem table_reconstructed (t : Table) (cs : Lat) (H : IsConceptList t cs)
    (ord : List Nat → List Nat) (ho : PQ.IsOrder ord) (g a : Nat) (hg : g < t.height) (ha : a < t.width)
    (i j : Nat) (hi : i < cs.length) (hj : j < cs.length)
    (hgi : g ∈ newExtentI cs ord i) (haj : a ∈ newIntentI cs ord j) :
    (t.get g a = true ↔ leq cs i j = true) ∧
    (t.get g a = true ↔ (i = j ∨ j ∈ ancestors cs i)) := by
  obtain ⟨kg, hkg, heg, hug⟩ := object_label_unique t cs H ord ho g hg
  obtain ⟨ka, hka, hea, _, hua⟩ := attribute_label_unique t cs H ord ho a ha
  obtain rfl : i = kg := (hug i hi).mp hgi
  obtain rfl : j = ka := (hua j hj).mp haj
  have main := H.toSub.get_iff_leq hg hi hj heg hea
  exact ⟨main, main.trans (PQ.leq_iff_eq_or_mem_ancestors H.toSub.isPO hi hj)⟩

/-- index and name versions agree: with pairwise distinct names, the name labels are the names of the
    index labels -/
theorem labels_by_name_agree (t : Table) (cs : Lat) (H : IsConceptList t cs)
    (ord : List Nat → List Nat) (ho : PQ.IsOrder ord) (objNames attrNames : List String)
    (hon : objNames.Nodup) (hol : objNames.length = t.height)
    (han : attrNames.Nodup) (hal : attrNames.length = t.width) (i : Nat) (hi : i < cs.length) :
    newExtent objNames cs ord i = namesOf objNames (newExtentI cs ord i) ∧
    newIntent attrNames cs ord i = namesOf attrNames (newIntentI cs ord i) :=
  ⟨H.toSub.newExtent_eq ord hon hol hi, H.toSub.newIntent_eq ord han hal hi⟩

/-- the checker the harness applies to the IMPLEMENTATION's labels and ancestor sets is a verified oracle:
    it answers `true` exactly when (1) every object labels exactly one node, (2) every attribute labels exactly
    one node (labels in range), and (3) `table[g][a] ⇔ node(g) = node(a) ∨ node(a) ∈ anc[node(g)]` — i.e. the
    statements of `object_label_unique`, `attribute_label_unique`, `table_reconstructed` for the given lists. -/
theorem holdsC04_iff (t : Table) (newExt newInt anc : List (List Nat)) :
    Spec.holdsC04 t newExt newInt anc = true ↔ C04Holds t newExt newInt anc :=
  LQ.holdsC04_iff t newExt newInt anc

/-- the model's labels and ancestor sets satisfy the three statements, hence the checker accepts them -/
theorem model_holdsC04 (t : Table) (cs : Lat) (H : IsConceptList t cs)
    (ord : List Nat → List Nat) (ho : PQ.IsOrder ord) :
    Spec.holdsC04 t ((List.range cs.length).map (newExtentI cs ord))
      ((List.range cs.length).map (newIntentI cs ord)) ((List.range cs.length).map (ancestors cs)) = true :=
  (holdsC04_iff _ _ _ _).mpr (H.toSub.c04Holds ho H.exists_objConcept H.exists_attrConcept fun _ _ _ => Iff.rfl)

/-- the table is recovered from the diagram A USER IS SHOWN: the reduced labels and the drawn cover edges
    (`parents_dict`) alone — "below or equal" read as reachability along the edges (`Spec.reachAll`, what
    `Spec.holdsC04Edges` uses) is the lattice order, so the checker applied to the drawn edges accepts the model -/
theorem model_holdsC04Edges (t : Table) (cs : Lat) (H : IsConceptList t cs)
    (ord : List Nat → List Nat) (ho : PQ.IsOrder ord) :
    Spec.holdsC04Edges t ((List.range cs.length).map (newExtentI cs ord))
      ((List.range cs.length).map (newIntentI cs ord)) ((List.range cs.length).map (parents cs ord)) = true := by
  rw [holdsC04Edges, holdsC04_iff, reachAll, List.length_map, List.length_range]
  exact H.toSub.c04Holds ho H.exists_objConcept H.exists_attrConcept fun i hi j => H.toSub.mem_reachFrom ho hi j

/-- the hypothesis `IsConceptList` is decided by the subset-free test the driver uses for wide tables
    (duplicate-free list of concepts containing the top extent and closed under cutting an extent by one attribute) -/
theorem isConceptListFast_iff (t : Table) (cs : Lat) :
    Spec.isConceptListFast t cs = true ↔ IsConceptList t cs := by
  unfold Spec.isConceptListFast
  simp only [Bool.and_eq_true, List.any_eq_true, List.all_eq_true, List.mem_range, beq_iff_eq]
  refine ⟨fun h => ?_, fun H => ?_⟩
  · obtain ⟨⟨hsub, htop⟩, hcl⟩ := h
    have S : IsConceptSub t cs := (isConceptSub_iff_bool t cs).mp hsub
    show cs.Perm (allConcepts t)
    rw [List.perm_ext_iff_of_nodup S.1 (allConcepts_nodup t)]
    rintro ⟨A, B⟩
    rw [mem_allConcepts]
    refine ⟨S.2 _, fun hAB => ?_⟩
    -- the listed concept with extent `B′ = A` is `(A, B)`
    obtain ⟨d, hd, ed⟩ := exists_ext_of_closed htop hcl B (isConcept_intent_lt hAB)
    exact isConcept_eq_of_extent_eq (d := (A, B)) (S.2 d hd) hAB (ed.trans ((isConcept_iff t).mp hAB).1) ▸ hd
  · refine ⟨⟨(isConceptSub_iff_bool t cs).mpr H.toSub, ?_⟩, ?_⟩
    · exact ⟨(extAll t [], closureAttr t []), H.mem_iff.mpr (isConcept_of_attrs t (B := []) nofun), rfl⟩
    · intro c hc a ha
      have hc := H.mem_iff.mp hc
      have hr : ∀ x ∈ a :: c.2, x < t.width := List.forall_mem_cons.mpr ⟨ha, isConcept_intent_lt hc⟩
      refine ⟨(extAll t (a :: c.2), closureAttr t (a :: c.2)), H.mem_iff.mpr (isConcept_of_attrs t hr), ?_⟩
      rw [extAll_cons, ((isConcept_iff t).mp hc).1]

end Fca.C04
