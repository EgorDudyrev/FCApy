/-
  Props/C09 — poset answers never depend on the history of queries and mutations.

  Model: `Fca.Model.Poset` (state machine mirroring `fcapy/poset/poset.py`), specification: `Fca.Spec.Poset`
  (`Fresh`: the answers computed directly from `leq` on the current element list).
-/
import Fca.Lemmas.PosetRun
import Fca.Lemmas.PosetInit
import Fca.Gen.EquivPoset
namespace Fca.C09
open Fca.Poset Fca.Poset.Fresh

section
variable {α : Type} [DecidableEq α] {leq : α → α → Bool} {ord : List Nat → List Nat} {U : α → Prop}

/-- The invariant: the elements are duplicate free and - on a caching instance - every cache key is a valid
    index and every cached entry equals the `Fresh` value for the current elements (for comparison entries:
    equals `leq` of the two elements).  (`Poset.InvB` spells this out.) -/
def Inv (leq : α → α → Bool) (s : St α) : Prop :=
  s.elems.Nodup ∧ InvB leq s.elems Ghost.none s.useCache s

/-- the hypotheses on the environment: `leq` is a partial order (reflexive, antisymmetric, transitive) on the
    universe `U` of all elements that are ever present, and `ord` (the order in which Python iterates a set)
    is any rearrangement -/
structure Env (leq : α → α → Bool) (ord : List Nat → List Nat) (U : α → Prop) : Prop where
  po : PO leq U
  ord_perm : ∀ l, (ord l).Perm l

/-- the elements an operation list brings in lie in `U` -/
def OpsIn (U : α → Prop) (ops : List (Op α)) : Prop := ∀ op ∈ ops, OpIn U op

/-- soundness of the executable invariant check `Fresh.invCheck` -/
theorem inv_of_check (s : St α) (hnd : s.elems.Nodup) (hc : invCheck leq s = true) : Inv leq s := by
  -- one relation cache against the `Fresh` column it is compared with
  have cacheOk : ∀ {n : Nat} {P : Nat → Nat → Bool} {col : Nat → List Nat} {ca : Cache},
      (∀ k x, x ∈ col k ↔ P x k = true) →
      (ca.all fun p => decide (p.1 < n) && decide p.2.Nodup && setEq p.2 (col p.1)) = true → Exact n P ca := by
    intro n P col ca hcol h k v hl
    have := List.all_eq_true.mp h _ (alookup_mem hl)
    simp only [setEq, Bool.and_eq_true, List.all_eq_true, decide_eq_true_eq] at this
    exact ⟨this.1.1, this.1.2, fun x =>
      ⟨fun hx => (hcol k x).mp (this.2.1 x hx), fun hx => this.2.2 x ((hcol k x).mpr hx)⟩⟩
  unfold invCheck at hc
  simp only [Bool.and_eq_true, List.all_cons, List.all_nil, Bool.and_true] at hc
  refine ⟨hnd, InvB.ofOk rfl rfl (fun _ a b r h => ?_) (fun _ d => ?_) (fun _ d => ?_)⟩
  · have := List.all_eq_true.mp hc.1 _ (alookup_mem h)
    simp only [Bool.and_eq_true, decide_eq_true_eq, beq_iff_eq] at this
    exact ⟨this.1.1, this.1.2, this.2⟩
  · cases d
    · exact cacheOk (fun _ _ => mem_closed) hc.2.1.1
    · exact cacheOk (fun _ _ => mem_closed) hc.2.2.1
  · cases d
    · exact cacheOk (fun _ _ => mem_direct) hc.2.1.2
    · exact cacheOk (fun _ _ => mem_direct) hc.2.2.2

/-- an empty-cache poset (`POSet(elements, leq, use_cache)`) satisfies the invariant -/
theorem inv_init (E : List α) (c : Bool) (hnd : E.Nodup) : Inv leq (init E c) :=
  inv_of_check _ hnd rfl

/-- A poset built with a `children_dict` that is the true lower-cover relation of its elements
    (`CorrectCD`: every entry lists exactly the lower covers of its key, every element has an entry) satisfies
    the invariant: `_closed_relation_cache_by_direct_cache` computes exactly the strict down-sets (and an entry
    for every element), `_transpose_hierarchy` turns children into parents and descendants into ancestors, and
    the comparison table filled for fewer than 10 elements holds `leq`.
    (`hs`: the constructor returned; the model's work-list loop carries a fuel argument, the driver supplies
    200000.  That the loop cannot get stuck or fail on a correct `children_dict` is not part of this theorem;
    it is `inv_init_children_dict_total` below.) -/
theorem inv_init_children_dict (henv : Env leq ord U) (fuel : Nat) (E : List α) (cd : Cache) (s : St α)
    (hnd : E.Nodup) (hU : ∀ a ∈ E, U a) (hcd : CorrectCD leq E cd) (hs : initCD fuel E cd = .ok s) :
    Inv leq s :=
  InvB.self hnd (initCD_inv (idxPO_of henv.po hnd hU) hcd hs)

/-- The constructor with `children_dict` RETURNS and establishes the invariant: for a partial order, duplicate-free
    elements and a `children_dict` that is the true lower-cover relation (`CorrectCD`), the work-list loop of
    `_closed_relation_cache_by_direct_cache` terminates within the fuel computed from the dictionary
    (`startWeight`: `Σ 2 ^ #ancestors` over the start list), never finds the work list without a ready element,
    and none of its dictionary lookups fails; so no error branch of the model is taken (`Lemmas/PosetInit`).  For
    association lists with or without repeated keys. -/
theorem inv_init_children_dict_total_exact (henv : Env leq ord U) (E : List α) (cd : Cache)
    (hnd : E.Nodup) (hU : ∀ a ∈ E, U a) (hcd : CorrectCD leq E cd)
    (fuel : Nat) (hfuel : startWeight leq E cd < fuel) :
    ∃ s, initCD fuel E cd = .ok s ∧ Inv leq s := by
  obtain ⟨s, hs⟩ := initCD_returns (idxPO_of henv.po hnd hU) hcd hfuel
  exact ⟨s, hs, inv_init_children_dict henv fuel E cd s hnd hU hcd hs⟩

/-- The same within `fuelBound E.length = 2 ^ E.length` units of fuel, when the keys of the `children_dict` are
    distinct (`hkeys`; a Python `dict` cannot repeat a key - the hypothesis only excludes association lists that are
    not dicts, and without it the statement is false: `[(0, []), (0, []), (0, [])]` over one element needs 4 units).
    The bound is exponential because the loop really is: it re-visits an element once per upward cover-path
    from a minimal element (a performance observation on the real code, not a violation of this property). -/
theorem inv_init_children_dict_total (henv : Env leq ord U) (E : List α) (cd : Cache)
    (hnd : E.Nodup) (hU : ∀ a ∈ E, U a) (hcd : CorrectCD leq E cd) (hkeys : (cd.map Prod.fst).Nodup)
    (fuel : Nat) (hfuel : fuelBound E.length ≤ fuel) :
    ∃ s, initCD fuel E cd = .ok s ∧ Inv leq s :=
  inv_init_children_dict_total_exact henv E cd hnd hU hcd fuel
    (Nat.lt_of_lt_of_le (startWeight_lt_pow (idxPO_of henv.po hnd hU) hcd hkeys) hfuel)

/-- Every operation - all queries, `add` with or without cache filling, `del`, `remove`, `==`, `fill_up_*` -
    preserves the invariant (and changes the element list as `Fresh.next` says, and never the cache flag).
    `hin`: an element being added belongs to the universe on which `leq` is a partial order. -/
theorem inv_step (henv : Env leq ord U) (s : St α) (op : Op α) (hinv : Inv leq s)
    (hU : ∀ a ∈ s.elems, U a) (hok : opOk s.elems s.useCache op = true) (hin : OpIn U op) :
    Inv leq (step leq ord s op).1 ∧ (step leq ord s op).1.elems = next s.elems op ∧
      (step leq ord s op).1.useCache = s.useCache := by
  have h := (step_spec_full henv.po henv.ord_perm hinv.1 hU hinv.2 op hok hin).1
  exact ⟨InvB.self (next_nodup hinv.1 op) h, h.elems, h.flag⟩

/-- The output of every operation is the answer of a freshly built cache-free poset over the current
    elements. -/
theorem out_step (henv : Env leq ord U) (s : St α) (op : Op α) (hinv : Inv leq s)
    (hU : ∀ a ∈ s.elems, U a) (hok : opOk s.elems s.useCache op = true) (hin : OpIn U op) :
    (step leq ord s op).2 = answer leq s.elems op :=
  (step_spec_full henv.po henv.ord_perm hinv.1 hU hinv.2 op hok hin).2

/-- Poset answers never depend on the history: for every state `s` satisfying `Inv` (in particular `init E c`,
    cache on or off), every partial order `leq` on the universe `U` of the elements that are ever present, every
    set-iteration order `ord`, and every history `ops` of queries (leq, descendants, ancestors, children,
    parents, tops, bottoms, join, meet, index, ==), `fill_up_*`, `add` (with or without cache filling), `del`,
    `remove` whose query indexes are in range (`opsOk`), the outputs are those of freshly built cache-free
    posets over the current elements. -/
theorem history_independent (henv : Env leq ord U) (ops : List (Op α)) (s : St α) (hinv : Inv leq s)
    (hU : ∀ a ∈ s.elems, U a) (hin : OpsIn U ops) (hok : opsOk s.elems s.useCache ops = true) :
    (run leq ord s ops).2 = runFresh leq s.elems ops :=
  (run_spec henv.po henv.ord_perm ops hinv.1 hU hinv.2 hin hok).2.2.2

/-- Caching is an optimisation only: a caching and a non-caching instance over the same elements give the same
    outputs on every history that is valid for both (`fill_up_*` asserts `use_cache`, so it is excluded by
    `opsOk … false`). -/
theorem cache_transparent (henv : Env leq ord U) (E : List α) (hnd : E.Nodup) (hU : ∀ a ∈ E, U a)
    (ops : List (Op α)) (hin : OpsIn U ops) (hok : opsOk E false ops = true) :
    (run leq ord (init E true) ops).2 = (run leq ord (init E false) ops).2 :=
  run_outputs_eq henv.po henv.ord_perm ops hnd hU (inv_init E true hnd).2 (inv_init E false hnd).2 hin
    (opsOk_of_uncached true hok) hok

end

/-! ### non-vacuity: the hypotheses are met by a concrete, non-trivial instance -/

private def subLeq (a b : Nat) : Bool := (a &&& b) == a

/-- bit masks below 8 under ⊆ form a partial order; a history with a query, a deletion and an insertion is
    valid, and the theorem's two sides are the same concrete outputs -/
example : opsOk [5, 0, 3, 7] true
      [Op.leq 1 3, .extremes .anc, .del 1, .add 1 true, .extremes .desc, .bound .anc [0, 1]] = true
    ∧ (run subLeq id (init [5, 0, 3, 7] true)
        [Op.leq 1 3, .extremes .anc, .del 1, .add 1 true, .extremes .desc, .bound .anc [0, 1]]).2
      = runFresh subLeq [5, 0, 3, 7]
        [Op.leq 1 3, .extremes .anc, .del 1, .add 1 true, .extremes .desc, .bound .anc [0, 1]] := by
  decide +kernel

/-- the constructor returns on a concrete correct `children_dict` (chain ∅ ⊂ {0} ⊂ {0,1}) -/
example : (match initCD (α := Nat) 50 [0, 1, 3] [(0, []), (1, [0]), (2, [1])] with
    | .ok s => s.descC == [(2, [1, 0]), (1, [0]), (0, [])] && s.ancC.length == 3
    | .error _ => false) = true := by decide +kernel

example : PO subLeq (fun a => a < 8) := po_and_eq _

/-- the hypotheses of `inv_init_children_dict_total` are met by a non-chain instance (a diamond ∅, {a}, {b},
    {a,b} under a top {a,b,c}; the element {a,b} is popped twice, the top twice): the dictionary is the true
    cover relation with distinct keys, so the constructor returns within `fuelBound 5 = 32` units and the state
    satisfies the invariant; concretely it returns the full descendants table -/
example : CorrectCD subLeq [0, 1, 2, 3, 7] [(0, []), (1, [0]), (2, [0]), (3, [1, 2]), (4, [3])]
    ∧ (∃ s, initCD (fuelBound 5) [0, 1, 2, 3, 7] [(0, []), (1, [0]), (2, [0]), (3, [1, 2]), (4, [3])] = .ok s
        ∧ Inv subLeq s)
    ∧ (match initCD (α := Nat) (fuelBound 5) [0, 1, 2, 3, 7] [(0, []), (1, [0]), (2, [0]), (3, [1, 2]), (4, [3])] with
        | .ok s => s.descC == [(4, [3, 1, 2, 0]), (3, [1, 2, 0]), (2, [0]), (1, [0]), (0, [])]
        | .error _ => false) = true := by
  have hcd : CorrectCD subLeq [0, 1, 2, 3, 7] [(0, []), (1, [0]), (2, [0]), (3, [1, 2]), (4, [3])] :=
    correctCD_of_check (by decide +kernel)
  refine ⟨hcd, ?_, by decide +kernel⟩
  exact inv_init_children_dict_total (ord := id) ⟨po_and_eq (fun a => a < 8), fun _ => List.Perm.refl _⟩ _ _
    (by decide +kernel) (by decide +kernel) hcd (by decide +kernel) _ (Nat.le_refl _)

/-! ### the uncached queries, for the definitions GENERATED from the Python source

  `Fca.Gen.Lists.poset*` (`Fca/Gen/GeneratedPoset.lean`) is what `harness/py2lean.py` makes of the current source of
  `POSet.leq_elements / descendants / ancestors / children / parents / bottoms / tops` (and the `_nocache` bodies and
  `__len__` they call) for a poset built with `use_cache=False`; `Fca/Gen/EquivPoset.lean` proves that on a cache-less
  state the model answers exactly what they compute.  Hence the history-independent answer `Fresh.answer` is what the
  source-derived definitions return, on every state the invariant holds for. -/

section
variable {α : Type} [DecidableEq α] {leq : α → α → Bool} {ord : List Nat → List Nat} {U : α → Prop}

/-- `leq_elements(i, j)` -/
theorem gen_leq_answer (henv : Env leq ord U) (s : St α) (hinv : Inv leq s) (hU : ∀ a ∈ s.elems, U a)
    (hc : s.useCache = false) (i j : Nat) (hok : opOk s.elems s.useCache (.leq i j) = true) :
    outOf .bool (Gen.Lists.posetLeq ord ⟨s.elems, leq⟩ i j) = answer leq s.elems (.leq i j) :=
  outOf_of_run (Gen.Lists.posetLeq_eq_model leq ord s hc i j) _ (out_step henv s (.leq i j) hinv hU hok trivial)

/-- `descendants(i)` / `ancestors(i)` (as sets: compared after sorting) -/
theorem gen_closed_answer (henv : Env leq ord U) (s : St α) (hinv : Inv leq s) (hU : ∀ a ∈ s.elems, U a)
    (hc : s.useCache = false) (i : Nat) (hok : decide (i < s.elems.length) = true) :
    outOf (fun l => .set (sortSet l)) (Gen.Lists.posetDescendants ord ⟨s.elems, leq⟩ i)
        = answer leq s.elems (.closed .desc i) ∧
    outOf (fun l => .set (sortSet l)) (Gen.Lists.posetAncestors ord ⟨s.elems, leq⟩ i)
        = answer leq s.elems (.closed .anc i) :=
  ⟨outOf_of_run (Gen.Lists.posetDescendants_eq_model leq ord s hc i) _
      (out_step henv s (.closed .desc i) hinv hU hok trivial),
    outOf_of_run (Gen.Lists.posetAncestors_eq_model leq ord s hc i) _
      (out_step henv s (.closed .anc i) hinv hU hok trivial)⟩

/-- `children(i)` / `parents(i)`, whatever order `ord` Python walks the sets in -/
theorem gen_direct_answer (henv : Env leq ord U) (s : St α) (hinv : Inv leq s) (hU : ∀ a ∈ s.elems, U a)
    (hc : s.useCache = false) (i : Nat) (hok : decide (i < s.elems.length) = true) :
    outOf (fun l => .set (sortSet l)) (Gen.Lists.posetChildren ord ⟨s.elems, leq⟩ i)
        = answer leq s.elems (.direct .desc i) ∧
    outOf (fun l => .set (sortSet l)) (Gen.Lists.posetParents ord ⟨s.elems, leq⟩ i)
        = answer leq s.elems (.direct .anc i) :=
  ⟨outOf_of_run (Gen.Lists.posetChildren_eq_model leq ord s hc i) _
      (out_step henv s (.direct .desc i) hinv hU hok trivial),
    outOf_of_run (Gen.Lists.posetParents_eq_model leq ord s hc i) _
      (out_step henv s (.direct .anc i) hinv hU hok trivial)⟩

/-- `bottoms` / `tops` -/
theorem gen_extremes_answer (henv : Env leq ord U) (s : St α) (hinv : Inv leq s) (hU : ∀ a ∈ s.elems, U a)
    (hc : s.useCache = false) :
    outOf .list (Gen.Lists.posetBottoms ord ⟨s.elems, leq⟩) = answer leq s.elems (.extremes .desc) ∧
    outOf .list (Gen.Lists.posetTops ord ⟨s.elems, leq⟩) = answer leq s.elems (.extremes .anc) :=
  ⟨outOf_of_run (Gen.Lists.posetBottoms_eq_model leq ord s hc) _ (out_step henv s (.extremes .desc) hinv hU rfl trivial),
    outOf_of_run (Gen.Lists.posetTops_eq_model leq ord s hc) _ (out_step henv s (.extremes .anc) hinv hU rfl trivial)⟩

/-- `join(S)` / `meet(S)` (`None` and `[]` both mean "all elements"), whatever order `ord` Python walks the sets in -/
theorem gen_bound_answer (henv : Env leq ord U) (s : St α) (hinv : Inv leq s) (hU : ∀ a ∈ s.elems, U a)
    (hc : s.useCache = false) (S : Option (List Nat))
    (hok : ((S.getD []).all fun i => decide (i < s.elems.length)) = true) :
    outOf .optNat (Gen.Lists.posetJoin ord ⟨s.elems, leq⟩ S) = answer leq s.elems (.bound .anc (S.getD [])) ∧
    outOf .optNat (Gen.Lists.posetMeet ord ⟨s.elems, leq⟩ S) = answer leq s.elems (.bound .desc (S.getD [])) :=
  ⟨outOf_of_run (Gen.Lists.posetJoin_eq_model leq ord s hc henv.ord_perm S) _
      (out_step henv s (.bound .anc (S.getD [])) hinv hU hok trivial),
    outOf_of_run (Gen.Lists.posetMeet_eq_model leq ord s hc henv.ord_perm S) _
      (out_step henv s (.bound .desc (S.getD [])) hinv hU hok trivial)⟩

end

/-- the generated definitions compute (divisibility order on `[1, 2, 3, 6]`): -/
example : Gen.Lists.posetChildren id ⟨[1, 2, 3, 6], fun a b => decide (a ∣ b)⟩ 3 = .ok [1, 2]
    ∧ Gen.Lists.posetTops id ⟨[1, 2, 3, 6], fun a b => decide (a ∣ b)⟩ = .ok [3]
    ∧ Gen.Lists.posetMeet id ⟨[1, 2, 3, 6], fun a b => decide (a ∣ b)⟩ (some [1, 2]) = .ok (some 0)
    ∧ Gen.Lists.posetJoin id ⟨[1, 2, 3], fun a b => decide (a ∣ b)⟩ none = .ok none := by
  exact ⟨by rfl, by rfl, by rfl, by rfl⟩

end Fca.C09
