/-
  Props/C08 — concepts are ordered by extent inclusion, with consistent equality and hashing;
  cross-context / cross-monotonicity comparisons are refused; the defining fields are frozen;
  `from_objects` builds the closure of the given object set.
-/
import Fca.Lemmas.Concept
import Fca.Lemmas.Galois
import Fca.Props.C01
namespace Fca.C08

/-- "two concepts the library derived from one context": same context hash, same monotonicity,
    duplicate-free extents (every miner and `from_objects` produce duplicate-free extents;
    the order of the indexes inside an extent is arbitrary). -/
structure Comparable (a b : Concept) : Prop where
  hash : a.contextHash = b.contextHash
  mono : a.isMonotone = b.isMonotone
  nda : a.extentI.Nodup
  ndb : b.extentI.Nodup

/-- the order the property prescribes: extent inclusion, reversed for monotone concepts -/
def ExtLe (a b : Concept) : Prop :=
  if a.isMonotone then b.extentI ⊆ a.extentI else a.extentI ⊆ b.extentI

instance (a b : Concept) : Decidable (ExtLe a b) := by unfold ExtLe; infer_instance

def ExtEq (a b : Concept) : Prop := a.extentI ⊆ b.extentI ∧ b.extentI ⊆ a.extentI

instance (a b : Concept) : Decidable (ExtEq a b) := by unfold ExtEq; infer_instance

theorem extEq_iff_extLe_extLe {a b : Concept} (hm : a.isMonotone = b.isMonotone) :
    ExtEq a b ↔ ExtLe a b ∧ ExtLe b a := by
  unfold ExtLe ExtEq
  rw [← hm]
  split
  · exact and_comm
  · exact Iff.rfl

/-- `a <= b` ⇔ `a`'s extent is contained in `b`'s (reversed for monotone concepts). -/
theorem le_iff_extent_subset (a b : Concept) (h : Comparable a b) :
    Concept.le a b = .ok (decide (ExtLe a b)) := by
  rw [Concept.le_eq, if_pos h.hash, if_pos h.mono]
  apply ok_eq_ok_decide
  unfold ExtLe
  split
  · exact leCore_iff_subset h.ndb
  · exact leCore_iff_subset h.nda

/-- `==` ⇔ equal extents (as sets, whatever the order of the indexes). -/
theorem eq_iff_extent_eq (a b : Concept) (h : Comparable a b) :
    Concept.eq a b = .ok (decide (ExtEq a b)) ∧
    (Concept.eq a b = .ok true ↔ ∀ g, g ∈ a.extentI ↔ g ∈ b.extentI) := by
  have key : Concept.eq a b = .ok (decide (ExtEq a b)) := by
    rw [Concept.eq_eq, if_pos h.hash, if_pos h.mono]
    exact ok_eq_ok_decide (eqLen_and_setEq_iff h.nda h.ndb)
  refine ⟨key, ?_⟩
  rw [key, Except.ok.injEq, decide_eq_true_iff]
  exact subset_subset_iff

/-- `<` is the strict part of `<=`: `a <= b` and not `b <= a`; equivalently `a <= b` and not `a == b`. -/
theorem lt_strict_part (a b : Concept) (h : Comparable a b) :
    Concept.lt a b = .ok (decide (ExtLe a b ∧ ¬ ExtLe b a)) ∧
    Concept.lt a b = .ok (decide (ExtLe a b ∧ ¬ ExtEq a b)) := by
  have key : Concept.lt a b = .ok (decide (ExtLe a b ∧ ¬ ExtLe b a)) := by
    rw [Concept.lt_eq, if_pos h.hash, if_pos h.mono]
    apply ok_eq_ok_decide
    unfold ExtLe
    rw [← h.mono]
    split
    · rw [bne_comm]
      exact neLen_and_leCore_iff h.ndb h.nda
    · exact neLen_and_leCore_iff h.nda h.ndb
  refine ⟨key, ?_⟩
  rw [key]
  apply ok_eq_ok_decide
  rw [decide_eq_true_iff, extEq_iff_extLe_extLe h.mono]
  exact and_congr_right fun hab => not_congr (and_iff_right hab).symm

/-- equal concepts hand equal values to `hash` (so they hash equally). -/
theorem eq_hashkey (a b : Concept) (h : Comparable a b) (heq : Concept.eq a b = .ok true) :
    Concept.hashKey a = Concept.hashKey b :=
  sortedNats_eq_iff_perm.mpr ((List.perm_ext_iff_of_nodup h.nda h.ndb).mpr ((eq_iff_extent_eq a b h).2.mp heq))

/-- (the hash key is as discriminating as equality allows: equal keys ⇒ equal concepts) -/
theorem hashkey_eq (a b : Concept) (h : Comparable a b) (hk : Concept.hashKey a = Concept.hashKey b) :
    Concept.eq a b = .ok true :=
  (eq_iff_extent_eq a b h).2.mpr fun _ => (sortedNats_eq_iff_perm.mp hk).mem_iff

/-- `<=` is a partial order on the concepts of one context: reflexive, antisymmetric up to `==`,
    transitive.  (No hypothesis is needed: an answer `True` already implies matching guards.) -/
theorem le_partial_order :
    (∀ a : Concept, Concept.le a a = .ok true) ∧
    (∀ a b : Concept, Concept.le a b = .ok true → Concept.le b a = .ok true → Concept.eq a b = .ok true) ∧
    (∀ a b c : Concept, Concept.le a b = .ok true → Concept.le b c = .ok true → Concept.le a c = .ok true) := by
  refine ⟨fun a => ?_, fun a b hab hba => ?_, fun a b c hab hbc => ?_⟩
  · refine Concept.le_ok_true_iff.mpr ⟨rfl, rfl, ?_⟩
    split <;> exact leCore_refl _
  · obtain ⟨hh, hm, hab⟩ := Concept.le_ok_true_iff.mp hab
    obtain ⟨_, _, hba⟩ := Concept.le_ok_true_iff.mp hba
    rw [← hm] at hba
    rw [Concept.eq_eq, if_pos hh, if_pos hm, Except.ok.injEq]
    by_cases hmono : a.isMonotone = true
    · rw [if_pos hmono] at hab hba
      exact (leCore_antisymm hba hab).1
    · rw [if_neg hmono] at hab hba
      exact (leCore_antisymm hab hba).1
  · obtain ⟨hh, hm, hab⟩ := Concept.le_ok_true_iff.mp hab
    obtain ⟨hh', hm', hbc⟩ := Concept.le_ok_true_iff.mp hbc
    rw [← hm] at hbc
    refine Concept.le_ok_true_iff.mpr ⟨hh.trans hh', hm.trans hm', ?_⟩
    by_cases hmono : a.isMonotone = true
    · rw [if_pos hmono] at hab hbc ⊢
      exact leCore_trans hbc hab
    · rw [if_neg hmono] at hab hbc ⊢
      exact leCore_trans hab hbc

/-- `a'` is `a` with its extent listed in another order: `extent_i` is a permutation (repetitions, if any, are
    kept), context hash and monotonicity are the same.  (Every derivation route lists the extent in its own order:
    `extension_i` ascending, object-wise CbO "generators first", `from_objects(…, is_extent=True)`, `read_json`
    and the constructor as given.) -/
structure Relisted (a a' : Concept) : Prop where
  perm : a.extentI.Perm a'.extentI
  hash : a.contextHash = a'.contextHash
  mono : a.isMonotone = a'.isMonotone

/-- `<=`, `<`, `==`, `!=` and the value handed to `hash` depend on the two extents only as SETS: re-listing either
    extent in any order — whatever its length, nothing else assumed — changes no answer (value or exception)
    and no hash.  So no threshold on the number of objects and no ratio of supports separates two regimes. -/
theorem listing_invariant (a a' b b' : Concept) (ha : Relisted a a') (hb : Relisted b b') :
    Concept.le a b = Concept.le a' b' ∧ Concept.lt a b = Concept.lt a' b' ∧
    Concept.eq a b = Concept.eq a' b' ∧ Concept.ne a b = Concept.ne a' b' ∧
    Concept.hashKey a = Concept.hashKey a' := by
  obtain ⟨pa, hha, hma⟩ := ha
  obtain ⟨pb, hhb, hmb⟩ := hb
  have heq : Concept.eq a b = Concept.eq a' b' := by
    rw [Concept.eq_eq, Concept.eq_eq, ← hha, ← hhb, ← hma, ← hmb, pa.length_eq, pb.length_eq, setEq_perm pa pb]
  refine ⟨?_, ?_, heq, ?_, sortedNats_eq_iff_perm.mpr pa⟩
  · rw [Concept.le_eq, Concept.le_eq, ← hha, ← hhb, ← hma, ← hmb, leCore_perm pa pb, leCore_perm pb pa]
  · rw [Concept.lt_eq, Concept.lt_eq, ← hha, ← hhb, ← hma, ← hmb, pa.length_eq, pb.length_eq,
      leCore_perm pa pb, leCore_perm pb pa]
  · unfold Concept.ne
    rw [heq]

/-- in particular a concept and any re-listing of it are equal, compare `<=` both ways, never `<`, and hash equally -/
theorem relisted_equal (a a' : Concept) (h : Relisted a a') :
    Concept.eq a a' = .ok true ∧ Concept.le a a' = .ok true ∧ Concept.le a' a = .ok true ∧
    Concept.lt a a' = .ok false ∧ Concept.hashKey a = Concept.hashKey a' := by
  have refl : Relisted a a := ⟨List.Perm.refl _, rfl, rfl⟩
  have h1 := listing_invariant a a a a' refl h
  have h2 := listing_invariant a a' a a h refl
  have hle : Concept.le a a = .ok true := le_partial_order.1 a
  have heq : Concept.eq a a = .ok true := le_partial_order.2.1 a a hle hle
  have hlt : Concept.lt a a = .ok false := by
    rw [Concept.lt_eq, if_pos rfl, if_pos rfl, bne_self_eq_false, Bool.false_and]
  exact ⟨h1.2.2.1 ▸ heq, h1.1 ▸ hle, h2.1 ▸ hle, h1.2.1 ▸ hlt, h2.2.2.2.2⟩

/-- concepts of different contexts: `==`, `!=`, `<=`, `<` all raise `UnmatchedContextError`
    (a `ValueError`).  "Different context" means "different context hash". -/
theorem cross_context_refused (a b : Concept) (h : a.contextHash ≠ b.contextHash) :
    Concept.eq a b = .error .UnmatchedContextError ∧ Concept.ne a b = .error .UnmatchedContextError ∧
    Concept.le a b = .error .UnmatchedContextError ∧ Concept.lt a b = .error .UnmatchedContextError ∧
    CErr.base .UnmatchedContextError = PyErr.ValueError := by
  have heq : Concept.eq a b = .error .UnmatchedContextError := by rw [Concept.eq_eq, if_neg h]
  exact ⟨heq, Concept.ne_of_eq_error heq, by rw [Concept.le_eq, if_neg h], by rw [Concept.lt_eq, if_neg h], rfl⟩

/-- a monotone and an antimonotone concept: `==`, `!=`, `<=`, `<` all raise a `ValueError`, which is
    `UnmatchedMonotonicityError` when the contexts match (else the context guard fires first). -/
theorem cross_monotonicity_refused (a b : Concept) (h : a.isMonotone ≠ b.isMonotone) :
    ∃ e : CErr, e.base = PyErr.ValueError ∧
      (a.contextHash = b.contextHash → e = .UnmatchedMonotonicityError) ∧
      Concept.eq a b = .error e ∧ Concept.ne a b = .error e ∧
      Concept.le a b = .error e ∧ Concept.lt a b = .error e := by
  by_cases hh : a.contextHash = b.contextHash
  · have heq : Concept.eq a b = .error .UnmatchedMonotonicityError := by rw [Concept.eq_eq, if_pos hh, if_neg h]
    exact ⟨_, rfl, fun _ => rfl, heq, Concept.ne_of_eq_error heq, by rw [Concept.le_eq, if_pos hh, if_neg h],
      by rw [Concept.lt_eq, if_pos hh, if_neg h]⟩
  · have := cross_context_refused a b hh
    exact ⟨.UnmatchedContextError, rfl, fun e => absurd e hh, this.1, this.2.1, this.2.2.1, this.2.2.2.1⟩

/-- after construction, assigning any of the six defining fields raises `FrozenInstanceError`;
    every other name except the read-only `support` property is assignable (`measures` in particular);
    while `__init__` runs (empty `__dict__`) nothing is frozen. -/
theorem frozen_fields :
    (∀ key ∈ Concept.frozenNames, Concept.setattr Concept.dictAfterInit key = .error .FrozenInstanceError) ∧
    (∀ key, key ∉ Concept.frozenNames → key ≠ "support" → Concept.setattr Concept.dictAfterInit key = .ok ()) ∧
    Concept.setattr Concept.dictAfterInit "measures" = .ok () ∧
    Concept.setattr Concept.dictAfterInit "support" = .error .AttributeError ∧
    (∀ key ∈ Concept.frozenNames, Concept.setattr [] key = .ok ()) := by
  obtain ⟨hm, hs, _⟩ := Concept.measures_support_names
  have other : ∀ key, key ∉ Concept.frozenNames → key ≠ "support" →
      Concept.setattr Concept.dictAfterInit key = .ok () := by
    intro key hk hne
    rw [Concept.setattr_of_not_frozen (Or.inr hk), if_neg (by simpa using hne)]
  refine ⟨fun key hk => Concept.setattr_of_frozen (Concept.frozenNames_sub_dictAfterInit key hk) hk, other,
    other _ hm (by simp), ?_, fun key hk => ?_⟩
  · rw [Concept.setattr_of_not_frozen (Or.inr hs), if_pos (beq_self_eq_true _)]
  · rw [Concept.setattr_of_not_frozen (Or.inl List.not_mem_nil), if_neg]
    rw [beq_iff_eq]
    exact fun e => hs (e ▸ hk)

/-- deleting any of the six defining fields raises `FrozenInstanceError` whatever the state of the instance
    (so the concept is left unchanged); other instance attributes such as `measures` remain deletable and
    assignable; `support` (a property) can be neither deleted nor assigned. -/
theorem frozen_fields_delete :
    (∀ key ∈ Concept.frozenNames, ∀ dict, Concept.delattr dict key = .error .FrozenInstanceError) ∧
    (∀ key ∈ Concept.frozenNames, ∀ dict, (Concept.step dict (.del key)).1 = dict) ∧
    (∃ d, Concept.delattr Concept.dictAfterInit "measures" = .ok d ∧ "measures" ∉ d ∧
          (∀ key ∈ Concept.frozenNames, key ∈ d) ∧ Concept.setattr d "measures" = .ok ()) ∧
    Concept.delattr Concept.dictAfterInit "support" = .error .AttributeError := by
  obtain ⟨hm, hs, hmd, hsd, hme⟩ := Concept.measures_support_names
  refine ⟨fun key hk dict => Concept.delattr_of_frozen dict hk, fun key hk dict => ?_,
    ⟨Concept.dictAfterInit.erase "measures", ?_, hme, fun key hk => ?_, ?_⟩, ?_⟩
  · simp only [Concept.step, Concept.delattr_of_frozen dict hk]
  · rw [Concept.delattr_of_not_frozen _ hm, if_pos (List.contains_iff_mem.mpr hmd)]
  · exact (List.mem_erase_of_ne (fun e : key = "measures" => hm (e ▸ hk))).mpr (Concept.frozenNames_sub_dictAfterInit key hk)
  · rw [Concept.setattr_of_not_frozen (Or.inr hm), if_neg (by simp)]
  · rw [Concept.delattr_of_not_frozen _ hs, if_neg (mt List.contains_iff_mem.mp hsd)]

/-- there is no route around the freeze: after ANY sequence of attribute assignments and deletions on a
    constructed concept (exceptions caught), every defining field is still present, assigning it still raises
    `FrozenInstanceError` and so does deleting it — in particular `del c.extent_i; c.extent_i = …` fails twice. -/
theorem frozen_fields_no_route (ops : List Concept.AttrOp) :
    ∀ key ∈ Concept.frozenNames,
      key ∈ Concept.runOps Concept.dictAfterInit ops ∧
      Concept.setattr (Concept.runOps Concept.dictAfterInit ops) key = .error .FrozenInstanceError ∧
      Concept.delattr (Concept.runOps Concept.dictAfterInit ops) key = .error .FrozenInstanceError := by
  intro key hk
  have hmem := Concept.runOps_keeps_frozen Concept.frozenNames_sub_dictAfterInit ops key hk
  exact ⟨hmem, Concept.setattr_of_frozen hmem hk, Concept.delattr_of_frozen _ hk⟩

/-- the index → name image `[names[i] for i in idxs]` -/
def namesOf (names : List String) (idxs : List Nat) : List String := idxs.map fun i => names.getD i ""

/-- `FormalConcept.from_objects(A, K)` (indexes given) is `(ext (int A), int A)` — the closure of `A` —
    with the name images, the context's hash and `is_monotone = False`; with `is_extent=True` the
    extent is `A` itself.  Every backend. -/
theorem from_objects_closure (K : Ctx) (hwf : K.table.WF)
    (hobj : K.objNames.length = K.nObjects) (hattr : K.attrNames.length = K.nAttributes)
    (A : List Nat) (hA : C01.InRange A K.nObjects) (h : Int) (isExtent : Bool) :
    let I := Spec.int K.table A (List.range K.nAttributes)
    let E := if isExtent then A else Spec.ext K.table I (List.range K.nObjects)
    Concept.fromObjects (.idx A) K h isExtent false
      = .ok ⟨E, namesOf K.objNames E, I, namesOf K.attrNames I, some h, false⟩ := by
  intro I E
  have hI : K.intentionI A none = I := by
    rw [C01.intention_i_exact K hwf A none hA (by intro bs hb; cases hb)]; rfl
  have hIr : C01.InRange I K.nAttributes := Spec.intAll_lt K.table
  have hE : (if !isExtent then K.extensionI I none else A) = E := by
    cases isExtent
    · rw [C01.extension_i_exact K hwf I none hIr (by intro bs hb; cases hb)]; rfl
    · simp [E]
  have hEr : ∀ i ∈ E, i < K.objNames.length := by
    intro i hi
    rw [hobj]
    cases isExtent
    · exact Spec.extAll_lt K.table i hi
    · exact hA i hi
  rw [Concept.fromObjects_eq]
  simp only [objIdx, hI, hE, pickNames_ok K.attrNames I (by rw [hattr]; exact hIr), pickNames_ok K.objNames E hEr,
    Except.bind, namesOf]

/-- by name: each name is replaced by the index of its FIRST occurrence in `K.object_names`
    (a `ValueError` when one is unknown); then as with indexes.  An empty list is an empty index list. -/
theorem from_objects_by_name (K : Ctx) (xs : List String) (h : Int) (isExtent : Bool) :
    (xs = [] → Concept.fromObjects (.names xs) K h isExtent false
              = Concept.fromObjects (.idx []) K h isExtent false) ∧
    (∀ A, xs ≠ [] → namesIndex K.objNames xs = .ok A →
        (∀ i ∈ A, i < K.objNames.length) ∧ namesOf K.objNames A = xs ∧
        Concept.fromObjects (.names xs) K h isExtent false
          = Concept.fromObjects (.idx A) K h isExtent false) ∧
    (xs ≠ [] → (∃ x ∈ xs, x ∉ K.objNames) →
        Concept.fromObjects (.names xs) K h isExtent false = .error .ValueError) ∧
    ((∀ x ∈ xs, x ∈ K.objNames) → ∃ A, namesIndex K.objNames xs = .ok A) := by
  refine ⟨?_, ?_, ?_, namesIndex_isOk K.objNames xs⟩
  · rintro rfl; rfl
  · intro A _ hA
    obtain ⟨h2, h3⟩ := namesIndex_ok _ _ _ hA
    refine ⟨h2, h3, ?_⟩
    rw [Concept.fromObjects_eq, Concept.fromObjects_eq, objIdx, hA, objIdx]
  · intro _ hex
    obtain ⟨x, hx, hn⟩ := hex
    rw [Concept.fromObjects_eq, objIdx, namesIndex_eq, if_neg fun H => hn (H x hx)]
    rfl

/-- the pair built by `from_objects(A, K)` is a formal concept of `K`:
    its intent is the prime set of its extent and its extent the prime set of its intent;
    the extent is duplicate-free, sorted context order, and contains `A`. -/
theorem from_objects_is_concept (K : Ctx) (A : List Nat) (hA : C01.InRange A K.nObjects) :
    let I := Spec.int K.table A (List.range K.nAttributes)
    let E := Spec.ext K.table I (List.range K.nObjects)
    Spec.int K.table E (List.range K.nAttributes) = I ∧
    Spec.ext K.table I (List.range K.nObjects) = E ∧ E.Nodup ∧ A ⊆ E := by
  intro I E
  exact ⟨Spec.intAll_closure K.table hA, rfl, Spec.extAll_nodup K.table I, fun g hg => Spec.subset_closure K.table hA g hg⟩

/-- the way the object set is written down does not matter: two argument lists with the same members
    (repetitions, any order — nothing but in-range indexes is assumed of them) give the very same concept,
    whose extent is duplicate-free. -/
theorem from_objects_repetition_invariant (K : Ctx) (hwf : K.table.WF)
    (hobj : K.objNames.length = K.nObjects) (hattr : K.attrNames.length = K.nAttributes)
    (A A' : List Nat) (hA : C01.InRange A K.nObjects) (hA' : C01.InRange A' K.nObjects)
    (hsame : ∀ g, g ∈ A ↔ g ∈ A') (h : Int) :
    Concept.fromObjects (.idx A) K h false false = Concept.fromObjects (.idx A') K h false false ∧
    ∃ c, Concept.fromObjects (.idx A) K h false false = .ok c ∧ c.extentI.Nodup := by
  have hint : Spec.int K.table A (List.range K.nAttributes) = Spec.int K.table A' (List.range K.nAttributes) :=
    Spec.intAll_eq_of_mem_iff K.table fun a _ =>
      ⟨fun H g hg => H g ((hsame g).mpr hg), fun H g hg => H g ((hsame g).mp hg)⟩
  have h1 := from_objects_closure K hwf hobj hattr A hA h false
  have h2 := from_objects_closure K hwf hobj hattr A' hA' h false
  simp only [Bool.false_eq_true, ↓reduceIte] at h1 h2
  exact ⟨by rw [h1, h2, hint], _, h1, Spec.extAll_nodup K.table _⟩

/-- (history) `from_objects` stamps the hash the context has AT THE TIME OF THE CALL (`h` = `K.hash_fixed()`
    then): two concepts derived while the context had different hashes — e.g. before and after an in-place
    change of the context object — are refused by `==`, `<=`, `<`; two concepts derived (with
    `is_extent=False`) while it had the same hash are comparable and ordered by extent inclusion. -/
theorem from_objects_context_identity (K K' : Ctx) (h h' : Int) (objs objs' : ObjArg) (ie ie' : Bool)
    (c c' : Concept) (hc : Concept.fromObjects objs K h ie false = .ok c)
    (hc' : Concept.fromObjects objs' K' h' ie' false = .ok c') :
    (h ≠ h' → Concept.eq c c' = .error .UnmatchedContextError ∧ Concept.le c c' = .error .UnmatchedContextError ∧
               Concept.lt c c' = .error .UnmatchedContextError) ∧
    (h = h' → c.extentI.Nodup → c'.extentI.Nodup → Concept.le c c' = .ok (decide (c.extentI ⊆ c'.extentI))) := by
  obtain ⟨e1, m1⟩ := Concept.fromObjects_ok_fields hc
  obtain ⟨e2, m2⟩ := Concept.fromObjects_ok_fields hc'
  constructor
  · intro hne
    have := cross_context_refused c c' (by rw [e1, e2]; intro e; exact hne (Option.some.inj e))
    exact ⟨this.1, this.2.2.1, this.2.2.2.1⟩
  · intro heq nd nd'
    have := le_iff_extent_subset c c' ⟨by rw [e1, e2, heq], by rw [m1, m2], nd, nd'⟩
    rw [this]
    simp [ExtLe, m1]

/-- `is_monotone=True` is refused by `from_objects` -/
theorem from_objects_monotone_refused (objects : ObjArg) (K : Ctx) (h : Int) (isExtent : Bool) :
    Concept.fromObjects objects K h isExtent true = .error .AssertionError := by
  rfl

namespace Pattern
variable {D : Type}

/-- pattern concepts of one many-valued context with duplicate-free extents -/
structure Comparable (a b : PConcept D) : Prop where
  hash : a.contextHash = b.contextHash
  nda : a.extentI.Nodup
  ndb : b.extentI.Nodup

theorem le_iff_extent_subset (a b : PConcept D) (h : Comparable a b) :
    PConcept.le a b = .ok (decide (a.extentI ⊆ b.extentI)) := by
  rw [PConcept.le_eq, if_pos h.hash]
  exact ok_eq_ok_decide (leCore_iff_subset h.nda)

theorem eq_iff_extent_eq (a b : PConcept D) (h : Comparable a b) :
    PConcept.eq a b = .ok (decide (a.extentI ⊆ b.extentI ∧ b.extentI ⊆ a.extentI)) ∧
    (PConcept.eq a b = .ok true ↔ ∀ g, g ∈ a.extentI ↔ g ∈ b.extentI) := by
  have key : PConcept.eq a b = .ok (decide (a.extentI ⊆ b.extentI ∧ b.extentI ⊆ a.extentI)) := by
    rw [PConcept.eq_eq, if_pos h.hash]
    exact ok_eq_ok_decide (eqLen_and_leCore_iff h.nda h.ndb)
  refine ⟨key, ?_⟩
  rw [key, Except.ok.injEq, decide_eq_true_iff]
  exact subset_subset_iff

theorem lt_strict_part (a b : PConcept D) (h : Comparable a b) :
    PConcept.lt a b = .ok (decide (a.extentI ⊆ b.extentI ∧ ¬ b.extentI ⊆ a.extentI)) := by
  rw [PConcept.lt_eq, if_pos h.hash]
  exact ok_eq_ok_decide (neLen_and_leCore_iff h.nda h.ndb)

theorem eq_hashkey (a b : PConcept D) (h : Comparable a b) (heq : PConcept.eq a b = .ok true) :
    PConcept.hashKey a = PConcept.hashKey b := by
  have hp := (List.perm_ext_iff_of_nodup h.nda h.ndb).mpr ((eq_iff_extent_eq a b h).2.mp heq)
  unfold PConcept.hashKey
  rw [sortedNats_eq_iff_perm.mpr hp, h.hash]

theorem le_partial_order :
    (∀ a : PConcept D, PConcept.le a a = .ok true) ∧
    (∀ a b : PConcept D, PConcept.le a b = .ok true → PConcept.le b a = .ok true → PConcept.eq a b = .ok true) ∧
    (∀ a b c : PConcept D, PConcept.le a b = .ok true → PConcept.le b c = .ok true → PConcept.le a c = .ok true) := by
  refine ⟨fun a => ?_, fun a b hab hba => ?_, fun a b c hab hbc => ?_⟩
  · exact PConcept.le_ok_true_iff.mpr ⟨rfl, leCore_refl _⟩
  · obtain ⟨hh, hab⟩ := PConcept.le_ok_true_iff.mp hab
    obtain ⟨_, hba⟩ := PConcept.le_ok_true_iff.mp hba
    rw [PConcept.eq_eq, if_pos hh, (leCore_antisymm hab hba).2]
  · obtain ⟨hh, hab⟩ := PConcept.le_ok_true_iff.mp hab
    obtain ⟨hh', hbc⟩ := PConcept.le_ok_true_iff.mp hbc
    exact PConcept.le_ok_true_iff.mpr ⟨hh.trans hh', leCore_trans hab hbc⟩

/-- pattern concepts of different contexts: `==`, `!=`, `<=`, `<` raise `NotImplementedError` -/
theorem cross_context_refused (a b : PConcept D) (h : a.contextHash ≠ b.contextHash) :
    PConcept.eq a b = .error .NotImplementedError ∧ PConcept.ne a b = .error .NotImplementedError ∧
    PConcept.le a b = .error .NotImplementedError ∧ PConcept.lt a b = .error .NotImplementedError := by
  have heq : PConcept.eq a b = .error .NotImplementedError := by rw [PConcept.eq_eq, if_neg h]
  exact ⟨heq, PConcept.ne_of_eq_error heq, by rw [PConcept.le_eq, if_neg h], by rw [PConcept.lt_eq, if_neg h]⟩

/-- the public field names of a `PatternConcept` are read-only properties (`AttributeError`);
    any other name (`measures`, …) is assignable -/
theorem frozen_fields :
    (∀ key ∈ PConcept.propertyNames, PConcept.setattr key = .error .AttributeError) ∧
    (∀ key ∈ PConcept.propertyNames, ∀ present, PConcept.delattr present key = .error .AttributeError) ∧
    (∀ key, key ∉ PConcept.propertyNames → PConcept.setattr key = .ok ()) := by
  refine ⟨?_, ?_, ?_⟩
  · intro key hk
    simp [PConcept.setattr, hk]
  · intro key hk present
    simp [PConcept.delattr, hk]
  · intro key hk
    simp [PConcept.setattr, hk]

/-- `PatternConcept.from_objects(A, K)` is `(K.extension_i(K.intention_i(A)), K.intention_i(A))`
    (the closure of `A` under the context's own derivation pair — that this pair is a Galois
    connection for every pattern structure is property C13), or `(A, K.intention_i(A))` with
    `is_extent=True`; context hash attached. -/
theorem from_objects_closure (intentionI : List Nat → D) (extensionI : D → List Nat)
    (objNames : List String) (A : List Nat) (h : Int) (isExtent : Bool)
    (hA : ∀ g ∈ A, g < objNames.length) (hext : ∀ d, ∀ g ∈ extensionI d, g < objNames.length) :
    let I := intentionI A
    let E := if isExtent then A else extensionI I
    ∃ c, PConcept.fromObjects intentionI extensionI objNames (.idx A) h isExtent false = .ok c ∧
      c.extentI = E ∧ c.extent = namesOf objNames E ∧ c.intentI = I ∧ c.contextHash = some h := by
  intro I E
  have hE : (if !isExtent then extensionI (intentionI A) else A) = E := by cases isExtent <;> simp [E, I]
  have hEr : ∀ i ∈ E, i < objNames.length := by
    intro i hi
    cases isExtent
    · exact hext I i hi
    · exact hA i hi
  refine ⟨⟨E, namesOf objNames E, I, some h⟩, ?_, rfl, rfl, rfl, rfl⟩
  rw [PConcept.fromObjects_eq]
  simp only [objIdx, hE, pickNames_ok objNames E hEr, Except.bind, namesOf, I]

/-- on a many-valued context whose columns are all `IntervalPS` (integer ends):
    `from_objects(A, K)` has, per column, the description `intention_i(A)` — for non-empty `A` the least
    interval containing the interval of every object of `A`, for empty `A` `None` — and as extent exactly the
    objects (context order) whose intervals fall into all these descriptions, which include `A` itself. -/
theorem interval_from_objects_closure (cols : List Interval.Col) (objNames : List String)
    (A : List Nat) (hA : ∀ g ∈ A, g < objNames.length) (h : Int) :
    let I := cols.map fun col => Interval.intentionI col A
    let E := (List.range objNames.length).filter fun g => cols.all fun col => Interval.inside col (Interval.intentionI col A) g
    (∃ c, PConcept.fromObjects (Interval.mvIntentionI cols) (Interval.mvExtensionI objNames.length cols) objNames
        (.idx A) h false false = .ok c ∧ c.extentI = E ∧ c.extent = namesOf objNames E ∧ c.intentI = I ∧
        c.contextHash = some h) ∧
    (A ≠ [] → A ⊆ E) ∧
    (∀ col ∈ cols, A ≠ [] → ∃ mn mx, Interval.intentionI col A = some (mn, mx) ∧
        (∀ g ∈ A, mn ≤ (col.getD g (0, 0)).1 ∧ (col.getD g (0, 0)).2 ≤ mx) ∧
        (∃ g ∈ A, mn = (col.getD g (0, 0)).1) ∧ (∃ g ∈ A, mx = (col.getD g (0, 0)).2)) ∧
    (A = [] → I = cols.map (fun _ => none) ∧ (cols ≠ [] → E = [])) := by
  intro I E
  have hE : Interval.mvExtensionI objNames.length cols (Interval.mvIntentionI cols A) = E := by
    rw [Interval.mvExtensionI_eq]
    apply List.filter_congr
    intro g _
    exact all_zip_map cols (Interval.intentionI · A) fun col d => Interval.inside col d g
  refine ⟨?_, ?_, ?_, ?_⟩
  · obtain ⟨c, hc, h1, h2, h3, h4⟩ := from_objects_closure (Interval.mvIntentionI cols)
      (Interval.mvExtensionI objNames.length cols) objNames A h false hA (by
        intro d g hg
        rw [Interval.mvExtensionI_eq] at hg
        exact List.mem_range.mp (List.mem_filter.mp hg).1)
    rw [hE] at h1 h2
    exact ⟨c, hc, h1, h2, h3, h4⟩
  · intro hne g hg
    refine List.mem_filter.mpr ⟨List.mem_range.mpr (hA g hg), ?_⟩
    rw [List.all_eq_true]
    intro col _
    obtain ⟨mn, mx, hI, hall, _, _⟩ := Interval.intentionI_hull col A hne
    rw [hI]
    simp only [Interval.inside, Bool.and_eq_true, decide_eq_true_eq]
    exact hall g hg
  · intro col _ hne
    exact Interval.intentionI_hull col A hne
  · rintro rfl
    refine ⟨rfl, ?_⟩
    intro hc
    apply List.filter_eq_nil_iff.mpr
    intro g _
    cases cols with
    | nil => exact absurd rfl hc
    | cons c cs => simp [Interval.intentionI, Interval.inside]

/-- the listing order of an extent never matters for pattern concepts either (any size): `<=`, `<`, `==`, `!=` and the
    hash key are invariant under any permutation of either extent listing -/
theorem listing_invariant (a a' b b' : PConcept D)
    (pa : a.extentI.Perm a'.extentI) (ha : a.contextHash = a'.contextHash)
    (pb : b.extentI.Perm b'.extentI) (hb : b.contextHash = b'.contextHash) :
    PConcept.le a b = PConcept.le a' b' ∧ PConcept.lt a b = PConcept.lt a' b' ∧
    PConcept.eq a b = PConcept.eq a' b' ∧ PConcept.ne a b = PConcept.ne a' b' ∧
    PConcept.hashKey a = PConcept.hashKey a' := by
  have heq : PConcept.eq a b = PConcept.eq a' b' := by
    rw [PConcept.eq_eq, PConcept.eq_eq, ← ha, ← hb, pa.length_eq, pb.length_eq, leCore_perm pa pb]
  refine ⟨?_, ?_, heq, ?_, ?_⟩
  · rw [PConcept.le_eq, PConcept.le_eq, ← ha, ← hb, leCore_perm pa pb]
  · rw [PConcept.lt_eq, PConcept.lt_eq, ← ha, ← hb, pa.length_eq, pb.length_eq, leCore_perm pa pb]
  · unfold PConcept.ne
    rw [heq]
  · unfold PConcept.hashKey
    rw [sortedNats_eq_iff_perm.mpr pa, ha]

/-- (history) `PatternConcept.from_objects` stamps the hash the many-valued context has AT THE TIME OF THE CALL
    (`h` = `K.hash_fixed()` then, whatever route changed the content in between — a setter of the context, the `data`
    setter of a contained pattern structure, an edit of a list a getter handed out): concepts derived under
    different hashes refuse `==`, `<=`, `<`; concepts derived under the same hash are ordered by extent inclusion. -/
theorem from_objects_context_identity (int int' : List Nat → D) (ext ext' : D → List Nat)
    (names names' : List String) (h h' : Int) (objs objs' : ObjArg) (ie ie' : Bool) (c c' : PConcept D)
    (hc : PConcept.fromObjects int ext names objs h ie false = .ok c)
    (hc' : PConcept.fromObjects int' ext' names' objs' h' ie' false = .ok c') :
    (h ≠ h' → PConcept.eq c c' = .error .NotImplementedError ∧ PConcept.le c c' = .error .NotImplementedError ∧
               PConcept.lt c c' = .error .NotImplementedError) ∧
    (h = h' → c.extentI.Nodup → c'.extentI.Nodup →
      PConcept.le c c' = .ok (decide (c.extentI ⊆ c'.extentI))) := by
  have e1 := PConcept.fromObjects_ok_hash hc
  have e2 := PConcept.fromObjects_ok_hash hc'
  constructor
  · intro hne
    have := cross_context_refused c c' (by rw [e1, e2]; intro e; exact hne (Option.some.inj e))
    exact ⟨this.1, this.2.2.1, this.2.2.2⟩
  · intro heq nd nd'
    exact le_iff_extent_subset c c' ⟨by rw [e1, e2, heq], nd, nd'⟩

end Pattern

/-! ## non-vacuity: the hypotheses are met by concrete, non-trivial inputs -/

private instance {ε α : Type} [DecidableEq ε] [DecidableEq α] : DecidableEq (Except ε α)
  | .ok a, .ok b => if h : a = b then isTrue (by rw [h]) else isFalse (by intro e; cases e; exact h rfl)
  | .error a, .error b => if h : a = b then isTrue (by rw [h]) else isFalse (by intro e; cases e; exact h rfl)
  | .ok _, .error _ => isFalse (by intro e; cases e)
  | .error _, .ok _ => isFalse (by intro e; cases e)

private def exK : Ctx :=
  { backend := .numpy, table := ⟨[[true, false, true], [true, true, false], [false, true, true]], 3⟩,
    objNames := ["g0", "g1", "g2"], attrNames := ["a", "b", "c"] }

/-- two concepts of one context, the first with its extent listed out of order (as
    `close_by_one_objectwise` does), the second `from_objects([1], K)` -/
private def exA : Concept := ⟨[1, 0], ["g1", "g0"], [0], ["a"], some 7, false⟩
private def exB : Concept := ⟨[1], ["g1"], [0, 1], ["a", "b"], some 7, false⟩

example : Comparable exB exA ∧ Concept.le exB exA = .ok true ∧ Concept.lt exB exA = .ok true ∧
    Concept.le exA exB = .ok false ∧ Concept.eq exA ⟨[0, 1], ["g0", "g1"], [0], ["a"], some 7, false⟩ = .ok true := by
  refine ⟨⟨rfl, rfl, by decide, by decide⟩, by decide +kernel⟩

example : exK.table.WF ∧ exK.objNames.length = exK.nObjects ∧ exK.attrNames.length = exK.nAttributes ∧
    C01.InRange [1] exK.nObjects ∧
    Concept.fromObjects (.idx [1]) exK 7 false false = .ok exB ∧
    Concept.fromObjects (.names ["g1", "g0"]) exK 7 true false = .ok exA := by
  unfold C01.InRange
  decide +kernel

example : exA.contextHash ≠ ({ exA with contextHash := some 8 } : Concept).contextHash ∧
    exA.isMonotone ≠ ({ exA with isMonotone := true } : Concept).isMonotone := by decide

example : (∀ g ∈ [1, 0], g < ["x", "y", "z"].length) ∧
    (PConcept.fromObjects (Interval.mvIntentionI [[(1, 1), (2, 3), (0, 5)], [(0, 0), (1, 1), (0, 0)]])
      (Interval.mvExtensionI 3 [[(1, 1), (2, 3), (0, 5)], [(0, 0), (1, 1), (0, 0)]]) ["x", "y", "z"]
      (.idx [1, 0]) 9 false false).toOption.map (fun c => (c.extentI, c.intentI))
      = some ([0, 1], [some (1, 3), some (0, 1)]) := by
  decide +kernel

example : Pattern.Comparable (⟨[2, 0], ["g2", "g0"], (), some 3⟩ : PConcept Unit) ⟨[0, 1, 2], ["g0", "g1", "g2"], (), some 3⟩
    ∧ PConcept.lt (⟨[2, 0], ["g2", "g0"], (), some 3⟩ : PConcept Unit) ⟨[0, 1, 2], ["g0", "g1", "g2"], (), some 3⟩ = .ok true := by
  refine ⟨⟨rfl, by decide, by decide⟩, by decide +kernel⟩

/-- a 65-object extent listed descending / rotated against the ascending listing, and a one-object concept below it:
    the hypotheses of `listing_invariant` are met well beyond any small scope, and the answers are the non-trivial ones -/
private def exBig : Concept := ⟨List.range 65, [], [], [], some 7, false⟩
private def exBigDesc : Concept := ⟨(List.range 65).reverse, [], [], [], some 7, false⟩
private def exBigRot : Concept := ⟨(List.range 65).rotateLeft 17, [], [], [], some 7, false⟩
private def exOne : Concept := ⟨[40], [], [], [], some 7, false⟩

example : Relisted exBig exBigDesc ∧ Relisted exBig exBigRot ∧ Relisted exOne exOne ∧
    Concept.le exOne exBigDesc = .ok true ∧ Concept.lt exOne exBigRot = .ok true ∧
    Concept.le exBigRot exOne = .ok false ∧ Concept.eq exBigDesc exBigRot = .ok true ∧
    Concept.hashKey exBigDesc = Concept.hashKey exBigRot := by
  -- `dsimp` first: matching the lemmas against the folded concepts makes the unifier evaluate the 65-element lists
  have hd : Relisted exBig exBigDesc := by
    refine ⟨?_, rfl, rfl⟩
    dsimp only [exBig, exBigDesc]
    exact (List.reverse_perm _).symm
  have hr : Relisted exBig exBigRot := by
    refine ⟨?_, rfl, rfl⟩
    dsimp only [exBig, exBigRot]
    exact rotateLeft_perm _ 17
  have heq := relisted_equal exBigDesc exBigRot ⟨hd.perm.symm.trans hr.perm, rfl, rfl⟩
  refine ⟨hd, hr, ⟨List.Perm.refl _, rfl, rfl⟩, ?_, ?_, ?_, heq.1, heq.2.2.2.2⟩ <;> decide +kernel

example : (⟨[2, 0, 1], [], (), some 3⟩ : PConcept Unit).extentI.Perm [0, 1, 2] ∧
    PConcept.eq (⟨[2, 0, 1], [], (), some 3⟩ : PConcept Unit) ⟨[0, 1, 2], [], (), some 3⟩ = .ok true := by
  refine ⟨by decide, by decide +kernel⟩

end Fca.C08
