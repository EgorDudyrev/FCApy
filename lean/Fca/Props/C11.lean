/-
  Props/C11 — semilattices and lattices keep a unique top/bottom; incremental equals batch.

  Model: `Fca.Model.SemiLattice` (state machine mirroring `fcapy/poset/lattice.py` on top of the `POSet` model;
  `ConceptLattice.add/remove` is the same machine with class tag `.lattice`).  Specification:
  `Fca.Spec.SemiLattice` (brute-force greatest / least element, the refusal table, the next element list).

  Environment of every theorem: `leq` is a partial order (`PO`) on the universe `U` of all elements ever present,
  the current elements are duplicate free and lie in `U`; `ord` (the order in which Python iterates a set inside
  `POSet`) is arbitrary.  `InvTop` (spelled out in `Lemmas/SemiLatticeStep`) is the invariant of the property: on
  every side the class guards there is a greatest / least element among the current elements and, on a caching
  instance, `_cache_top` / `_cache_bottom` is its index.  It does not mention the five `POSet` caches: the guard
  logic and the index bookkeeping are proved without assuming anything about them.
-/
import Fca.Lemmas.SemiLatticeFull
import Fca.Props.C09
namespace Fca.C11
open Fca.Poset Fca.Poset.Fresh Fca.SemiLattice Fca.SemiLattice.Spec

section
variable {α : Type} [DecidableEq α] {leq : α → α → Bool} {ord : List Nat → List Nat} {U : α → Prop}

/-- FULL.  The constructor of `UpperSemiLattice` / `LowerSemiLattice` / `Lattice` accepts a (duplicate-free)
    element list iff it is non-empty and has a greatest (resp. least, resp. both) element - equivalently: exactly
    one maximal (minimal) element, which is what the code counts (`len(top_elements) != 1` raises); a greatest
    element is unique.
    When it accepts, the elements are kept as given and the invariant `InvTop` holds (and the poset caches
    filled by the check are sound); otherwise it raises `ValueError`. -/
theorem ctor_iff_unique_extreme (hpoU : PO leq U) (cls : Cls) (E : List α) (c : Bool) (hnd : E.Nodup)
    (hU : ∀ a ∈ E, U a) :
    ((E ≠ [] ∧ HasExtremes leq cls E) ↔ ∃ s, ctor leq cls E c = .ok s) ∧
    (∀ s, ctor leq cls E c = .ok s →
      s.cls = cls ∧ s.p.elems = E ∧ s.p.useCache = c ∧ InvTop leq s ∧ C09.Inv leq s.p) ∧
    (¬ (E ≠ [] ∧ HasExtremes leq cls E) → ctor leq cls E c = .error .ValueError) ∧
    (HasExtremes leq cls E ↔ ∀ d, cls.has d = true → (extremes leq d E).length = 1) ∧
    (∀ d t t', isExt leq d E t = true → isExt leq d E t' = true → t = t') := by
  obtain ⟨hyes, hno⟩ := ctor_run (leq := leq) hpoU cls E c hnd hU
  have hpo : IdxPO leq E := idxPO_of hpoU hnd hU
  refine ⟨⟨fun h => ?_, fun ⟨s, hs⟩ => (ctor_ok hpoU cls E c hnd hU hs).1⟩, fun s hs => ?_, hno, ?_,
    fun d t t' h h' => isExt_unique hpo h h'⟩
  · obtain ⟨s, hs, _⟩ := hyes h
    exact ⟨s, hs⟩
  · obtain ⟨-, h1, h2, h3, hA⟩ := ctor_ok hpoU cls E c hnd hU hs
    exact ⟨h1, h2, h3, hA.top, hA.nd, hA.inv⟩
  · exact ⟨fun h d hd => (extremes_length_one_iff hpo).mpr (h d hd),
      fun h d hd => (extremes_length_one_iff hpo).mp (h d hd)⟩

/-- FULL.  Soundness of the executable check `Spec.invTopCheck` the driver runs on the model state after every step. -/
theorem invTop_of_check (hpoU : PO leq U) (s : SL α) (hnd : s.p.elems.Nodup) (hU : ∀ a ∈ s.p.elems, U a)
    (h : invTopCheck leq s = true) : InvTop leq s := by
  have hpo : IdxPO leq s.p.elems := idxPO_of hpoU hnd hU
  refine ⟨fun d hd => ?_⟩
  unfold invTopCheck at h
  rw [List.all_eq_true] at h
  have := h d (mem_dirsOf.mpr hd)
  split at this
  · cases this
  · rename_i t hg
    refine ⟨t, (greatest_eq_some_iff hpo).mp hg, fun hu => ?_⟩
    simpa [hu] using this

/-- FULL.  `Spec.refusal` lists exactly which `add` / `del` / `remove` a semilattice refuses and with which
    exception (`add` of an element incomparable with the top (bottom) element: `ValueError`; `del` of the top
    (bottom) index: `KeyError`, out of range: `IndexError`; `remove` of the top (bottom) element: `ValueError`, of an
    absent element: `KeyError`).  Every refused operation raises exactly that exception and returns the state
    UNCHANGED - the whole state: elements, cached indexes and all poset caches. -/
theorem rejected_ops_noop (hpoU : PO leq U) (s : SL α) (hI : InvTop leq s) (hnd : s.p.elems.Nodup)
    (hU : ∀ a ∈ s.p.elems, U a) (o : Op α) (hin : OpIn U o) (e : PyErr)
    (h : refusal leq s.cls s.p.elems o = some e) :
    stepSL leq ord s (.op o) = (s, .err e) :=
  (stepSL_rel hpoU hI hnd hU (.op o) hin).eq_of_refused h

/-- FULL.  (1) Under the invariant the properties `top` / `bottom` (and `tops` / `bottoms`) report the index of the
    actual greatest / least element of the current elements and change nothing.
    (2) Every step preserves the invariant: a query always; a mutation whenever it returns normally (an accepted
    step) - then the element list is the specified one (`add`: appended unless present; `del`/`remove`: that
    position erased) and the cached indexes have been moved accordingly; a refused mutation leaves the state
    equal (`rejected_ops_noop`).  No assumption on the `POSet` caches is needed. -/
theorem extreme_index_correct (hpoU : PO leq U) (s : SL α) (hI : InvTop leq s) (hnd : s.p.elems.Nodup)
    (hU : ∀ a ∈ s.p.elems, U a) :
    (∀ d, s.cls.has d = true → ∃ t, stepSL leq ord s (.extreme d) = (s, .nat t) ∧
      stepSL leq ord s (.op (.extremes d)) = (s, .list [t]) ∧ isExt leq d s.p.elems t = true ∧
      greatest leq d s.p.elems = some t) ∧
    (∀ op : OpSL α, OpInSL U op →
      (isMutationSL op = false ∨ ∀ e, (stepSL leq ord s op).2 ≠ .err e) →
      InvTop leq (stepSL leq ord s op).1 ∧ (stepSL leq ord s op).1.p.elems = nextSL leq s.cls s.p.elems op ∧
      (stepSL leq ord s op).1.cls = s.cls ∧ (stepSL leq ord s op).1.p.useCache = s.p.useCache) := by
  have hpo : IdxPO leq s.p.elems := idxPO_of hpoU hnd hU
  refine ⟨fun d hd => ?_, fun op hin hacc => (stepSL_rel hpoU hI hnd hU op hin).spec hI fun hm e he =>
    hacc.elim (fun h => by rw [hm] at h; cases h) fun h => absurd he (h e)⟩
  obtain ⟨t, ht, hc⟩ := hI.ext d hd
  refine ⟨t, ?_, ?_, ht, (greatest_eq_some_iff hpo).mpr ht⟩
  · simp only [stepSL, hd, ↓reduceIte, extremeE_run hpo ht hc, outOf]
  · simp only [stepSL, extremesSL_run hpo hd ht hc, outOf]

/-- FULL (for the histories it speaks about).  After EVERY history in which no mutation dies of an exception other
    than the specified refusal (`NoInternalError`; queries may raise what they like), the invariant holds, the
    element list is the specified one, and therefore `top` / `bottom` report the actual greatest / least
    element.  (`all_histories` discharges `NoInternalError` for every history from a constructed semilattice.) -/
theorem extreme_index_correct_history (hpoU : PO leq U) (ops : List (OpSL α)) (s : SL α) (hI : InvTop leq s)
    (hnd : s.p.elems.Nodup) (hU : ∀ a ∈ s.p.elems, U a) (hin : ∀ op ∈ ops, OpInSL U op)
    (hclean : NoInternalError leq ord s ops) :
    InvTop leq (runSL leq ord s ops).1 ∧ (runSL leq ord s ops).1.p.elems = nextsSL leq s.cls s.p.elems ops ∧
      (runSL leq ord s ops).1.cls = s.cls ∧ (runSL leq ord s ops).1.p.useCache = s.p.useCache := by
  induction ops generalizing s with
  | nil => exact ⟨hI, rfl, rfl, rfl⟩
  | cons op ops ih =>
    obtain ⟨g1, g2, g3, g4⟩ := (stepSL_rel hpoU hI hnd hU op (hin op List.mem_cons_self)).spec hI hclean.1
    have := ih (s := (stepSL leq ord s op).1) g1 (by rw [g2]; exact nextSL_nodup hnd op)
      (by rw [g2]; exact nextSL_U hU op (hin op List.mem_cons_self))
      (fun o ho => hin o (List.mem_cons_of_mem _ ho)) hclean.2
    rw [g2, g3] at this
    exact ⟨this.1, this.2.1, this.2.2.1, this.2.2.2.trans g4⟩

/-- FULL (element set, extreme elements, batch constructor).  Take any two structures of the same class that
    satisfy the invariant and list the same element SET (in any two orders) - e.g. the results of adding, or of
    removing, the same elements one at a time in two different orders (`incremental_sets` below) - and any
    duplicate-free batch listing `Eb` of that set.  Then the batch constructor accepts `Eb`, the batch structure
    satisfies the complete invariant `InvAll` (so `incremental_eq_batch_order` applies to it), and the top /
    bottom of all three structures denote the same element. -/
theorem incremental_eq_batch (hpoU : PO leq U) (s1 s2 : SL α) (hI1 : InvTop leq s1) (_hI2 : InvTop leq s2)
    (_hc : s1.cls = s2.cls) (hnd1 : s1.p.elems.Nodup) (hnd2 : s2.p.elems.Nodup) (hU1 : ∀ a ∈ s1.p.elems, U a)
    (hsame : ∀ x, x ∈ s1.p.elems ↔ x ∈ s2.p.elems)
    (Eb : List α) (c : Bool) (hndb : Eb.Nodup) (hb : ∀ x, x ∈ s1.p.elems ↔ x ∈ Eb) :
    ∃ b, ctor leq s1.cls Eb c = .ok b ∧ InvAll leq b ∧ C09.Inv leq b.p ∧ b.p.elems = Eb ∧
      ∀ d, s1.cls.has d = true → ∃ x, greatestElem leq d s1.p.elems = some x ∧
        greatestElem leq d s2.p.elems = some x ∧ greatestElem leq d b.p.elems = some x := by
  obtain ⟨b, hbok, hbe, hA⟩ := ctor_of_same_set hpoU hI1 hU1 c hndb hb
  refine ⟨b, hbok, hA, ⟨hA.nd, hA.inv⟩, hbe, fun d hd => ?_⟩
  obtain ⟨t, x, -, -, -, -, hx⟩ := hI1.side (idxPO_of hpoU hnd1 hU1) hd
  exact ⟨x, hx, greatestElem_congr hpoU hnd1 hnd2 hU1 hsame d ▸ hx,
    hbe ▸ greatestElem_congr hpoU hnd1 hndb hU1 hb d ▸ hx⟩

/-- FULL.  The element sets of incremental construction: adding the elements of `l` one at a time (each step
    accepted) yields exactly `E ∪ l`, removing them yields exactly `E \ l` - whatever the order; so two orders (any
    two permutations) give the same set, which is the hypothesis `hsame` of `incremental_eq_batch`.  (By
    `extreme_index_correct_history` the model's element list after such a history is this specified list.) -/
theorem incremental_sets (E : List α) (hnd : E.Nodup) (l1 l2 : List α) (hperm : l1.Perm l2) (f : Bool) (x : α) :
    (x ∈ (l1.map fun e => Op.add e f).foldl next E ↔ x ∈ (l2.map fun e => Op.add e f).foldl next E) ∧
    (x ∈ (l1.map Op.remove).foldl next E ↔ x ∈ (l2.map Op.remove).foldl next E) ∧
    (x ∈ (l1.map fun e => Op.add e f).foldl next E ↔ x ∈ E ∨ x ∈ l1) ∧
    (x ∈ (l1.map Op.remove).foldl next E ↔ x ∈ E ∧ x ∉ l1) := by
  refine ⟨?_, ?_, mem_foldl_add l1 f E x, mem_foldl_remove l1 hnd x⟩
  · rw [mem_foldl_add, mem_foldl_add, hperm.mem_iff]
  · rw [mem_foldl_remove l1 hnd, mem_foldl_remove l2 hnd, hperm.mem_iff]

/-- FULL.  The constructors establish the complete invariant `InvAll` = `InvTop` + duplicate-free elements + C09's
    cache invariant + `DIC` (on a caching instance: wherever the direct relation of an element is cached -
    `_cache_children[k]` / `_cache_parents[k]` - its closed relation `_cache_descendants[k]` / `_cache_ancestors[k]`
    is cached too; `POSet.add`'s neighbour patching reads those entries, and on a semilattice `trace_element` does not
    scan because `self.tops` is `[self.top]`, so the entries must come from the trace itself). -/
theorem ctor_establishes_invariant (hpoU : PO leq U) (cls : Cls) (E : List α) (c : Bool) (hnd : E.Nodup)
    (hU : ∀ a ∈ E, U a) (s : SL α) (hs : ctor leq cls E c = .ok s) : InvAll leq s :=
  (ctor_ok hpoU cls E c hnd hU hs).2.2.2.2

/-- FULL.  ONE STEP under `InvAll`, any operation of the documented range (`opOkSL`: index arguments of queries in
    range, `fill_up_*` only on a caching instance, `top`/`bottom` only where the class has it) - every `add` (new or
    present element, `fill_up_cache` on or off, cached or not), `del`, `remove`, refused or not, every query: the
    step re-establishes `InvAll`; its output is the specified answer `Spec.answerSL` - the refusal's exception and
    nothing else for a refused mutation, `None` for an accepted one (a non-refused mutation NEVER raises), the `Fresh`
    answer for a query, the index of the actual greatest / least element for `top` / `bottom`; the element list is
    the specified one.  Uses C09's complete step theorems for everything but the cached `add(·, fill_up_cache=True)`,
    which is re-proved for the semilattice (`Lemmas/SemiLatticeAdd`, `SemiLatticeDic`, over the patching loop under
    `Poset.Weak.PatchInv`) because there `trace_element` starts from the cached extreme index instead of scanning. -/
theorem step_full (henv : C09.Env leq ord U) (s : SL α) (hA : InvAll leq s) (hU : ∀ a ∈ s.p.elems, U a)
    (op : OpSL α) (hok : opOkSL s.cls s.p.elems s.p.useCache op = true) (hin : OpInSL U op) :
    InvAll leq (stepSL leq ord s op).1 ∧ (stepSL leq ord s op).2 = answerSL leq s.cls s.p.elems op ∧
      (stepSL leq ord s op).1.p.elems = nextSL leq s.cls s.p.elems op ∧
      (stepSL leq ord s op).1.cls = s.cls ∧ (stepSL leq ord s op).1.p.useCache = s.p.useCache :=
  (stepSL_rel henv.po hA.top hA.nd hU op hin).full henv hA hU hok hin

/-- FULL.  For EVERY history in the documented range (`histOk`: each operation `opOkSL` when it is executed) from a
    state satisfying `InvAll` (every constructed semilattice, `ctor_establishes_invariant`): no mutation raises anything
    but its specified refusal (this discharges the hypothesis `NoInternalError` of `extreme_index_correct_history`),
    every output is the specified one (`runFreshSL`: in particular `top`/`bottom` always report the actual
    greatest/least element and refused operations raise exactly the listed exception), the element list is the
    specified one, and `InvAll` holds at the end. -/
theorem all_histories (henv : C09.Env leq ord U) (ops : List (OpSL α)) (s : SL α) (hA : InvAll leq s)
    (hU : ∀ a ∈ s.p.elems, U a) (hin : ∀ op ∈ ops, OpInSL U op)
    (hok : histOk leq s.cls s.p.useCache s.p.elems ops = true) :
    NoInternalError leq ord s ops ∧
    InvAll leq (runSL leq ord s ops).1 ∧ (runSL leq ord s ops).2 = runFreshSL leq s.cls s.p.elems ops ∧
      (runSL leq ord s ops).1.p.elems = nextsSL leq s.cls s.p.elems ops ∧
      (runSL leq ord s ops).1.cls = s.cls ∧ (runSL leq ord s ops).1.p.useCache = s.p.useCache := by
  induction ops generalizing s with
  | nil => exact ⟨trivial, hA, rfl, rfl, rfl, rfl⟩
  | cons op ops ih =>
    simp only [histOk, Bool.and_eq_true] at hok
    obtain ⟨hok1, hok2⟩ := hok
    obtain ⟨g1, g2, g3, g4, g5⟩ := step_full henv s hA hU op hok1 (hin op List.mem_cons_self)
    have := ih (s := (stepSL leq ord s op).1) g1
      (by rw [g3]; exact nextSL_U hU op (hin op List.mem_cons_self))
      (fun o ho => hin o (List.mem_cons_of_mem _ ho)) (by rw [g3, g4, g5]; exact hok2)
    simp only [runSL, runFreshSL, nextsSL]
    rw [g3, g4, g5] at this
    exact ⟨⟨fun hm e he => refusalSL_of_answer_err hm (g2 ▸ he), this.1⟩, this.2.1, by rw [g2, this.2.2.1],
      this.2.2.2.1, this.2.2.2.2.1, this.2.2.2.2.2⟩

/-- FULL (`InvAll` holds after every history from a constructed semilattice: `all_histories`).  Order queries of
    incremental = batch, read through ELEMENTS: take two semilattice structures satisfying the invariant that list
    the same element SET in any two orders (e.g. two insertion / removal orders, or an incremental and a batch
    construction).  Then
    (1) comparing two elements through their indexes answers `leq x y` in both;
    (2) the descendants / ancestors (`closed`) and the children / parents (`direct`: the cover relation) of an
        element denote the same element sets in both - namely the elements strictly on that side of `x`, resp. the
        covers, which depend on the set only;
    (3) `POSet.__eq__` of the first with the second listing answers `True`.
    (Top / bottom denote the same elements: `incremental_eq_batch`.) -/
theorem incremental_eq_batch_order (henv : C09.Env leq ord U) (s1 s2 : SL α) (hA1 : InvAll leq s1)
    (hA2 : InvAll leq s2) (hU1 : ∀ a ∈ s1.p.elems, U a)
    (hsame : ∀ x, x ∈ s1.p.elems ↔ x ∈ s2.p.elems) :
    (∀ x y i1 j1 i2 j2, s1.p.elems[i1]? = some x → s1.p.elems[j1]? = some y →
        s2.p.elems[i2]? = some x → s2.p.elems[j2]? = some y →
        (stepSL leq ord s1 (.op (.leq i1 j1))).2 = .bool (leq x y) ∧
        (stepSL leq ord s2 (.op (.leq i2 j2))).2 = .bool (leq x y)) ∧
    (∀ d x i1 i2, s1.p.elems[i1]? = some x → s2.p.elems[i2]? = some x →
        ∃ l1 l2, (stepSL leq ord s1 (.op (.closed d i1))).2 = .set l1 ∧
          (stepSL leq ord s2 (.op (.closed d i2))).2 = .set l2 ∧
          ∀ y, (Denotes s1.p.elems l1 y ↔ Denotes s2.p.elems l2 y) ∧
            (Denotes s1.p.elems l1 y ↔ y ∈ s1.p.elems ∧ strictD leq d y x)) ∧
    (∀ d x i1 i2, s1.p.elems[i1]? = some x → s2.p.elems[i2]? = some x →
        ∃ l1 l2, (stepSL leq ord s1 (.op (.direct d i1))).2 = .set l1 ∧
          (stepSL leq ord s2 (.op (.direct d i2))).2 = .set l2 ∧
          ∀ y, Denotes s1.p.elems l1 y ↔ Denotes s2.p.elems l2 y) ∧
    (stepSL leq ord s1 (.op (.eqOther s2.p.elems))).2 = .bool true := by
  have hU2 : ∀ a ∈ s2.p.elems, U a := fun a ha => hU1 a ((hsame a).mpr ha)
  have lt : ∀ {E : List α} {i : Nat} {x : α}, E[i]? = some x → i < E.length :=
    fun h => (List.getElem?_eq_some_iff.mp h).1
  refine ⟨fun x y i1 j1 i2 j2 h1 h2 h3 h4 =>
      ⟨stepSL_leq_out henv hA1 hU1 h1 h2, stepSL_leq_out henv hA2 hU2 h3 h4⟩,
    fun d x i1 i2 h1 h2 =>
      ⟨_, _, stepSL_closed_out henv hA1 hU1 d (lt h1), stepSL_closed_out henv hA2 hU2 d (lt h2), fun y => ?_⟩,
    fun d x i1 i2 h1 h2 =>
      ⟨_, _, stepSL_direct_out henv hA1 hU1 d (lt h1), stepSL_direct_out henv hA2 hU2 d (lt h2), fun y => ?_⟩,
    ?_⟩
  · have c1 := closed_denotes (leq := leq) hA1.nd (d := d) h1 y
    have c2 := closed_denotes (leq := leq) hA2.nd (d := d) h2 y
    exact ⟨by rw [c1, c2, hsame y], c1⟩
  · simp only [direct_denotes (leq := leq) hA1.nd h1 y, direct_denotes (leq := leq) hA2.nd h2 y, hsame]
  · rw [stepSL_query_out henv hA1 hU1 rfl (fun _ h => by cases h) rfl]
    simp [answer, eqOther_of_same_set (leq := leq) hA1.nd hA2.nd hsame]

end

/-! ### non-vacuity: the hypotheses are met by concrete, non-trivial instances -/

private def subLeq (a b : Nat) : Bool := (a &&& b) == a

/-- a `Lattice` over the bit masks `[0, 7]` (cache on): adding `1`, `6`, re-adding the top `7`, deleting index 2,
    reading `top` / `bottom`, and the refused `del` of the top index / `remove` of the bottom element -/
example : (match ctor subLeq .lattice [0, 7] true with
    | .ok s => Spec.invTopCheck subLeq s &&
        (runSL subLeq id s [.op (.add 1 true), .op (.add 6 true), .op (.add 7 true), .op (.del 2), .extreme .anc,
          .extreme .desc, .op (.del 1), .op (.remove 0)]).2
          == [.unit, .unit, .unit, .unit, .nat 1, .nat 0, .err .KeyError, .err .ValueError]
    | .error _ => false) = true := by decide +kernel

/-- an `UpperSemiLattice` over `[1, 3]`: `add 4` is refused (incomparable with the top `3`), `add 7` moves the top,
    deleting index 0 shifts it; the constructor refuses `[1, 2]` -/
example : (match ctor subLeq .upper [1, 3] true with
    | .ok s =>
        (runSL subLeq id s [.op (.add 4 true), .op (.add 7 true), .extreme .anc, .op (.del 0), .extreme .anc]).2
          == [.err .ValueError, .unit, .nat 2, .unit, .nat 1]
    | .error _ => false) = true
    ∧ (match ctor subLeq .upper [1, 2] true with
        | .ok _ => false
        | .error e => e == .ValueError) = true := by
  constructor <;> decide +kernel

/-- the hypothesis `histOk` of `all_histories` is met by a history with cached `add` (with and without cache filling)
    of new and present elements, refused operations, deletions and queries; and the model's outputs are the specified ones -/
example : (match ctor subLeq .lattice [0, 7] true with
    | .ok s =>
      let ops : List (OpSL Nat) := [.op (.add 1 true), .op (.add 3 true), .op (.add 7 true), .op (.add 7 false), .op (.add 5 false), .op (.add 4 true),
        .op (.direct .desc 3), .op (.del 2), .op (.del 1), .extreme .anc, .op (.remove 3), .op (.extremes .desc)]
      histOk subLeq .lattice true [0, 7] ops &&
        ((runSL subLeq id s ops).2 == runFreshSL subLeq .lattice [0, 7] ops)
    | .error _ => false) = true := by
  have h : (ctor subLeq .lattice [0, 7] true).isOk = true := by decide +kernel
  cases hs : ctor subLeq .lattice [0, 7] true with
  | error e => rw [hs] at h; cases h
  | ok s =>
    obtain ⟨-, hc, he, hu, hA⟩ := ctor_ok (po_and_eq fun _ => True) .lattice [0, 7] true (by decide) (fun _ _ => trivial) hs
    simp only [Bool.and_eq_true, beq_iff_eq]
    refine (and_iff_left_of_imp fun hok => ?_).mpr (by decide +kernel)
    rw [← hc, ← he]
    exact (all_histories ⟨po_and_eq _, fun _ => .refl _⟩ _ s hA (fun _ _ => trivial)
      (fun op _ => by rcases op with _ | o <;> first | exact ⟨⟩ | (cases o <;> exact ⟨⟩)) (by rw [hc, he, hu]; exact hok)).2.2.1

end Fca.C11
