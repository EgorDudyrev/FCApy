/-
  Props/C02 — exact lattice construction returns precisely the set of all formal concepts.

  `Spec.ExactConcepts t cs` : the keys `(sorted extent_i, sorted intent_i)` of the records `cs` are
  duplicate-free and are exactly the members of `Spec.allConcepts t` (= the pairs with `isConcept`, by
  `Spec.mem_allConcepts`; listed once each, `Spec.allConcepts_nodup`).
-/
import Fca.Lemmas.Miners
namespace Fca.C02
open Fca.Spec

def Concepts (t : Table) : List (List Nat × List Nat) := allConcepts t

/-- an iteration-order parameter is a reordering of the set it enumerates -/
def IsOrder {α} (ord : List α → List α) : Prop := ∀ l, (ord l).Perm l

/-- `close_by_one_objectwise_fbarray`: with the closed-form fuel `cboFuel n = (n+1)^(n+1)+1` (or more) the
    loop terminates normally, and the emitted concepts are exactly the formal concepts, each once. -/
theorem cbo_fbarray_exact (K : Ctx) (hwf : K.table.WF) (fuel : Nat) (hf : cboFuel K.nObjects ≤ fuel) :
    ∃ cs, cboFbarray K fuel = .ok cs ∧ ExactConcepts K.table cs := by
  obtain ⟨tr, htr, hok⟩ := CbOM.fbarray_trace K hwf fuel hf
  refine ⟨_, ?_, CbOM.exact_of_trace K hwf hok false⟩
  unfold cboFbarray
  rw [htr]

/-- `close_by_one_objectwise` (every backend; `extents_i_found` is never filled, so the test on it never fires: no
    set is emitted twice by the shape of the walk alone, `CbOM.InvD`, and the canonicity test is what makes every
    emitted set an extent): terminates, and emits exactly the formal concepts, each once. -/
theorem cbo_objectwise_exact (K : Ctx) (hwf : K.table.WF) (fuel : Nat) (hf : cboFuel K.nObjects ≤ fuel) :
    ∃ cs, cboObjectwise K fuel = .ok cs ∧ ExactConcepts K.table cs := by
  obtain ⟨tr, htr, hok⟩ := CbOM.objectwise_trace K hwf fuel hf
  refine ⟨_, ?_, CbOM.exact_of_trace K hwf hok true⟩
  unfold cboObjectwise
  rw [htr]

/-- `close_by_one` on a formal context: both branches of the shape dispatch (wide: directly; otherwise on the
    transposed context, every concept rebuilt from the transposed concept's intent). -/
theorem close_by_one_dispatch_exact (K : Ctx) (hwf : K.table.WF) (fuel : Nat) (hf : closeByOneFuel K ≤ fuel) :
    ∃ cs, closeByOne K fuel = .ok cs ∧ ExactConcepts K.table cs := by
  unfold closeByOne
  unfold closeByOneFuel at hf
  split
  · rename_i h
    rw [if_pos h] at hf
    exact cbo_fbarray_exact K hwf fuel hf
  · rename_i h
    rw [if_neg h] at hf
    have hwfT : K.T.table.WF := transpose_wf K.table
    have hn : K.T.nObjects = K.nBinAttrs := transpose_height K.table
    obtain ⟨tr, htr, hok⟩ := CbOM.fbarray_trace K.T hwfT fuel (by rw [hn]; exact hf)
    refine ⟨_, ?_, CbOM.exact_of_trace_T K hwf hok⟩
    unfold cboFbarray
    rw [htr]

/-- `lindig_algorithm`, both iteration directions (and the `None` default), every iteration order of
    `for g in set(reps)` and every choice of `queue.pop()`: terminates within `2^n + 1` iterations and returns
    exactly the formal concepts, each once. -/
theorem lindig_exact (K : Ctx) (hwf : K.table.WF) (iter : Option Bool)
    (ord : List Nat → List Nat) (hord : IsOrder ord) (pick : List Nat → Nat)
    (fuel : Nat) (hf : lindigAlgorithmFuel K iter ≤ fuel) :
    ∃ r, lindigAlgorithm K iter ord pick fuel = .ok r ∧ ExactConcepts K.table r.concepts := by
  unfold lindigAlgorithm
  unfold lindigAlgorithmFuel at hf
  cases hit : iter.getD (decide (K.nObjects < K.nAttributes))
  · -- attributes play the objects' role: the run is Lindig on the transposed table, swapped back at the end
    simp only [hit, Bool.false_eq_true, ↓reduceIte] at hf ⊢
    have hh : (transpose K.table).height = K.nAttributes := transpose_height K.table
    obtain ⟨s', hs', hnd, hmem⟩ := LindigL.run_exact (LindigL.ops_swapped K hwf) ord hord pick fuel (hh ▸ hf)
    rw [hh] at hs'
    erw [hs']
    refine ⟨_, rfl, ?_⟩
    obtain ⟨hnd', hmem'⟩ := exact_swap K.table hwf hnd hmem
    refine CbOM.exactConcepts_of_keys ?_ hnd' hmem'
    rw [List.map_map, List.map_map]
    refine List.map_congr_left fun c hc => ?_
    obtain ⟨h1, h2⟩ := LindigL.sortIdx_eq_self_of_isConcept ((hmem c.1 c.2).mp hc)
    simp only [Function.comp, conceptKey, h1, h2, Prod.swap]
  · simp only [hit, ↓reduceIte] at hf ⊢
    obtain ⟨s', hs', hnd, hmem⟩ := LindigL.run_exact (LindigL.ops_direct K hwf) ord hord pick fuel hf
    erw [hs']
    refine ⟨_, rfl, CbOM.exactConcepts_of_keys ?_ hnd hmem⟩
    rw [List.map_map]
    refine (List.map_congr_left fun c hc => ?_).trans (List.map_id _)
    obtain ⟨h1, h2⟩ := LindigL.sortIdx_eq_self_of_isConcept ((hmem c.1 c.2).mp hc)
    simp only [Function.comp, conceptKey, h1, h2, id]

/-- `sofia` with `min_supp = 0` and a size limit not below the number of concepts, every tie order of
    `sorted(set(…), key=count)`: exactly the formal concepts, each once (the pruning branch is not entered). -/
theorem sofia_nonbinding_exact (K : Ctx) (hwf : K.table.WF) (tie : List (List Bool) → List (List Bool))
    (htie : IsOrder tie) (lMax : Nat) (hL : (Concepts K.table).length ≤ lMax) :
    ExactConcepts K.table (sofia K tie lMax 0) := by
  obtain ⟨hnd, hsound⟩ := SofiaL.sofia_sound_nodup K hwf tie htie lMax 0
  refine ⟨hnd, fun A Bi => ⟨hsound A Bi, fun hc => ?_⟩⟩
  -- every family of the loop consists of distinct concepts, so the limit never binds
  obtain ⟨out, hout, hall⟩ := SofiaApprox.complete_sofiaMasks (meas := SofiaApprox.boundLog) (fun _ => htie) ⟨0, 1⟩
    lMax K.table (SofiaApprox.neverBinds_of_bound (fun _ => htie) fun _ _ h hS =>
      Nat.le_trans (SofiaApprox.length_le_concepts h hS) hL)
  cases (SofiaL.sofiaMasks_eq tie lMax 0 K.table).symm.trans hout
  have hc' := (isConcept_iff K.table).mp ((mem_allConcepts _).mp hc)
  rw [sofia, List.map_map, List.mem_map]
  refine ⟨_, hall Bi (fun a ha => intAll_lt K.table a (hc'.2 ▸ ha))
    ((SofiaL.below_one 0 _ _).trans (decide_eq_false (Nat.not_lt_zero _))), ?_⟩
  rw [Function.comp, SofiaL.key_of_mask K hwf, closureAttr, hc'.1, hc'.2]

def FromContextClaim (K : Ctx) (cs : List ConceptRec) : Algo → Prop
  | .cbo => ExactConcepts K.table cs
  | .sofia lMax minSupp => minSupp = 0 → (Concepts K.table).length ≤ lMax → ExactConcepts K.table cs
  | .default => ExactConcepts K.table cs
  | .lindig _ => ExactConcepts K.table cs
  | .other => False

/-- `ConceptLattice.from_context(K, algo)` (`is_monotone=False`): every supported algorithm (the default =
    `'Lindig'`, `'CbO'`, `'Lindig'` with any `iterate_extents`, `'Sofia'` with `min_supp = 0` and a non-binding
    `L_max`) returns normally and lists exactly the formal concepts, each once, for every iteration order;
    an unsupported name raises `ValueError`. -/
theorem from_context_exact (K : Ctx) (hwf : K.table.WF) (o : Orders)
    (hord : IsOrder o.ord) (htie : IsOrder o.tie) (algo : Algo) :
    match algo with
    | .other => fromContext K algo o = .error .ValueError
    | _ => ∃ cs, fromContext K algo o = .ok cs ∧ FromContextClaim K cs algo := by
  cases algo with
  | other => rfl
  | cbo =>
    obtain ⟨cs, h1, h2⟩ := close_by_one_dispatch_exact K hwf _ (Nat.le_refl _)
    refine ⟨sortConcepts cs, ?_, MinersL.exact_perm (MinersL.sortConcepts_perm cs) h2⟩
    simp only [fromContext, h1]
  | sofia lMax minSupp =>
    refine ⟨_, rfl, ?_⟩
    intro h0 hL
    subst h0
    exact MinersL.exact_perm (MinersL.sortConcepts_perm _) (sofia_nonbinding_exact K hwf o.tie htie lMax hL)
  | default =>
    obtain ⟨r, h1, h2⟩ := lindig_exact K hwf none o.ord hord o.pick _ (Nat.le_refl _)
    refine ⟨sortConcepts r.concepts, ?_, MinersL.exact_perm (MinersL.sortConcepts_perm _) h2⟩
    simp only [fromContext, h1]
  | lindig it =>
    obtain ⟨r, h1, h2⟩ := lindig_exact K hwf it o.ord hord o.pick _ (Nat.le_refl _)
    refine ⟨sortConcepts r.concepts, ?_, MinersL.exact_perm (MinersL.sortConcepts_perm _) h2⟩
    simp only [fromContext, h1]

/-- every concept any miner returns carries name views that are the name images of its index views
    (`extent = [object_names[i] for i in extent_i]`, `intent = [attribute_names[j] for j in intent_i]`). -/
theorem concept_views_agree (K : Ctx) :
    (∀ fuel cs, cboFbarray K fuel = .ok cs → ∀ c ∈ cs, ViewsAgree K.objNames K.attrNames c) ∧
    (∀ fuel cs, cboObjectwise K fuel = .ok cs → ∀ c ∈ cs, ViewsAgree K.objNames K.attrNames c) ∧
    (∀ fuel cs, closeByOne K fuel = .ok cs → ∀ c ∈ cs, ViewsAgree K.objNames K.attrNames c) ∧
    (∀ iter ord pick fuel r, lindigAlgorithm K iter ord pick fuel = .ok r →
        ∀ c ∈ r.concepts, ViewsAgree K.objNames K.attrNames c) ∧
    (∀ tie lMax minSupp, ∀ c ∈ sofia K tie lMax minSupp, ViewsAgree K.objNames K.attrNames c) ∧
    (∀ algo o cs, fromContext K algo o = .ok cs → ∀ c ∈ cs, ViewsAgree K.objNames K.attrNames c) := by
  refine ⟨MinersL.views_cboFbarray K, fun fuel cs h => ?_, MinersL.views_closeByOne K,
    MinersL.views_lindig K, MinersL.views_sofia K, fun algo o cs h => ?_⟩
  · unfold cboObjectwise at h
    split at h
    · cases h
    · cases h; exact MinersL.views_map (fun _ => MinersL.views_fromObjects K _ _) _
  · unfold fromContext at h
    split at h
    · split at h
      · cases h
      · rename_i cs' hcs
        cases h; exact MinersL.views_sorted (MinersL.views_closeByOne K _ cs' hcs)
    · cases h; exact MinersL.views_sorted (MinersL.views_sofia K _ _ _)
    · split at h
      · cases h
      · rename_i r hr
        cases h; exact MinersL.views_sorted (MinersL.views_lindig K _ _ _ _ r hr)
    · split at h
      · cases h
      · rename_i r hr
        cases h; exact MinersL.views_sorted (MinersL.views_lindig K _ _ _ _ r hr)
    · cases h

/-- the oracle the driver uses to judge the implementation's lists (`Spec.allConceptsFast`: brute force over the
    smaller side of the table, through the transposed table when it is wider than tall) lists exactly the
    formal concepts of the table, each once — the same set as `Concepts`. -/
theorem oracle_fast_exact (t : Table) (hwf : t.WF) :
    (allConceptsFast t).Nodup ∧ ∀ A B, (A, B) ∈ allConceptsFast t ↔ (A, B) ∈ Concepts t :=
  have hp := allConceptsFast_perm t hwf
  ⟨hp.nodup_iff.mpr (allConcepts_nodup t), fun _ _ => hp.mem_iff⟩

/-- non-vacuity: a concrete context that meets the hypotheses -/
private def exK : Ctx :=
  { backend := .bitarray, table := ⟨[[true, false, true], [true, true, false]], 3⟩,
    objNames := ["g0", "g1"], attrNames := ["a", "b", "c"] }

example : exK.table.WF ∧ cboFuel exK.nObjects ≤ 28 ∧
    (match cboFbarray exK 28 with
      | .ok cs => cs.map fun c => (c.extentI, c.intentI)
      | .error _ => []) = [([], [0, 1, 2]), ([0], [0, 2]), ([0, 1], [0]), ([1], [0, 1])] := by
  decide +kernel

example : IsOrder (fun l : List Nat => l.reverse) ∧ IsOrder (fun l : List (List Bool) => l) :=
  ⟨fun l => List.reverse_perm l, fun l => List.Perm.refl l⟩

end Fca.C02
