/-
  C20 — a decision lattice converted from a regression tree predicts as the tree does; multiplying / dividing by a
  constant scales the predictions and leaves the original unchanged.
  Numbers are exact rationals; "up to floating-point rounding" of the property is the harness' tolerance.
  `nxt : Rat → Rat` is the map `thr ↦ right_from` of `_parse_dt_arrays_to_drules`: `np.nextafter(thr, inf)` in the
  code's default mode, `thr + eps` (`nxtEps eps`) for an explicit `eps`.  The theorems hold for every `nxt`; all they
  ask of it (inside `wellFormed`) is `thr < nxt thr` and that no row value of the split feature lies strictly between
  the two, which is true of every float64 value when `nxt` is the successor on the float64 grid.
-/
import Fca.Lemmas.DecisionLatticePredict
import Fca.Lemmas.DecisionLatticeScale
namespace Fca.C20
open Fca.DL

/-- `(DL * c).predict = c · DL.predict` and, for `c ≠ 0`, `(DL / c).predict = DL.predict / c`
    (errors, if any, are the same), for EVERY decision lattice, context and record order. -/
theorem dl_scale (L : DLat) (X : Rows) (m : Nat) (order : List GenRec → List GenRec) (c : Rat) :
    predict (mul L c).2 X m order = (predict L X m order).map (List.map (· * c)) ∧
    (c ≠ 0 → ∃ r, truediv L c = some r ∧
        predict r.2 X m order = (predict L X m order).map (List.map (· / c))) := by
  refine ⟨predict_imul L X m order c, ?_⟩
  intro hc
  refine ⟨mul L (1 / c), by simp [truediv, hc], ?_⟩
  have h := predict_imul L X m order (1 / c)
  have hfun : (fun v : Rat => v * (1 / c)) = (fun v : Rat => v / c) := by
    funext v
    rw [Rat.div_def, Rat.div_def, Rat.one_mul]
  rw [hfun] at h
  exact h

/-- `DL * c` and `DL / c` leave the original unchanged (first component = `self` after the call), and the result's
    lattice is the original's (only the decisions are scaled).
    The model is pure, so object identity does not exist in it: that the returned Python object is a fresh copy (not
    `self`, nothing shared, also for the neutral constants `1`, `1.0`, `-1`) and that later in-place `*=` / `/=` on the
    result leave the original untouched is checked by the harness on every case. -/
theorem dl_scale_pure (L : DLat) (c : Rat) :
    (mul L c).1 = L ∧ (mul L c).2.lat = L.lat ∧ (∀ r, truediv L c = some r → r.1 = L ∧ r.2.lat = L.lat) := by
  refine ⟨rfl, rfl, ?_⟩
  intro r h
  unfold truediv at h
  split at h
  · cases h
  · cases h; exact ⟨rfl, rfl⟩

/-- Telescoping core: for every well-formed tree and every row, the node deltas (`dtargets`: root value,
    then child value − parent value) along the row's root-to-leaf path add up to the tree's prediction. -/
theorem telescoping_core (t : Tree) (X : Rows) (m : Nat) (nxt : Rat → Rat) (hwf : wellFormed t X m nxt = true)
    (x : List Rat) :
    sumR ((pathFrom t x t.n 0).map (delta t)) = treePredict t x :=
  telescope hwf x

/-- Path characterisation, one tracing step: at an internal node `i` of a well-formed tree, the extension of
    the left (right) child's generator `(-∞, thr]` (`[nxt thr, ∞)`) inside ANY base set of context rows is exactly
    the rows of the base whose descent step at `i` goes to that child. -/
theorem trace_step_exact (t : Tree) (X : Rows) (m : Nat) (nxt : Rat → Rat) (hwf : wellFormed t X m nxt = true)
    (i : Nat) (l r f : Int) (thr : Rat)
    (h1 : t.left[i]? = some l) (h2 : t.right[i]? = some r) (h3 : t.feature[i]? = some f)
    (h4 : t.threshold[i]? = some thr) (hl : ¬ l = -1)
    (base : List Nat) (hbase : ∀ g ∈ base, g < nObjects X) :
    extensionI X m [(f, directDescr t nxt l.toNat thr)] (some base)
        = .ok (base.filter fun g => descend t (X.getD g []) 1 i == l.toNat) ∧
    extensionI X m [(f, directDescr t nxt r.toNat thr)] (some base)
        = .ok (base.filter fun g => descend t (X.getD g []) 1 i == r.toNat) := by
  have h := wf_internal hwf ((node?_eq h1 h2 h3 h4).trans (if_neg hl))
  have hstep : ∀ k, (k = l.toNat ∨ k = r.toNat) → extensionI X m [(f, directDescr t nxt k thr)] (some base)
      = .ok (base.filter fun g => descend t (X.getD g []) 1 i == k) := by
    intro k hk
    rw [extensionI_single X m f _ base h.feature_nonneg h.feature_lt]
    refine congrArg _ (List.filter_congr fun g hg => ?_)
    rw [cell, directDescr_sat h hk (ListAux.getD_mem X g [] (hbase g hg)), descend_succ, h.child_some]
    exact Option.some_beq_some
  exact ⟨hstep _ (Or.inl rfl), hstep _ (Or.inr rfl)⟩

/-- The parser's `dtargets` are exactly the node deltas (root value, then child value − parent value, the parent
    being the one the left/right dictionaries recover) and `direct_parents` is `[None] + parents`. -/
theorem parse_deltas_exact (t : Tree) (m : Nat) (nxt : Rat → Rat) (r : Rules) (hn : 0 < t.n)
    (h : parse t m nxt = .ok r) :
    r.dtargets = (List.range t.n).map (delta t) ∧
    r.dparents = none :: ((List.range t.n).drop 1).map (parentOf t) :=
  ⟨(parse_inv hn h).2.2.1, (parse_inv hn h).1⟩

/-- FULL.  The decision lattice `L` converted on a context `X` predicts as the tree on EVERY context `X'` over the same
    columns (held-out objects, more or fewer objects, the empty context): `trace_context(X')` ends without error, its
    records are per row of `X'` the nodes of the row's root-to-leaf path carrying the node deltas, and `predict(X')` is
    the tree's value for every object of `X'`.  The only hypothesis about `X'` is `wellFormed t X' m nxt`; `X` needs
    none beyond the conversion having succeeded (of its concepts only the `support` is read again, to order the
    worklist). -/
theorem dl_predict_other_context (t : Tree) (X X' : Rows) (m : Nat) (nxt : Rat → Rat)
    (hwf' : wellFormed t X' m nxt = true) (L : DLat) (hconv : fromDecisionTree t X m nxt = .ok L)
    (order : List GenRec → List GenRec) (horder : ∀ l, (order l).Perm l) :
    ∃ recs preds, traceContext L.lat X' m order = .ok recs ∧
      tracePathOK t X' recs = true ∧ traceKeysOK t L.decisions recs = true ∧
      predict L X' m order = .ok preds ∧ preds.length = nObjects X' ∧
      ∀ g < nObjects X', preds.getD g 0 = treePredict t (X'.getD g []) := by
  obtain ⟨recs, htrace, hpath, hkeys, _⟩ := tracePathOK_of_conv hwf' hconv order horder
  obtain ⟨preds, h1, h2, h3⟩ := predict_of_trace t X' m nxt hwf' L order recs htrace hkeys hpath
  exact ⟨recs, preds, htrace, hpath, hkeys, h1, h2, h3⟩

/-- FULL.  The instance `X' = X`: for every successor map `nxt`, every well-formed tree, every context, the decision
    lattice `L` the converter returns for it, and every iteration order of the set of generator records, `predict`
    returns for every object of the context exactly the value the tree predicts (standard descent
    `x[feature] ≤ threshold → left`); the `len(lattice)` iterations of `trace_context`'s loop are enough for it.
    `hconv` names the converter's result; that the converter does not raise on a fitted tree is
    `dl_converted_predicts`. -/
theorem dl_predict_eq_tree (t : Tree) (X : Rows) (m : Nat) (nxt : Rat → Rat)
    (hwf : wellFormed t X m nxt = true) (L : DLat) (hconv : fromDecisionTree t X m nxt = .ok L)
    (order : List GenRec → List GenRec) (horder : ∀ l, (order l).Perm l) :
    ∃ recs preds, traceContext L.lat X m order = .ok recs ∧
      tracePathOK t X recs = true ∧ traceKeysOK t L.decisions recs = true ∧
      predict L X m order = .ok preds ∧ preds.length = nObjects X ∧
      ∀ g < nObjects X, preds.getD g 0 = treePredict t (X.getD g []) :=
  dl_predict_other_context t X X m nxt hwf L hconv order horder

/-- FULL, the explicit-`eps` mode (`_parse_dtsklearn_to_direct_drules(dt, context, eps=<number>)`, the only mode
    before the repair of D23): the instance `nxt thr = thr + eps`, under `wellFormedEps` — `0 < eps` and every
    threshold separates the row values of its feature by at least `eps` (`v ≤ thr ∨ thr + eps ≤ v`).  Unlike the grid
    hypothesis of the default mode this one does restrict the data: it fails for an object with
    `thr < v < thr + eps` and, in float arithmetic, wherever `thr + eps == thr`. -/
theorem dl_predict_eq_tree_eps (t : Tree) (X : Rows) (m : Nat) (eps : Rat)
    (hwf : wellFormedEps t X m eps = true) (L : DLat) (hconv : fromDecisionTree t X m (nxtEps eps) = .ok L)
    (order : List GenRec → List GenRec) (horder : ∀ l, (order l).Perm l) :
    ∃ recs preds, traceContext L.lat X m order = .ok recs ∧
      tracePathOK t X recs = true ∧ traceKeysOK t L.decisions recs = true ∧
      predict L X m order = .ok preds ∧ preds.length = nObjects X ∧
      ∀ g < nObjects X, preds.getD g 0 = treePredict t (X.getD g []) :=
  dl_predict_eq_tree t X m (nxtEps eps) (wellFormed_of_eps hwf) L hconv order horder

/-- FULL, unconditional form.  A well-formed tree that is fitted on the context `X` (`fitted`: every node is reached by
    at least one row, true of any sklearn tree grown on rows of the context, bootstrapped or not) is converted
    without an exception (`parse` finds every parent, no `AssertionError` from `generators_to_description`, the bottom
    completion and its assert go through, the concept list has a unique top and bottom), and the result — and, by
    `dl_scale`, each of its multiples and quotients, scaled — predicts the tree's value for every object of every
    well-formed context `X'`. -/
theorem dl_converted_predicts_anywhere (t : Tree) (X X' : Rows) (m : Nat) (nxt : Rat → Rat)
    (hwf : wellFormed t X m nxt = true) (hfit : fitted t X = true) (hwf' : wellFormed t X' m nxt = true)
    (order : List GenRec → List GenRec) (horder : ∀ l, (order l).Perm l) (c : Rat) :
    ∃ L preds, fromDecisionTree t X m nxt = .ok L ∧ predict L X' m order = .ok preds ∧
      preds.length = nObjects X' ∧ (∀ g < nObjects X', preds.getD g 0 = treePredict t (X'.getD g [])) ∧
      predict (mul L c).2 X' m order = .ok (preds.map (· * c)) := by
  obtain ⟨L, hL⟩ := conversion_ok hwf hfit
  obtain ⟨_, preds, _, _, _, h1, h2, h3⟩ := dl_predict_other_context t X X' m nxt hwf' L hL order horder
  refine ⟨L, preds, hL, h1, h2, h3, ?_⟩
  rw [(dl_scale L X' m order c).1, h1]
  rfl

/-- FULL.  The instance `X' = X`: the converter does not raise on a well-formed tree fitted on the context, and the
    resulting decision lattice predicts, for every object of the context, exactly the tree's value. -/
theorem dl_converted_predicts (t : Tree) (X : Rows) (m : Nat) (nxt : Rat → Rat)
    (hwf : wellFormed t X m nxt = true) (hfit : fitted t X = true)
    (order : List GenRec → List GenRec) (horder : ∀ l, (order l).Perm l) :
    ∃ L preds, fromDecisionTree t X m nxt = .ok L ∧ predict L X m order = .ok preds ∧
      preds.length = nObjects X ∧ ∀ g < nObjects X, preds.getD g 0 = treePredict t (X.getD g []) := by
  obtain ⟨L, preds, hL, h1, h2, h3, _⟩ := dl_converted_predicts_anywhere t X X m nxt hwf hfit hwf order horder 1
  exact ⟨L, preds, hL, h1, h2, h3⟩

/-- FULL.  The converter is homogeneous in the targets: for EVERY tree (no hypothesis), every context and every constant
    `c` (tiny, huge, zero or negative) converting the tree whose node values are all multiplied by `c` (`scaleTargets`)
    gives exactly `dl *= c` of the conversion of the original tree: the same lattice and generators, every decision
    (node delta) multiplied by `c`; the same exception if the original raises.  Consequently its predictions on any
    context are `c` times the original's, and the tree's own predictions scale the same way.  A converter that drops or
    rounds small deltas contradicts this statement at `c = 2⁻³⁰`. -/
theorem dl_target_homogeneous (t : Tree) (c : Rat) (X X' : Rows) (m : Nat) (nxt : Rat → Rat)
    (order : List GenRec → List GenRec) :
    fromDecisionTree (scaleTargets t c) X m nxt = (fromDecisionTree t X m nxt).map (fun L => imul L c) ∧
    (∀ L, fromDecisionTree t X m nxt = .ok L →
        ∃ L', fromDecisionTree (scaleTargets t c) X m nxt = .ok L' ∧ L'.lat = L.lat ∧
          L'.decisions = L.decisions.map (fun kv => (kv.1, kv.2 * c)) ∧
          predict L' X' m order = (predict L X' m order).map (List.map (· * c))) ∧
    (∀ x, treePredict (scaleTargets t c) x = treePredict t x * c) := by
  have hconv : fromDecisionTree (scaleTargets t c) X m nxt = (fromDecisionTree t X m nxt).map (fun L => imul L c) := by
    rw [fromDecisionTree, fromDecisionTree, parse_scale]
    cases parse t m nxt with
    | error e => rfl
    | ok r =>
      dsimp only [Except.map]
      rw [mkDecisions_scale]
      cases conceptsFrom X m r.premises with
      | error e => rfl
      | ok concepts =>
        dsimp only
        -- the bottom completion becomes a variable before the cases
        generalize (if (bottomsByChildren r.dparents concepts.length).length > 1 then _ else _ :
          Except PyErr (List Concept × List Nat)) = completed
        cases completed with
        | error e => rfl
        | ok p =>
          dsimp only
          split
          · rfl
          · split <;> rfl
  refine ⟨hconv, fun L hL => ⟨imul L c, ?_, rfl, rfl, predict_imul L X' m order c⟩, fun x => ?_⟩
  · rw [hconv, hL]
    rfl
  · rw [treePredict, descend_scale, scaleTargets_n]
    exact getD_map_scale t.value c _

/-- One generator record per node.  A well-formed tree fitted on `X` is converted without an exception, and
    `trace_context(X', use_generators=True)` through the result, for a well-formed `X'` whose rows reach every node of
    the tree (`fitted t X'`), ends without error with exactly one record per tree node: the decision stored under
    each record's key is the delta of the record's node, and per row of `X'` the records whose extent holds the row
    are the nodes of the row's root-to-leaf path.  Stated as the Boolean test the worked examples below make, which
    are its instances; `n` stands for the node count so that their literal `5` matches. -/
theorem converted_trace_records {t : Tree} {X X' : Rows} {m : Nat} {nxt : Rat → Rat}
    (hwf : wellFormed t X m nxt = true) (hfit : fitted t X = true)
    (hwf' : wellFormed t X' m nxt = true) (hfit' : fitted t X' = true) {n : Nat} (hn : t.n = n) :
    (match fromDecisionTree t X m nxt with
    | .ok L =>
      (match traceContext L.lat X' m id with
       | .ok recs => traceKeysOK t L.decisions recs && tracePathOK t X' recs && decide (recs.length = n)
       | .error _ => false)
    | .error _ => false) = true := by
  obtain ⟨L, hL⟩ := conversion_ok hwf hfit
  obtain ⟨recs, htr, hpath, hkeys, hlen⟩ := tracePathOK_of_conv hwf' hL id fun _ => .refl _
  simp only [hL, htr, hkeys, hpath, (hlen hfit').trans hn, decide_true, Bool.and_self]

/-- a fitted tree (5 nodes, depth 2) that meets every hypothesis, in both modes -/
private def exT : Tree :=
  { left := [1, 2, -1, -1, -1], right := [4, 3, -1, -1, -1], feature := [0, 0, -2, -2, -2],
    threshold := [5/2, 1/2, -2, -2, -2], value := [16/5, 2, 0, 8/3, 8] }
private def exX : Rows := [[0, 1], [1, 1], [2, 0], [3, 1/2], [1, 2]]

/-- default mode: the float64 successors of the two thresholds, `nextafter(2.5) = 2.5 + 2⁻⁵¹` and
    `nextafter(0.5) = 0.5 + 2⁻⁵³` -/
private def exNxt : Rat → Rat :=
  nxtOfList [(5/2, 5/2 + 1 / 2251799813685248), (1/2, 1/2 + 1 / 9007199254740992)]

/-- the rows of `exX` plus objects the tree was not grown on: one exactly on each threshold and one exactly one
    float64 ulp above each threshold -/
private def exXulp : Rows :=
  exX ++ [[5/2, 0], [5/2 + 1 / 2251799813685248, 0], [1/2, 7], [1/2 + 1 / 9007199254740992, 7]]

/-- the default mode's hypothesis for `exT` on its training rows (no value between a threshold and its `exNxt`) -/
theorem exX_wellFormed : wellFormed exT exX 2 exNxt = true := by decide +kernel
/-- the same with the rows on the thresholds and one ulp above them added -/
theorem exXulp_wellFormed : wellFormed exT exXulp 2 exNxt = true := by decide +kernel
/-- every node of `exT` is on the path of some row of `exX` -/
theorem exX_fitted : fitted exT exX = true := by decide +kernel
/-- and so of some row of `exXulp`, which holds those rows -/
theorem exXulp_fitted : fitted exT exXulp = true := by decide +kernel

example : wellFormed exT exX 2 exNxt = true := exX_wellFormed
example : wellFormed exT exXulp 2 exNxt = true := exXulp_wellFormed
example : fitted exT exX = true := exX_fitted
example : fitted exT exXulp = true := exXulp_fitted

example : (match fromDecisionTree exT exXulp 2 exNxt with
    | .ok L =>
      (match traceContext L.lat exXulp 2 id with
       | .ok recs => traceKeysOK exT L.decisions recs && tracePathOK exT exXulp recs && decide (recs.length = 5)
       | .error _ => false)
    | .error _ => false) = true :=
  converted_trace_records exXulp_wellFormed exXulp_fitted exXulp_wellFormed exXulp_fitted rfl

/-- a context of held-out objects only (none of the rows the tree was grown on): on each threshold, one float64 ulp
    above each threshold, and far away -/
private def exXnew : Rows :=
  [[5/2, 0], [5/2 + 1 / 2251799813685248, 0], [1/2, 7], [1/2 + 1 / 9007199254740992, 7], [-100, 3], [100, 3]]

/-- the default mode's hypothesis for `exT` on the held-out rows -/
theorem exXnew_wellFormed : wellFormed exT exXnew 2 exNxt = true := by decide +kernel
/-- the held-out rows reach every node of `exT` too: that is why the trace on them emits all five records -/
theorem exXnew_fitted : fitted exT exXnew = true := by decide +kernel

example : wellFormed exT exXnew 2 exNxt = true := exXnew_wellFormed
example : wellFormed exT [] 2 exNxt = true := by decide +kernel

example : (match fromDecisionTree exT exX 2 exNxt with
    | .ok L =>
      (match traceContext L.lat exXnew 2 id with
       | .ok recs => traceKeysOK exT L.decisions recs && tracePathOK exT exXnew recs && decide (recs.length = 5)
       | .error _ => false)
    | .error _ => false) = true :=
  converted_trace_records exX_wellFormed exX_fitted exXnew_wellFormed exXnew_fitted rfl

/-- explicit-`eps` mode with `eps = 1e-9`, the code's default before the repair of D23 -/
private def exEps : Rat := 1 / 1000000000

/-- every threshold of `exT` separates the values of `exX` by at least `exEps` -/
theorem exX_wellFormedEps : wellFormedEps exT exX 2 exEps = true := by decide +kernel

example : wellFormedEps exT exX 2 exEps = true := exX_wellFormedEps
example : wellFormed exT exX 2 (nxtEps exEps) = true := wellFormed_of_eps exX_wellFormedEps
/-- the separation hypothesis of that mode restricts the data: one ulp above a threshold fails it -/
example : wellFormedEps exT exXulp 2 exEps = false := by decide +kernel

/-- Evaluated by the kernel, so that the model is seen to run a conversion and a trace on a concrete tree; like the two
    above it is an instance of `converted_trace_records` (at `wellFormed_of_eps exX_wellFormedEps` and `exX_fitted`). -/
example : (match fromDecisionTree exT exX 2 (nxtEps exEps) with
    | .ok L =>
      (match traceContext L.lat exX 2 id with
       | .ok recs => traceKeysOK exT L.decisions recs && tracePathOK exT exX recs && decide (recs.length = 5)
       | .error _ => false)
    | .error _ => false) = true := by decide +kernel

end Fca.C20
