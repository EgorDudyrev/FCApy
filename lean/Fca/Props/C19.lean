/-
  Props/C19 — line-diagram layouts respect the order; node moving preserves levels.

  Observables: `calc_levels` (model `Layout.calcLevels`), the layouts' coordinates (models `Layout.fcartLayout` and
  `Layout.mpLayout` = fcapy's `multipartite_layout` including networkx's `multipartite_layout`/`rescale_layout`;
  checker `Layout.holdsLayout` for any layout), and `Mover.pos` after each operation (model `Mover.getPos`).
-/
import Fca.Model.Layout
import Fca.Model.LayoutMP
import Fca.Model.Mover
import Fca.Lemmas.Mover
import Fca.Lemmas.MoverShift
import Fca.Lemmas.MoverSorted
import Fca.Lemmas.Layout
import Fca.Lemmas.Fcart
import Fca.Lemmas.LayoutMP
namespace Fca.C19
open Fca.Layout Fca.Mover

/-- the layout part of the property, for a poset given by its cover relation (`parents[i]` = upper covers of
    `i`), a level vector and a position list: every element has a position and a level, no two share a position,
    every element is drawn strictly lower than each of its ancestors, and its level is the length of the longest
    chain from a maximal element down to it -/
structure LayoutOK (parents : List (List Nat)) (lv : List Nat) (pos : List (Rat × Rat)) : Prop where
  total : pos.length = parents.length ∧ lv.length = parents.length
  injective : pos.Nodup
  order : ∀ i j, i < parents.length → Anc parents i j → yOf pos i < yOf pos j
  levels : ∀ i, i < parents.length → IsLevel parents i (lv.getD i 0)

/-- What the checker tests pointwise gives the whole property: levels that obey the local recursion `goodLevel` are
    longest-chain lengths, and "strictly lower than each parent" extends along `Anc`.  The checker and, through
    `LayoutOK.of_levels`, both layout functions come in here. -/
theorem LayoutOK.of_good {parents : List (List Nat)} {lv : List Nat} {pos : List (Rat × Rat)}
    (hlen : pos.length = parents.length) (hlv : lv.length = parents.length) (hnd : pos.Nodup)
    (hcov : ∀ i, i < parents.length → ∀ p ∈ parents.getD i [], p < parents.length ∧ yOf pos i < yOf pos p)
    (hg : ∀ i, i < parents.length → goodLevel parents lv i = true) : LayoutOK parents lv pos :=
  ⟨⟨hlen, hlv⟩, hnd,
    fun _ _ hi ha => (anc_induction (R := fun i j => yOf pos i < yOf pos j) Std.lt_trans hcov ha hi).2,
    isLevel_of_good (fun i hi p hp => (hcov i hi p hp).1) hg⟩

/-- The decidable checker is sound: whatever coordinates and levels it accepts satisfy the property.
    The harness feeds it the IMPLEMENTATION's `calc_levels` and layout output (fcart and multipartite). -/
theorem holdsLayout_sound (parents : List (List Nat)) (lv : List Nat) (pos : List (Rat × Rat))
    (h : holdsLayout parents lv pos = true) : LayoutOK parents lv pos := by
  obtain ⟨h1, h2, h3, h4, h5⟩ := holdsLayout_parts h
  exact LayoutOK.of_good h1 h2 h3 h4 h5

/-- Levels that satisfy the level recursion, and any placement `f` of the elements whose `y` is strictly antitone
    in the level and whose `x` differs between two members of one level, have the whole property; both layout
    functions are instances. -/
theorem LayoutOK.of_levels {parents : List (List Nat)} {lv : List Nat} {f : Nat → Rat × Rat}
    (hr : ∀ i, i < parents.length → ∀ p ∈ parents.getD i [], p < parents.length)
    (hg : ∀ i, i < parents.length → goodLevel parents lv i = true) (hlv : lv.length = parents.length)
    (hx : ∀ i j, i < parents.length → j < parents.length → i ≠ j → lv.getD i 0 = lv.getD j 0 → (f i).1 ≠ (f j).1)
    (hy : ∀ i j, i < parents.length → j < parents.length → lv.getD j 0 < lv.getD i 0 → (f i).2 < (f j).2) :
    LayoutOK parents lv ((List.range parents.length).map f) := by
  refine LayoutOK.of_good (by rw [List.length_map, List.length_range]) hlv ?_ (fun i hi p hp => ?_) hg
  · rw [List.Nodup, List.pairwise_map]
    refine List.nodup_range.imp_of_mem fun {i j} hi hj hij e => ?_
    have hi := List.mem_range.mp hi
    have hj := List.mem_range.mp hj
    rcases Nat.lt_trichotomy (lv.getD i 0) (lv.getD j 0) with h | h | h
    · exact Rat.lt_irrefl (e ▸ hy j i hj hi h)
    · exact hx i j hi hj hij h (congrArg Prod.fst e)
    · exact Rat.lt_irrefl (e ▸ hy i j hi hj h)
  · have hp' := hr i hi p hp
    rw [yOf, yOf, ListAux.getD_map_range _ _ _ _ hi, ListAux.getD_map_range _ _ _ _ hp']
    exact ⟨hp', hy i p hi hp' ((goodLevel_cons (hg i hi) (List.ne_nil_of_mem hp)).2 p hp)⟩

/-- Every output the checker accepts is total, injective and order-respecting; this judges the IMPLEMENTATION's
    actual multipartite output on every run.  PARTIAL as a statement about `multipartite_layout`: that the function
    always produces an accepted output is `multipartite_layout_exact` below, for the model of the function
    (fcapy's wrapper + networkx 3.6.x `multipartite_layout`/`rescale_layout`). -/
theorem multipartite_layout_partial (parents : List (List Nat)) (lv : List Nat) (pos : List (Rat × Rat))
    (h : holdsLayout parents lv pos = true) :
    pos.length = parents.length ∧
    (∀ i j, i < parents.length → j < parents.length → i ≠ j → pos.getD i (0, 0) ≠ pos.getD j (0, 0)) ∧
    (∀ i j, i < parents.length → Anc parents i j → yOf pos i < yOf pos j) := by
  obtain ⟨⟨h1, _⟩, h3, h4, _⟩ := holdsLayout_sound parents lv pos h
  exact ⟨h1, fun i j hi hj hij he => hij ((List.getD_inj (h1 ▸ hi) (h1 ▸ hj) h3).mp he), h4⟩

/-- `calc_levels` is sound for every listing order of `tops` and of the children sets and every amount
    of fuel: whenever it returns, the level of every element is the length of the longest chain from a
    maximal element down to it, and `levels_dict` groups the elements by level in index order. -/
theorem calc_levels_sound (P : PosetData) (hP : WFP P) (fuel : Nat)
    (l : List Nat) (ld : List (List Nat)) (h : calcLevels P fuel = .ok (l, ld)) :
    l.length = P.n ∧ ld = levelsDict l ∧ ∀ i, i < P.n → IsLevel P.parents i (l.getD i 0) := by
  obtain ⟨h1, h2, h3⟩ := calcLevels_good hP h
  exact ⟨h1, h2, isLevel_of_good hP.par_lt h3⟩

/-- On every non-empty finite poset given by an acyclic cover relation (`WFP2`: valid indexes, `tops` = the
    elements without parents, `children` = transpose of `parents`, a rank function witnessing acyclicity)
    `calc_levels` returns, with the levels of `calc_levels_sound`. -/
theorem levels_longest_chain (P : PosetData) (hP : WFP2 P) (hn : P.n ≠ 0) :
    ∃ l ld, calcLevels P (defaultFuel P) = .ok (l, ld) ∧ l.length = P.n ∧ ld = levelsDict l ∧
      ∀ i, i < P.n → IsLevel P.parents i (l.getD i 0) := by
  obtain ⟨l, ld, h⟩ := calcLevels_total hP hn (le_defaultFuel P)
  exact ⟨l, ld, h, calc_levels_sound P hP.toWFP _ l ld h⟩

/-- `fcart_layout` (model) returns and satisfies the whole layout property on every non-empty finite poset, for
    all parameters `c`, `dpth`.  Positions are pairwise distinct because different levels differ in `y`, and
    within a level the ranks `id_on_lvl` enumerate a permutation of the level and `x = 2(id+1)/(cnt+1) − 1` is
    injective in the rank; `y = −2·level/L + 1` is strictly antitone in the level. -/
theorem fcart_layout_ok (P : PosetData) (hP : WFP2 P) (hn : P.n ≠ 0) (c : Rat) (dpth : Int) :
    ∃ pos cl ld, fcartLayout P (defaultFuel P) c dpth = .ok pos ∧
      calcLevels P (defaultFuel P) = .ok (cl, ld) ∧ LayoutOK P.parents cl pos := by
  obtain ⟨cl, idOn, hc, h1, h3, h, hinj⟩ := fcartLayout_eq hP hn (le_defaultFuel P) c dpth
  exact ⟨_, cl, _, h, hc, LayoutOK.of_levels hP.par_lt h3 h1
    (fun i j hi hj hij hlv he => hinj i j hi hj hij hlv
      (eq_of_lt_iff (fcartX_lt_iff cl _ idOn i j hlv) (fcartX_lt_iff cl _ idOn j i hlv.symm) he))
    (fun i j _ _ hlt => (fcartY_lt_iff cl _ i j (levelsDict_length_pos cl)).mpr hlt)⟩

/-- fcart: every element has a position and no two elements share one -/
theorem layout_total_injective (P : PosetData) (hP : WFP2 P) (hn : P.n ≠ 0) (c : Rat) (dpth : Int) :
    ∃ pos, fcartLayout P (defaultFuel P) c dpth = .ok pos ∧ pos.length = P.n ∧
      ∀ i j, i < P.n → j < P.n → i ≠ j → pos.getD i (0, 0) ≠ pos.getD j (0, 0) := by
  obtain ⟨pos, cl, ld, h, _, ⟨h1, _⟩, h3, _, _⟩ := fcart_layout_ok P hP hn c dpth
  have h1' : pos.length = P.n := h1
  exact ⟨pos, h, h1, fun i j hi hj hij he => hij ((List.getD_inj (h1' ▸ hi) (h1' ▸ hj) h3).mp he)⟩

/-- fcart: `i` strictly below `j` in the order ⇒ `y_i < y_j` -/
theorem layout_order_respecting (P : PosetData) (hP : WFP2 P) (hn : P.n ≠ 0) (c : Rat) (dpth : Int) :
    ∃ pos, fcartLayout P (defaultFuel P) c dpth = .ok pos ∧
      ∀ i j, i < P.n → Anc P.parents i j → yOf pos i < yOf pos j := by
  obtain ⟨pos, cl, ld, h, _, _, _, h4, _⟩ := fcart_layout_ok P hP hn c dpth
  exact ⟨pos, h, h4⟩

/-- `multipartite_layout` (model `mpLayout`: `calc_levels` → node attribute `level` → networkx
    `multipartite_layout(G, subset_key='level', align='horizontal')` with `rescale_layout` → `[p[0], -p[1]]`)
    satisfies the whole layout property on every non-empty finite poset, for EVERY iteration order `ord` of the
    Python sets holding the members of a layer.  Both coordinates are affine in (slot, layer index) with the
    positive factor `1/lim` (`1` when `lim = 0`, i.e. a single node at `(0, 0)`): members of different layers
    differ in `y`, members of one layer in `x`, and `y` strictly decreases along the layers, which are sorted by
    level. -/
theorem multipartite_layout_exact (P : PosetData) (hP : WFP2 P) (hn : P.n ≠ 0)
    (ord : List Nat → List Nat) (hord : ∀ g, (ord g).Perm g) :
    ∃ l ld, calcLevels P (defaultFuel P) = .ok (l, ld) ∧ LayoutOK P.parents l (mpLayout P l ord) := by
  obtain ⟨l, ld, hc⟩ := calcLevels_total hP hn (le_defaultFuel P)
  obtain ⟨h1, _, h3⟩ := calcLevels_good hP.toWFP hc
  exact ⟨l, ld, hc, LayoutOK.of_levels hP.par_lt h3 h1
    (fun i j hi hj => mpNode_fst_ne l ord hord i j (h1 ▸ hi) (h1 ▸ hj))
    (fun i j hi hj => mpNode_snd_lt l ord hord i j (h1 ▸ hi) (h1 ▸ hj))⟩

/-- the same for the whole function (`calc_levels` included), in the shape of `fcart_layout_ok` -/
theorem multipartite_layout_ok (P : PosetData) (hP : WFP2 P) (hn : P.n ≠ 0)
    (ord : List Nat → List Nat) (hord : ∀ g, (ord g).Perm g) :
    ∃ pos cl ld, multipartiteLayout P (defaultFuel P) ord = .ok pos ∧
      calcLevels P (defaultFuel P) = .ok (cl, ld) ∧ LayoutOK P.parents cl pos := by
  obtain ⟨l, ld, hc, hok⟩ := multipartite_layout_exact P hP hn ord hord
  exact ⟨_, l, ld, by simp only [multipartiteLayout, hc], hc, hok⟩

private def exP : PosetData := ⟨[[], [0], [0], [1, 2], [0]], [[1, 2, 4], [3], [3], [], []], [0]⟩

/-- the diamond with a pendant meets all hypotheses; the models return the expected values on it and the
    fcart output is accepted by the checker -/
example : WFP2 exP ∧ exP.n ≠ 0 ∧
    (match calcLevels exP (defaultFuel exP) with
     | .ok r => r == ([0, 1, 1, 2, 1], [[0], [1, 2, 4], [3]])
     | .error _ => false) = true ∧
    (match fcartLayout exP (defaultFuel exP) (1/2) 1, calcLevels exP (defaultFuel exP) with
     | .ok pos, .ok (cl, _) => holdsLayout exP.parents cl pos
     | _, _ => false) = true := by
  refine ⟨⟨⟨by decide +kernel, by decide +kernel, by decide +kernel⟩, by decide +kernel, by decide +kernel,
    by decide +kernel, by decide +kernel, by decide +kernel,
    ⟨fun i => [0, 1, 1, 2, 1].getD i 0, by decide +kernel⟩⟩, by decide +kernel⟩

/-- on the same poset the multipartite model, with the layer `{1, 2, 4}` iterated as `4, 1, 2`, returns the
    expected coordinates (raw grid `(level − 1, slot − (h−1)/2)`, level mean `1`, `lim = 1`), which the checker
    accepts; the order parameter used is a permutation of every argument -/
example :
    let ord : List Nat → List Nat := fun g => if g = [1, 2, 4] then [4, 1, 2] else g
    (∀ g, (ord g).Perm g) ∧
    mpLayout exP [0, 1, 1, 2, 1] ord = [(0, 1), (0, 0), (1, 0), (0, -1), (-1, 0)] ∧
    holdsLayout exP.parents [0, 1, 1, 2, 1] (mpLayout exP [0, 1, 1, 2, 1] ord) = true := by
  refine ⟨?_, by decide +kernel⟩
  intro g
  by_cases h : g = [1, 2, 4]
  · subst h; decide +kernel
  · simp only [h, ↓reduceIte]; exact List.Perm.refl _

/-- `Mover.pos` is the per-node peer / level coordinate laid on the axes of the orientation -/
theorem mover_pos_of_coords (m : St) : getPos m = (List.range m.n).map fun el =>
    match m.dir with
    | .v => (m.peerCoord el, m.levelCoord el)
    | .h => (-(m.levelCoord el), m.peerCoord el) := by
  unfold getPos posx posy
  cases m.dir <;> simp only [List.zip_map'] <;> rfl

/-- Loading a non-empty position dictionary and reading it back is the identity, in both orientations
    (distinctness of the positions is not needed), and the loaded state satisfies the invariants all later
    theorems assume: `WF` (every list read is in range) and `Bij` (the ranks of each level are a bijection onto
    the level's coordinate slots). -/
theorem mover_roundtrip (d : Dir) (value : List (Rat × Rat)) (hne : value ≠ []) :
    ∃ m, setPos d value = .ok m ∧ WF m ∧ Bij m ∧ m.dir = d ∧ getPos m = value := by
  obtain ⟨hw, hs⟩ := loadState_spec d (value.map (orient d))
  refine ⟨_, setPos_ok d hne, hw, loadState_bij d _, rfl, ?_⟩
  rw [mover_pos_of_coords, loadState_n, List.length_map]
  conv => rhs; rw [← ListAux.range_map_getD value (0, 0)]
  apply List.map_congr_left
  intro el hel
  have hel' : el < value.length := List.mem_range.mp hel
  obtain ⟨h1, h2⟩ := hs el (by rw [List.length_map]; exact hel')
  rw [h1, h2, ListAux.getD_map (orient d) value el (0, 0) (0, 0) hel']
  exact orient_back d _

/-- `swap_nodes(a, b)` succeeds exactly for valid nodes of one level, and then exchanges exactly the two
    peer coordinates: nothing else moves and no level coordinate changes. -/
theorem mover_swap (m : St) (hw : WF m) (a b : Nat) :
    (a < m.n → b < m.n → m.lvl a = m.lvl b → ∃ m', swapNodes m a b = .ok m') ∧
    ∀ m', swapNodes m a b = .ok m' →
      m.lvl a = m.lvl b ∧ m'.n = m.n ∧
      m'.peerCoord a = m.peerCoord b ∧ m'.peerCoord b = m.peerCoord a ∧
      (∀ j, j ≠ a → j ≠ b → m'.peerCoord j = m.peerCoord j) ∧
      (∀ j, m'.levelCoord j = m.levelCoord j) := by
  refine ⟨fun ha hb hl => ⟨_, swapNodes_peers ha hb hl⟩, fun m' h => ?_⟩
  have hf := swap_frame h
  have hpp := swap_posPeers h
  obtain ⟨_, _, hlab, _⟩ := swapNodes_ok h
  refine ⟨hlab, hf.n, ?_, ?_, fun j hja hjb => hf.peerCoord (swap_ord_other h hja hjb) (row_congr hpp _),
    hf.levelCoord⟩
  · rw [St.peerCoord, St.peerCoord, hf.lvl, row_congr hpp, swap_ord_a hw.len_ord h, hlab]
  · rw [St.peerCoord, St.peerCoord, hf.lvl, row_congr hpp, swap_ord_b hw.len_ord h, hlab]

/-- `shift_node(i, k)` on a valid node always succeeds and moves `i` exactly `k` places among its peers
    (clamped at the ends of the level), the bypassed peers moving one place the other way, every other
    node keeping its rank; the coordinate lists are not touched — the level's coordinates are reused
    (`peerCoord m' j` is slot `m'.ord j` of the unchanged row) — and both invariants are kept. -/
theorem mover_shift (m : St) (hw : WF m) (hb : Bij m) (i : Nat) (k : Int) (hi : i < m.n) :
    ∃ m', shiftNode m i k = .ok m' ∧ WF m' ∧ Bij m' ∧
      m'.n = m.n ∧ m'.posPeers = m.posPeers ∧ m'.posLevels = m.posLevels ∧ m'.levels = m.levels ∧
      (∀ j, m'.peerCoord j = (m.row (m.lvl j)).getD (m'.ord j) 0) ∧
      (∀ j, m'.levelCoord j = m.levelCoord j) ∧
      (∀ j, m.lvl j ≠ m.lvl i → m'.ord j = m.ord j ∧ m'.peerCoord j = m.peerCoord j) ∧
      (0 ≤ k →
        let t := min k.natAbs ((m.row (m.lvl i)).length - (m.ord i + 1))
        m'.ord i = m.ord i + t ∧
        ∀ j, j < m.n → m.lvl j = m.lvl i →
          (m.ord i < m.ord j → m.ord j ≤ m.ord i + t → m'.ord j = m.ord j - 1) ∧
          (m.ord j < m.ord i ∨ m.ord i + t < m.ord j → m'.ord j = m.ord j)) ∧
      (k < 0 →
        let t := min k.natAbs (m.ord i)
        m'.ord i = m.ord i - t ∧
        ∀ j, j < m.n → m.lvl j = m.lvl i →
          (m.ord i - t ≤ m.ord j → m.ord j < m.ord i → m'.ord j = m.ord j + 1) ∧
          (m.ord j < m.ord i - t ∨ m.ord i < m.ord j → m'.ord j = m.ord j)) := by
  obtain ⟨m', h⟩ := shiftNode_total hi k
  have hst : step m (.shift i k) = .ok m' := h
  have hf := step_frame hst
  have hpp := shift_posPeers h
  exact ⟨m', h, step_wf hw hst, step_bij hw hb hst, hf.n, hpp, hf.posLevels, hf.levels,
    fun j => by rw [St.peerCoord, hf.lvl, row_congr hpp], hf.levelCoord,
    fun j hj => step_other hst j hj, fun hk => shift_right hw hb hk h rfl,
    fun hk => shift_left hw hb (Int.le_of_lt hk) h rfl⟩

/-- `jitter_node(i, dx)`: whenever it returns, node `i` sits exactly `dx` further along the peer axis
    (border, order-preserving and overtaking branch alike); no level coordinate changes and no node
    of another level moves.  (A bypassed peer of the same level may be displaced: by design.) -/
theorem mover_jitter (m : St) (hw : WF m) (i : Nat) (dx : Rat) (m' : St)
    (h : jitterNode m i dx = .ok m') :
    m'.peerCoord i = m.peerCoord i + dx ∧ WF m' ∧ (Bij m → Bij m') ∧ m'.n = m.n ∧
    (∀ j, m'.levelCoord j = m.levelCoord j) ∧
    (∀ j, m.lvl j ≠ m.lvl i → m'.peerCoord j = m.peerCoord j) := by
  have hst : step m (.jitter i dx) = .ok m' := h
  have hf := step_frame hst
  refine ⟨?_, step_wf hw hst, fun hb => step_bij hw hb hst, hf.n, hf.levelCoord, fun j hj => (step_other hst j hj).2⟩
  -- `m'` is the original or a shifted state `m1` with slot `m1.ord i` of the row of `i` overwritten
  obtain ⟨hi, hcases⟩ := jitterNode_cases h rfl rfl rfl
  have hset : ∀ m1 : St, WF m1 → Frame m m1 →
      (setRow m1 (m.lvl i) (m1.ord i) (m.peerCoord i + dx)).peerCoord i = m.peerCoord i + dx := by
    intro m1 hw1 hf1
    have hi1 : i < m1.n := hf1.n ▸ hi
    show ((setRow m1 _ _ _).row (m1.lvl i)).getD (m1.ord i) 0 = _
    rw [hf1.lvl, setRow_row_same _ _ _ _ (hf1.lvl i ▸ hw1.lvl_lt i hi1)]
    exact ListAux.getD_set_eq _ _ _ _ (hf1.lvl i ▸ hw1.ord_lt i hi1)
  obtain ⟨_, rfl⟩ | ⟨_, m1, hs, rfl⟩ := hcases
  · exact hset m hw (.refl m)
  · exact hset m1 (step_wf (o := .shift i _) hw hs) (step_frame (o := .shift i _) hs)

/-- `jitter_node` on a valid node refuses only in the documented case: the new coordinate coincides
    with a coordinate of the level (`AssertionError`, state unchanged); in every other case it returns. -/
theorem mover_jitter_refusal (m : St) (hw : WF m) (hb : Bij m) (i : Nat) (dx : Rat) (hi : i < m.n)
    (e : VErr) (h : jitterNode m i dx = .error e) :
    e = .AssertionError ∧ (m.peerCoord i + dx) ∈ m.row (m.lvl i) := by
  rw [jitterNode_eq m i dx rfl rfl rfl, if_pos hi] at h
  rcases ite_eq_cases h with ⟨_, h⟩ | ⟨_, h⟩
  · cases h
  · rcases ite_eq_cases h with ⟨hmem, h⟩ | ⟨_, h⟩
    · cases h
      exact ⟨rfl, hmem⟩
    · obtain ⟨m1, hs⟩ := shiftNode_total hi _
      rw [hs] at h
      cases h

/-- `place_node(i, x)` in the vertical orientation puts node `i` at peer coordinate `x` (exactly, in
    rational arithmetic; the implementation computes `p + (x - p)` in floats), with the same frame
    conditions as jitter. -/
theorem mover_place (m : St) (hw : WF m) (hv : m.dir = .v) (i : Nat) (x : Rat) (m' : St)
    (h : placeNode m i x = .ok m') :
    m'.peerCoord i = x ∧ WF m' ∧ (Bij m → Bij m') ∧
    (∀ j, m'.levelCoord j = m.levelCoord j) ∧
    (∀ j, m.lvl j ≠ m.lvl i → m'.peerCoord j = m.peerCoord j) := by
  obtain ⟨hi, hj⟩ := placeNode_ok h
  obtain ⟨h1, h2, hb', _, h3, h4⟩ := mover_jitter m hw i _ m' hj
  refine ⟨?_, h2, hb', h3, h4⟩
  have : (posx m).getD i 0 = m.peerCoord i := by
    simp only [posx, hv]
    exact ListAux.getD_map_range _ _ _ _ hi
  rw [h1, this, Rat.sub_eq_add_neg, Rat.add_left_comm, Rat.add_neg_cancel, Rat.add_zero]

/-- No history of operations (failed ones are caught and leave the state unchanged) changes the
    orientation, any node's level or level coordinate, or the peer coordinate of a node whose level
    none of the operations addressed; both state invariants are kept. -/
theorem mover_levels_invariant (m : St) (hw : WF m) (hb : Bij m) (ops : List Op) :
    WF (run m ops) ∧ Bij (run m ops) ∧ (run m ops).dir = m.dir ∧ (run m ops).n = m.n ∧
    (run m ops).levels = m.levels ∧ (run m ops).posLevels = m.posLevels ∧
    (∀ j, (run m ops).levelCoord j = m.levelCoord j) ∧
    (∀ j, (∀ o ∈ ops, m.lvl j ≠ m.lvl o.node) → (run m ops).peerCoord j = m.peerCoord j) := by
  have hf := run_frame ops m
  obtain ⟨hw', hb'⟩ := run_induction (P := fun m1 => WF m1 ∧ Bij m1) ops m
    (fun _ _ _ _ hP h => ⟨step_wf hP.1 h, step_bij hP.1 hP.2 h⟩) ⟨hw, hb⟩
  exact ⟨hw', hb', hf.dir, hf.n, hf.levels, hf.posLevels, hf.levelCoord, run_other ops m⟩

/-- `Sorted` is established by loading pairwise distinct positions (both orientations) and preserved by every
    operation — swap, shift, jitter in all three branches (border, order-preserving, overtaking), place — hence
    by every history (failed operations leave the state unchanged). -/
theorem mover_sorted_invariant :
    (∀ (d : Dir) (value : List (Rat × Rat)), value ≠ [] → value.Nodup →
      ∃ m, setPos d value = .ok m ∧ WF m ∧ Bij m ∧ Sorted m ∧ getPos m = value) ∧
    (∀ (m m' : St) (o : Op), WF m → Bij m → Sorted m → step m o = .ok m' → WF m' ∧ Bij m' ∧ Sorted m') ∧
    (∀ (m : St) (ops : List Op), WF m → Bij m → Sorted m →
      WF (run m ops) ∧ Bij (run m ops) ∧ Sorted (run m ops)) := by
  have hstep : ∀ (m m' : St) (o : Op), WF m → Bij m → Sorted m → step m o = .ok m' →
      WF m' ∧ Bij m' ∧ Sorted m' :=
    fun m m' o hw hb hs h => ⟨step_wf hw h, step_bij hw hb h, step_sorted hw hb hs h⟩
  refine ⟨?_, hstep, ?_⟩
  · intro d value hne hnd
    obtain ⟨m, hm, hw, hb, _, hg⟩ := mover_roundtrip d value hne
    refine ⟨m, hm, hw, hb, ?_, hg⟩
    cases (setPos_ok d hne).symm.trans hm
    exact loadState_sorted d _ (List.Pairwise.map _ (fun _ _ hne e => hne (orient_injective d _ _ e)) hnd)
  · intro m ops hw hb hs
    exact run_induction (P := fun m1 => WF m1 ∧ Bij m1 ∧ Sorted m1) ops m
      (fun o _ m1 m2 hP h => hstep m1 m2 o hP.1 hP.2.1 hP.2.2 h) ⟨hw, hb, hs⟩

/-- In a `Sorted` state ranks are geometric: among the peers of a level, smaller rank ⇔ smaller peer
    coordinate, and a node's coordinate is slot `rank` of the ascending coordinate list of its level
    (each slot being taken by exactly one peer, `Bij`). -/
theorem mover_rank_geometric (m : St) (hw : WF m) (hb : Bij m) (hs : Sorted m) :
    (∀ l, (m.row l).Pairwise (· < ·)) ∧
    (∀ j, m.peerCoord j = (m.row (m.lvl j)).getD (m.ord j) 0) ∧
    (∀ a b, a < m.n → b < m.n → m.lvl a = m.lvl b → (m.ord a < m.ord b ↔ m.peerCoord a < m.peerCoord b)) ∧
    (∀ l r, l < m.posPeers.length → r < (m.row l).length → ∃ el, el < m.n ∧ m.lvl el = l ∧ m.ord el = r ∧
      ∀ el', el' < m.n → m.lvl el' = l → m.ord el' = r → el' = el) := by
  refine ⟨hs, fun _ => rfl, fun a b ha hb' hl => rank_geometric hw hs ha hb' hl, ?_⟩
  intro l r hl hr
  obtain ⟨el, h1, h2, h3⟩ := hb.surj l r hl hr
  exact ⟨el, h1, h2, h3, fun el' h1' h2' h3' => hb.inj el' el h1' h1 (h2'.trans h2.symm) (h3'.trans h3.symm)⟩

/-- `shift_node(i, k)` read geometrically: in a `Sorted` state (before and after — the level's ascending
    coordinate list `row` is not touched) node `i`, which sits at slot `p` of `row`, ends exactly `k` places
    further right among its peers ordered by their actual coordinates (clamped at the ends of the row): at
    `row[p + min(k, len-1-p)]` resp. `row[p - min(|k|, p)]`; every peer between the old and the new place of
    `i` (new place included) moves to the neighbouring slot on the other side, every other node keeps its
    coordinate. -/
theorem mover_shift_geometric (m : St) (hw : WF m) (hb : Bij m) (hs : Sorted m) (i : Nat) (k : Int) (hi : i < m.n) :
    ∃ m', shiftNode m i k = .ok m' ∧ WF m' ∧ Bij m' ∧ Sorted m' ∧ (∀ l, m'.row l = m.row l) ∧
      (∀ a b, a < m.n → b < m.n → m.lvl a = m.lvl b →
        ((m.ord a < m.ord b ↔ m.peerCoord a < m.peerCoord b) ∧
         (m'.ord a < m'.ord b ↔ m'.peerCoord a < m'.peerCoord b))) ∧
      (0 ≤ k →
        let row := m.row (m.lvl i)
        let t := min k.natAbs (row.length - (m.ord i + 1))
        m'.peerCoord i = row.getD (m.ord i + t) 0 ∧
        ∀ j, j < m.n → m.lvl j = m.lvl i →
          (m.peerCoord i < m.peerCoord j → m.peerCoord j ≤ row.getD (m.ord i + t) 0 →
              m'.peerCoord j = row.getD (m.ord j - 1) 0) ∧
          (m.peerCoord j < m.peerCoord i ∨ row.getD (m.ord i + t) 0 < m.peerCoord j →
              m'.peerCoord j = m.peerCoord j)) ∧
      (k < 0 →
        let row := m.row (m.lvl i)
        let t := min k.natAbs (m.ord i)
        m'.peerCoord i = row.getD (m.ord i - t) 0 ∧
        ∀ j, j < m.n → m.lvl j = m.lvl i →
          (row.getD (m.ord i - t) 0 ≤ m.peerCoord j → m.peerCoord j < m.peerCoord i →
              m'.peerCoord j = row.getD (m.ord j + 1) 0) ∧
          (m.peerCoord j < row.getD (m.ord i - t) 0 ∨ m.peerCoord i < m.peerCoord j →
              m'.peerCoord j = m.peerCoord j)) := by
  obtain ⟨m', h, hw', hb', hn, hpp, _, _, hpc, _, _, hR, hL⟩ := mover_shift m hw hb i k hi
  have hf := step_frame (o := .shift i k) h
  have hs' : Sorted m' := sorted_of_posPeers_eq hpp hs
  have hp := hw.ord_lt i hi
  -- comparing the coordinate of a peer `j` with slot `q` of the row = comparing the rank of `j` with `q`
  have hcmp : ∀ j, j < m.n → m.lvl j = m.lvl i → ∀ q, q < (m.row (m.lvl i)).length →
      (m.peerCoord j < (m.row (m.lvl i)).getD q 0 ↔ m.ord j < q) ∧
      ((m.row (m.lvl i)).getD q 0 < m.peerCoord j ↔ q < m.ord j) :=
    fun j hj hjl q hq => hjl ▸ peerCoord_lt_slot hw hs hj (hjl ▸ hq)
  have htq := hw'.ord_lt i (hn.symm ▸ hi)
  rw [hf.lvl, row_congr hpp] at htq
  refine ⟨m', h, hw', hb', hs', row_congr hpp, ?_, ?_, ?_⟩
  · intro a b ha hb'' hab
    exact ⟨rank_geometric hw hs ha hb'' hab,
      rank_geometric hw' hs' (hn ▸ ha) (hn ▸ hb'') (by rw [hf.lvl, hf.lvl]; exact hab)⟩
  · intro hk
    obtain ⟨h1, h2⟩ := hR hk
    rw [h1] at htq
    refine ⟨by rw [hpc, h1], fun j hj hjl => ?_⟩
    obtain ⟨c1, c2⟩ := hcmp j hj hjl _ htq
    obtain ⟨d1, d2⟩ := hcmp j hj hjl _ hp
    obtain ⟨g1, g2⟩ := h2 j hj hjl
    constructor
    · intro ha hb''
      rw [hpc, g1 (d2.mp ha) (Nat.not_lt.mp (mt c2.mpr (Rat.not_lt.mpr hb''))), hjl]
    · intro hor
      rw [hpc, g2 (hor.imp d1.mp c2.mp)]
      rfl
  · intro hk
    obtain ⟨h1, h2⟩ := hL hk
    rw [h1] at htq
    refine ⟨by rw [hpc, h1], fun j hj hjl => ?_⟩
    obtain ⟨c1, c2⟩ := hcmp j hj hjl _ htq
    obtain ⟨d1, d2⟩ := hcmp j hj hjl _ hp
    obtain ⟨g1, g2⟩ := h2 j hj hjl
    constructor
    · intro ha hb''
      rw [hpc, g1 (Nat.not_lt.mp (mt c1.mpr (Rat.not_lt.mpr ha))) (d1.mp hb''), hjl]
    · intro hor
      rw [hpc, g2 (hor.imp c1.mp d2.mp)]
      rfl

private def exPos : List (Rat × Rat) := [(0, 1), (1/2, 0), (-1/2, 0), (3/2, 0), (0, -1)]

/-- a loaded 5-node diagram; an overtaking jitter (displacing the bypassed peer 1), a place, a shift by
    two and a swap all succeed on it with the stated results -/
example :
    (match setPos .v exPos with
     | .error _ => false
     | .ok m =>
       getPos m == exPos
       && (match jitterNode m 2 (3/2) with
           | .ok m' => getPos m' == [(0, 1), (-1/2, 0), (1, 0), (3/2, 0), (0, -1)]
           | .error _ => false)
       && (match placeNode m 3 (-1) with
           | .ok m' => m'.peerCoord 3 == -1
           | .error _ => false)
       && (match shiftNode m 2 2 with
           | .ok m' => getPos m' == [(0, 1), (-1/2, 0), (3/2, 0), (1/2, 0), (0, -1)]
           | .error _ => false)
       && (match swapNodes m 1 3 with
           | .ok _ => true
           | .error _ => false)) = true := by decide +kernel

/-- the 5-node diagram has pairwise distinct positions, so `mover_sorted_invariant` applies to it -/
example : exPos ≠ [] ∧ exPos.Nodup ∧ ∃ m, setPos .v exPos = .ok m ∧ WF m ∧ Bij m ∧ Sorted m := by
  have h1 : exPos ≠ [] := by decide
  have h2 : exPos.Nodup := by decide +kernel
  obtain ⟨m, hm, hw, hb, hs, _⟩ := mover_sorted_invariant.1 .v exPos h1 h2
  exact ⟨h1, h2, m, hm, hw, hb, hs⟩

end Fca.C19
