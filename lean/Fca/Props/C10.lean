/-
  Props/C10 — set algebra on posets yields correct posets whatever the operands have cached.

  Model: `Fca.Model.PosetAlgebra` (`combine` = `__and__ / __or__ / __xor__ / __sub__` with `_combine_caches` and
  `_combine_multiple_caches`, on the state type of `Fca.Model.Poset`), specification: `Fca.Spec.Poset` (`Fresh`),
  invariant: `Fca.C09.Inv` (every cached entry is the `Fresh` value for the current elements).

  `sameLeq` is the outcome of `self._leq_func == other.leq_func` (the operators assert it); the property speaks
  about posets "with the same comparison", i.e. `sameLeq = true`.
-/
import Fca.Lemmas.PosetAlgebra
import Fca.Props.C09
namespace Fca.C10
open Fca.Poset Fca.Poset.Fresh Fca.C09

section
variable {α : Type} [DecidableEq α] {leq : α → α → Bool} {ord : List Nat → List Nat} {U : α → Prop}

/-- FULL.  The elements of `a ⊕ b` are exactly the set-theoretic combination of the operands' elements
    (`SetOp.sem`: `&` ↦ in both, `|` ↦ in one of them, `^` ↦ in exactly one, `-` ↦ in the first only), each once,
    in first-operand-then-second order: the members that belong to the first operand in its order, followed by
    the members that belong to the second operand only, in its order.  (The three facts together determine the
    list uniquely.)  Holds for every cache content and cache flag of the operands. -/
theorem combine_elements (op : SetOp) (same : Bool) (a b r : St α) (hA : a.elems.Nodup) (hB : b.elems.Nodup)
    (h : combine leq op same a b = .ok r) :
    r.elems.Nodup ∧ (∀ x, x ∈ r.elems ↔ op.sem (x ∈ a.elems) (x ∈ b.elems)) ∧
      r.elems = a.elems.filter (fun x => decide (x ∈ r.elems)) ++
        (b.elems.filter fun x => decide (x ∉ a.elems)).filter (fun x => decide (x ∈ r.elems)) := by
  obtain ⟨he, _, _⟩ := combine_shape h
  rw [he]
  exact ⟨nodup_combineElems op hA hB, mem_combineElems op _ _, combineElems_order op _ _⟩

/-- FULL (in the model, where an operator is a function of the operand states; that the real operators do not
    write into their operands is checked on the real objects by the harness).  `combineP` threads the two operand
    states through the call and returns them together with the result: they come back unchanged. -/
theorem operands_unchanged (op : SetOp) (same : Bool) (a b : St α) :
    (combineP leq op same (a, b)).1 = (a, b) ∧ (combineP leq op same (a, b)).2 = combine leq op same a b :=
  ⟨rfl, rfl⟩

/-- FULL.  If both operands satisfy the C09 invariant (elements duplicate free; on a caching instance every
    cached comparison / descendants / ancestors / children / parents entry equals the `Fresh` value), then so
    does the result of each of the four operators - whatever subset of entries either operand has cached,
    for every combination of cache flags, and for any `leq` (no order axioms are needed for this step). -/
theorem combine_inv (op : SetOp) (same : Bool) (a b r : St α) (ha : Inv leq a) (hb : Inv leq b)
    (h : combine leq op same a b = .ok r) : Inv leq r := by
  obtain ⟨r', hr', hinv⟩ := combine_spec ha.1 ha.2 hb.1 hb.2 op
  rw [(combine_shape h).2.2] at h
  cases hr'.symm.trans h
  exact hinv

/-- FULL.  On operands satisfying the invariant and sharing the comparison the operators return normally
    (no exception) - for all four cache-flag combinations (an uncached second operand has no cache dictionaries;
    they are read as empty). -/
theorem combine_returns (op : SetOp) (a b : St α) (ha : Inv leq a) (hb : Inv leq b) :
    ∃ r, combine leq op true a b = .ok r :=
  (combine_spec ha.1 ha.2 hb.1 hb.2 op).imp fun _ h => h.1

/-- posets with different comparison functions are refused (`AssertionError`), whatever else holds -/
theorem combine_different_leq (op : SetOp) (a b : St α) : combine leq op false a b = .error .AssertionError := rfl

/-- FULL.  Every later history of queries and mutations on the result of an operator - all interleavings of leq,
    descendants, ancestors, children, parents, tops, bottoms, join, meet, index, ==, fill_up_*, add (with and
    without cache filling), del, remove - is answered exactly as by a freshly built cache-free poset over the
    combined elements, regardless of what either operand had cached and of the operands' cache flags.
    (By `combine_inv` and `Fca.C09.history_independent`; `leq` a partial order on the universe `U` of all elements
    ever present, `ord` any set-iteration order, query indexes in range - `opsOk`.) -/
theorem combine_history_independent (henv : Env leq ord U) (op : SetOp) (same : Bool) (a b r : St α)
    (ha : Inv leq a) (hb : Inv leq b) (hUa : ∀ x ∈ a.elems, U x) (hUb : ∀ x ∈ b.elems, U x)
    (h : combine leq op same a b = .ok r)
    (ops : List (Op α)) (hin : OpsIn U ops) (hok : opsOk r.elems r.useCache ops = true) :
    (run leq ord r ops).2 = runFresh leq (combineElems op a.elems b.elems) ops := by
  rw [← (combine_shape h).1]
  exact history_independent henv ops r (combine_inv op same a b r ha hb h) (combine_U h hUa hUb) hin hok

/-- FULL.  Operands with a history: whatever valid histories (queries, `fill_up_*`, `add` with or without cache
    filling, `del`, `remove`, in any order) the two operands went through - starting from any states satisfying the
    invariant, e.g. freshly constructed posets or results of earlier operators - the result of an operator on them
    satisfies the invariant and has the combination of the operands' *current* elements. -/
theorem combine_after_histories (henv : Env leq ord U) (op : SetOp) (same : Bool) (a0 b0 r : St α)
    (opsA opsB : List (Op α)) (ha : Inv leq a0) (hb : Inv leq b0)
    (hUa : ∀ x ∈ a0.elems, U x) (hUb : ∀ x ∈ b0.elems, U x) (hinA : OpsIn U opsA) (hinB : OpsIn U opsB)
    (hokA : opsOk a0.elems a0.useCache opsA = true) (hokB : opsOk b0.elems b0.useCache opsB = true)
    (h : combine leq op same (run leq ord a0 opsA).1 (run leq ord b0 opsB).1 = .ok r) :
    Inv leq r ∧ r.elems = combineElems op (nextAll a0.elems opsA) (nextAll b0.elems opsB) ∧
      (∀ x ∈ r.elems, U x) := by
  obtain ⟨ia, na, ua, _⟩ := run_spec henv.po henv.ord_perm opsA ha.1 hUa ha.2 hinA hokA
  obtain ⟨ib, nb, ub, _⟩ := run_spec henv.po henv.ord_perm opsB hb.1 hUb hb.2 hinB hokB
  rw [← ia.elems] at ua
  rw [← ib.elems] at ub
  exact ⟨combine_inv op same _ _ r (InvB.self na ia) (InvB.self nb ib) h,
    by rw [(combine_shape h).1, ia.elems, ib.elems], combine_U h ua ub⟩

/-- FULL.  Chained operations with anything in between: `(a ⊕₁ b)`, then any valid history on that result, then
    `⊕₂ c` (with `c` after a history of its own): the final result answers every later history as a freshly built
    poset over its elements. -/
theorem combine_chain (henv : Env leq ord U) (op1 op2 : SetOp) (a b c r1 r2 : St α)
    (mid opsC later : List (Op α)) (ha : Inv leq a) (hb : Inv leq b) (hc : Inv leq c)
    (hUa : ∀ x ∈ a.elems, U x) (hUb : ∀ x ∈ b.elems, U x) (hUc : ∀ x ∈ c.elems, U x)
    (h1 : combine leq op1 true a b = .ok r1)
    (hinM : OpsIn U mid) (hokM : opsOk r1.elems r1.useCache mid = true)
    (hinC : OpsIn U opsC) (hokC : opsOk c.elems c.useCache opsC = true)
    (h2 : combine leq op2 true (run leq ord r1 mid).1 (run leq ord c opsC).1 = .ok r2)
    (hinL : OpsIn U later) (hokL : opsOk r2.elems r2.useCache later = true) :
    (run leq ord r2 later).2 = runFresh leq r2.elems later := by
  obtain ⟨hinv, _, hU2⟩ := combine_after_histories henv op2 true r1 c r2 mid opsC (combine_inv op1 true a b r1 ha hb h1)
    hc (combine_U h1 hUa hUb) hUc hinM hinC hokM hokC h2
  exact history_independent henv later r2 hinv hU2 hinL hokL

/-- FULL.  After `r = a ⊕ b` the three posets are independent: any valid histories (queries and mutations) on the
    result and on the two operands - in the model three separate values, so every interleaving of the three
    histories is the same three runs - are each answered as by a freshly built poset over that object's own
    current elements.  (That the real result shares no mutable cache object with its operands is what the harness
    checks on the implementation.) -/
theorem combine_objects_independent (henv : Env leq ord U) (op : SetOp) (a b r : St α)
    (opsR opsA opsB : List (Op α)) (ha : Inv leq a) (hb : Inv leq b)
    (hUa : ∀ x ∈ a.elems, U x) (hUb : ∀ x ∈ b.elems, U x) (h : combine leq op true a b = .ok r)
    (hinR : OpsIn U opsR) (hinA : OpsIn U opsA) (hinB : OpsIn U opsB)
    (hokR : opsOk r.elems r.useCache opsR = true) (hokA : opsOk a.elems a.useCache opsA = true)
    (hokB : opsOk b.elems b.useCache opsB = true) :
    (run leq ord r opsR).2 = runFresh leq (combineElems op a.elems b.elems) opsR ∧
      (run leq ord a opsA).2 = runFresh leq a.elems opsA ∧ (run leq ord b opsB).2 = runFresh leq b.elems opsB :=
  ⟨combine_history_independent henv op true a b r ha hb hUa hUb h opsR hinR hokR,
   history_independent henv opsA a ha hUa hinA hokA, history_independent henv opsB b hb hUb hinB hokB⟩

end

/-! ### non-vacuity: the hypotheses are met by concrete, non-trivial instances -/

private def subLeq (a b : Nat) : Bool := (a &&& b) == a

/-- first operand `[∅, {0}, {0,1}]` completely filled, second operand `[{0,1}, ∅, {1}]` after `descendants(0)`
    and `parents(1)`: both satisfy the invariant (`invCheck` is sound by `Fca.C09.inv_of_check`) -/
private def exA : St Nat := (run subLeq id (init [0, 1, 3] true) [.fillUp .all]).1
private def exB : St Nat := (run subLeq id (init [3, 0, 2] true) [.closed .desc 0, .direct .anc 1]).1

example : invCheck subLeq exA = true ∧ invCheck subLeq exB = true := by
  decide +kernel

private def okAnd (x : Except PyErr (St Nat)) (p : St Nat → Bool) : Bool :=
  match x with
  | .ok r => p r
  | .error _ => false

private def hasSet (c : Cache) (k : Nat) (v : List Nat) : Bool :=
  match alookup k c with
  | some w => setEq w v
  | none => false

/-- the union keeps the closed entries cached in both operands (descendants of `{0,1}`), recomputes its children
    (`{0}` and `{1}`), and its elements, caches and later answers are the `Fresh` ones -/
example : okAnd (combine subLeq .or true exA exB) (fun r =>
    r.elems == [0, 1, 3, 2] && invCheck subLeq r &&
    hasSet r.descC 2 [0, 1, 3] && hasSet r.chilC 2 [1, 3] && hasSet r.parC 0 [1, 3] &&
    (run subLeq id r [.leq 3 2, .extremes .anc, .bound .desc [1, 3], .extremes .desc]).2
      == runFresh subLeq [0, 1, 3, 2] [.leq 3 2, .extremes .anc, .bound .desc [1, 3], .extremes .desc]) = true := by
  decide +kernel

/-- the other three operators on the same operands; a cached first and an uncached second operand -/
example : okAnd (combine subLeq .and true exA exB) (fun r => r.elems == [0, 3] && invCheck subLeq r) = true ∧
    okAnd (combine subLeq .xor true exA exB) (fun r => r.elems == [1, 2] && invCheck subLeq r) = true ∧
    okAnd (combine subLeq .sub true exA exB) (fun r => r.elems == [1] && invCheck subLeq r) = true ∧
    okAnd (combine subLeq .or true exA (init [3, 0, 2] false))
      (fun r => r.elems == [0, 1, 3, 2] && r.useCache && invCheck subLeq r) = true := by
  decide +kernel

end Fca.C10
