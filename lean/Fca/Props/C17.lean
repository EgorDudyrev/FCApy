/-
  Props/C17 — tracing a context through a lattice finds exactly the describing concepts.

  `Trace.traceFormal L intents K useIdx` is the code-shaped model of
  `ConceptLattice.trace_context(K, use_object_indices=useIdx)` (memoised `stored_extension`, FIFO bounded
  by `len(self)` iterations, `stopped_objects`, child filter, sort by support, the two dictionaries).

  Hypothesis `Spec.IsTraceLatticeOf tTrain cs L`: the lattice is ANY list `cs` of genuine concepts of a training
  table (complete or pruned), with its true cover relation within that list (children in any iteration
  order) and `self.top` its greatest element.  The traced context `K` is any well-formed table with the
  same width (same attribute set) — its rows need not occur in the training table — on any backend.
  Supports are arbitrary (they only order the queue).

  Many-valued contexts (`Trace.traceMV`, interval pattern structures — `IntervalPS` / `IntervalNumpyPS`):
  hypothesis `Spec.IsMVTraceLatticeOf KTrain cs L`: the lattice is ANY list `cs` of genuine PATTERN concepts of
  a well-formed interval training context (description = `intention_i(extent)`: per-column interval hull, `None`
  for the empty extent, one entry per column in column order; extent = `extension_i(description)` as a set),
  with its true cover relation and top.  The traced context `K` is any well-formed interval context with as
  many columns (`Spec.IsTracedMVCtx`).  `SetPS` / `AttributePS` columns are NOT covered by the model `traceMV`.
-/
import Fca.Lemmas.Trace
import Fca.Lemmas.TraceMV
import Fca.Lemmas.ExceptEq
namespace Fca.C17
open Fca.Trace

/-- **trace_exact** — every object `g` of the traced context is mapped, under its key, to exactly the set
    of concepts whose intent `g` satisfies (`Spec.describing`). -/
theorem trace_exact (tTrain : Table) (cs : List (List Nat × List Nat)) (L : Lat)
    (hL : Spec.IsTraceLatticeOf tTrain cs L) (hmono : L.isMonotone = false)
    (K : Ctx) (hwf : K.table.WF) (hw : K.table.width = tTrain.width)
    (hnames : K.objNames.length = K.nObjects) (useIdx : Bool) :
    ∃ bottom traced, traceFormal L (cs.map Prod.snd) K useIdx = .ok (bottom, traced) ∧
      ∀ g, g < K.nObjects → ∃ T, traced[g]? = some (Spec.keyOf useIdx K.objNames g, T) ∧
        ∀ i, i ∈ T ↔ i ∈ Spec.describing K.table (cs.map Prod.snd) g :=
  let ⟨b, t, hok, _, ht⟩ := traceFormal_spec hL hmono K hwf hw hnames useIdx
  ⟨b, t, hok, ht.get⟩

/-- **trace_bottom_minimal** — the bottom concepts of `g` are exactly the minimal elements, w.r.t. the
    lattice order (strict inclusion of the training extents), of the set of concepts describing `g`. -/
theorem trace_bottom_minimal (tTrain : Table) (cs : List (List Nat × List Nat)) (L : Lat)
    (hL : Spec.IsTraceLatticeOf tTrain cs L) (hmono : L.isMonotone = false)
    (K : Ctx) (hwf : K.table.WF) (hw : K.table.width = tTrain.width)
    (hnames : K.objNames.length = K.nObjects) (useIdx : Bool) :
    ∃ bottom traced, traceFormal L (cs.map Prod.snd) K useIdx = .ok (bottom, traced) ∧
      ∀ g, g < K.nObjects → ∃ S, bottom[g]? = some (Spec.keyOf useIdx K.objNames g, S) ∧
        ∀ i, i ∈ S ↔ i ∈ Spec.minimalDescribing K.table (cs.map Prod.fst) (cs.map Prod.snd) g :=
  let ⟨b, t, hok, hb, _⟩ := traceFormal_spec hL hmono K hwf hw hnames useIdx
  ⟨b, t, hok, hb.get⟩

/-- **trace_keys** — both dictionaries have exactly one entry per object of the traced context, in object
    order, keyed by object index when `use_object_indices` and by object name otherwise. -/
theorem trace_keys (tTrain : Table) (cs : List (List Nat × List Nat)) (L : Lat)
    (hL : Spec.IsTraceLatticeOf tTrain cs L) (hmono : L.isMonotone = false)
    (K : Ctx) (hwf : K.table.WF) (hw : K.table.width = tTrain.width)
    (hnames : K.objNames.length = K.nObjects) (useIdx : Bool) :
    ∃ bottom traced, traceFormal L (cs.map Prod.snd) K useIdx = .ok (bottom, traced) ∧
      (useIdx = true → bottom.map Prod.fst = (List.range K.nObjects).map Key.idx ∧
        traced.map Prod.fst = (List.range K.nObjects).map Key.idx) ∧
      (useIdx = false → bottom.map Prod.fst = K.objNames.map Key.name ∧
        traced.map Prod.fst = K.objNames.map Key.name) :=
  let ⟨b, t, hok, hb, ht⟩ := traceFormal_spec hL hmono K hwf hw hnames useIdx
  ⟨b, t, hok, hb.keys_by_mode hnames ht⟩

/-- **trace_monotone_refused** — tracing a lattice of monotone concepts raises `NotImplementedError`,
    whatever the context, the key mode and the rest of the lattice. -/
theorem trace_monotone_refused (L : Lat) (hmono : L.isMonotone = true) (useIdx : Bool) :
    (∀ (intents : List (List Nat)) (K : Ctx), traceFormal L intents K useIdx = .error .NotImplementedError) ∧
    (∀ (intents : List (List (Nat × Option (Int × Int)))) (K : MVCtx),
      traceMV L intents K useIdx = .error .NotImplementedError) :=
  ⟨fun _ _ => traceContext_monotone L _ _ _ useIdx hmono, fun _ _ => traceContext_monotone L _ _ _ useIdx hmono⟩

/-- **trace_any_context** — the generic form: the same statements for ANY traced context given as its
    extension function `extOf c = context.extension_i(intent of c)`: order data with true covers over
    duplicate-free extents, and a context in which satisfaction is inherited upward (`Spec.Upward`).
    `Spec.Upward` is a hypothesis HERE; it is discharged for both kinds of contexts the library ships tracing
    for: for `FormalContext`s by `upward_formal` (every list of genuine formal concepts), and for many-valued
    contexts with interval pattern structures by `upward_mv` (every list of genuine pattern concepts, ANY traced
    interval context).  Hence no `_partial` suffix: a further pattern structure with an antitone `intention_i`
    would have to supply exactly `Upward`. -/
theorem trace_any_context (exts : List (List Nat)) (L : Lat) (hO : Spec.IsOrderData exts L)
    (hmono : L.isMonotone = false) (extOf : Nat → List Nat) (nObj : Nat) (names : List String)
    (hnames : names.length = nObj) (hext : ∀ i, ∀ g ∈ extOf i, g < nObj)
    (hup : Spec.Upward exts extOf) (useIdx : Bool) :
    ∃ bottom traced, traceContext L extOf nObj names useIdx = .ok (bottom, traced) ∧
      bottom.map Prod.fst = (List.range nObj).map (Spec.keyOf useIdx names) ∧
      traced.map Prod.fst = (List.range nObj).map (Spec.keyOf useIdx names) ∧
      ∀ g, g < nObj → ∃ S T,
        bottom[g]? = some (Spec.keyOf useIdx names g, S) ∧ traced[g]? = some (Spec.keyOf useIdx names g, T) ∧
        (∀ i, i ∈ T ↔ i < exts.length ∧ g ∈ extOf i) ∧
        (∀ i, i ∈ S ↔ i ∈ Spec.minimalOf exts ((List.range exts.length).filter fun i => (extOf i).contains g)) := by
  have hdesc : ∀ g, g < nObj → ∀ i, i ∈ (List.range exts.length).filter (fun i => (extOf i).contains g) ↔
      i < exts.length ∧ g ∈ extOf i := fun g _ i => by
    rw [List.mem_filter, List.mem_range, List.contains_iff_mem]
  obtain ⟨b, t, hok, hb, ht⟩ := traceContext_spec hO names useIdx hmono hnames hext hup _ hdesc
  refine ⟨b, t, hok, hb.keys, ht.keys, fun g hg => ?_⟩
  obtain ⟨S, hS, hSm⟩ := hb.get g hg
  obtain ⟨T, hT, hTm⟩ := ht.get g hg
  exact ⟨S, T, hS, hT, fun i => (hTm i).trans (hdesc g hg i), hSm⟩

/-- **trace_mv_exact** — many-valued twin of `trace_exact`: for every list of genuine pattern concepts of an
    interval training context (complete or pruned) with its true covers, and every well-formed interval context
    `K` with as many columns (seen or unseen objects), every object `g` of `K` is mapped, under its key, to
    exactly the set of pattern concepts whose description `g` satisfies (`Spec.mvDescribing`: `g` falls into
    every column's interval; `None` is satisfied by nothing). -/
theorem trace_mv_exact (KTrain : MVCtx) (cs : List (List Nat × Spec.MVDesc)) (L : Lat)
    (hL : Spec.IsMVTraceLatticeOf KTrain cs L) (hmono : L.isMonotone = false)
    (K : MVCtx) (hK : Spec.IsTracedMVCtx KTrain K) (useIdx : Bool) :
    ∃ bottom traced, traceMV L (cs.map Prod.snd) K useIdx = .ok (bottom, traced) ∧
      ∀ g, g < K.nObjects → ∃ T, traced[g]? = some (Spec.keyOf useIdx K.objNames g, T) ∧
        ∀ i, i ∈ T ↔ i ∈ Spec.mvDescribing K (cs.map Prod.snd) g :=
  let ⟨b, t, hok, _, ht⟩ := traceMV_spec hL hmono K hK.names useIdx
  ⟨b, t, hok, ht.get⟩

/-- **trace_mv_bottom_minimal** — many-valued twin of `trace_bottom_minimal`: the bottom concepts of `g` are
    exactly the minimal elements, w.r.t. the lattice order (strict inclusion of the training extents), of the
    set of pattern concepts describing `g`. -/
theorem trace_mv_bottom_minimal (KTrain : MVCtx) (cs : List (List Nat × Spec.MVDesc)) (L : Lat)
    (hL : Spec.IsMVTraceLatticeOf KTrain cs L) (hmono : L.isMonotone = false)
    (K : MVCtx) (hK : Spec.IsTracedMVCtx KTrain K) (useIdx : Bool) :
    ∃ bottom traced, traceMV L (cs.map Prod.snd) K useIdx = .ok (bottom, traced) ∧
      ∀ g, g < K.nObjects → ∃ S, bottom[g]? = some (Spec.keyOf useIdx K.objNames g, S) ∧
        ∀ i, i ∈ S ↔ i ∈ Spec.mvMinimalDescribing K (cs.map Prod.fst) (cs.map Prod.snd) g :=
  let ⟨b, t, hok, hb, _⟩ := traceMV_spec hL hmono K hK.names useIdx
  ⟨b, t, hok, hb.get⟩

/-- **trace_mv_keys** — many-valued twin of `trace_keys`: both dictionaries have exactly one entry per object of
    the traced context, in object order, keyed by object index when `use_object_indices` and by object name
    otherwise.  Moreover no lookup behind the result can fail: every entry of every description addresses an
    existing column of the traced context that has a cell for every object (so the model's total lookups never
    fall back to a default where the real code would raise `IndexError`). -/
theorem trace_mv_keys (KTrain : MVCtx) (cs : List (List Nat × Spec.MVDesc)) (L : Lat)
    (hL : Spec.IsMVTraceLatticeOf KTrain cs L) (hmono : L.isMonotone = false)
    (K : MVCtx) (hK : Spec.IsTracedMVCtx KTrain K) (useIdx : Bool) :
    (∃ bottom traced, traceMV L (cs.map Prod.snd) K useIdx = .ok (bottom, traced) ∧
      (useIdx = true → bottom.map Prod.fst = (List.range K.nObjects).map Key.idx ∧
        traced.map Prod.fst = (List.range K.nObjects).map Key.idx) ∧
      (useIdx = false → bottom.map Prod.fst = K.objNames.map Key.name ∧
        traced.map Prod.fst = K.objNames.map Key.name)) ∧
    (∀ i, i < cs.length → ∀ pd ∈ (cs.map Prod.snd).getD i [],
      ∃ col, K.cols[pd.1]? = some col ∧ ∀ g, g < K.nObjects → ∃ cell, col[g]? = some cell) :=
  let ⟨b, t, hok, hb, ht⟩ := traceMV_spec hL hmono K hK.names useIdx
  ⟨⟨b, t, hok, hb.keys_by_mode hK.names ht⟩, fun i hi pd hpd => by
    have hk : pd.1 ∈ ((cs.map Prod.snd).getD i []).map Prod.fst := List.mem_map_of_mem hpd
    rw [mvIntent_keys hL hi, List.mem_range, ← hK.cols] at hk
    exact ⟨K.cols[pd.1], List.getElem?_eq_getElem hk, fun g hg =>
      ⟨_, List.getElem?_eq_getElem (hK.wf _ (List.getElem_mem hk) ▸ hg)⟩⟩⟩

/-! The hypotheses can be met: a pruned lattice of a concrete training table, traced on unseen rows. -/

private def exTrain : Table := ⟨[[true, false, true], [true, true, false], [false, true, true]], 3⟩
/-- a pruned list of concepts of `exTrain`: top, ({0,1},{0}), ({0},{0,2}), bottom -/
private def exCs : List (List Nat × List Nat) :=
  [([0, 1, 2], []), ([0, 1], [0]), ([0], [0, 2]), ([], [0, 1, 2])]
private def exL : Lat := { children := [[1], [2], [3], []], supports := [3, 2, 1, 0], top := 0, isMonotone := false }
private def exK : Ctx :=
  { backend := .bitarray, table := ⟨[[true, true, true], [false, false, false], [true, false, false]], 3⟩,
    objNames := ["x", "y", "z"], attrNames := ["a", "b", "c"] }

example : Spec.IsTraceLatticeOf exTrain exCs exL ∧ exK.table.WF ∧ exK.table.width = exTrain.width ∧
    exK.objNames.length = exK.nObjects ∧
    traceFormal exL (exCs.map Prod.snd) exK false
      = .ok ([(Key.name "x", [3]), (Key.name "y", [0]), (Key.name "z", [1])],
             [(Key.name "x", [0, 1, 2, 3]), (Key.name "y", [0]), (Key.name "z", [0, 1])]) := by
  decide +kernel

/-! Likewise many-valued: a pruned lattice of pattern concepts of a 2-column interval table. -/

/-- training objects: g0 = ([1,2],[0,0]), g1 = ([2,4],[1,1]), g2 = ([5,5],[0,3]) (columns listed) -/
private def exMVTrain : MVCtx :=
  { cols := [[(1, 2), (2, 4), (5, 5)], [(0, 0), (1, 1), (0, 3)]], nObjects := 3, objNames := ["a", "b", "c"] }
/-- a pruned list of its 8 pattern concepts (extents listed in non-ascending order on purpose):
    top {0,1,2}, {1,0}, {0}, bottom {} (description `None` in every column) -/
private def exMVCs : List (List Nat × Spec.MVDesc) :=
  [([0, 1, 2], [(0, some (1, 5)), (1, some (0, 3))]),
   ([1, 0], [(0, some (1, 4)), (1, some (0, 1))]),
   ([0], [(0, some (1, 2)), (1, some (0, 0))]),
   ([], [(0, none), (1, none)])]
private def exMVL : Lat :=
  { children := [[1], [2], [3], []], supports := [3, 2, 1, 0], top := 0, isMonotone := false }
/-- unseen rows: x inside the hull of {0,1} only, y equal to g0, z outside every hull, w inside the top only -/
private def exMVK : MVCtx :=
  { cols := [[(3, 3), (1, 2), (0, 9), (4, 5)], [(0, 1), (0, 0), (0, 0), (2, 2)]], nObjects := 4,
    objNames := ["x", "y", "z", "w"] }

example : Spec.IsMVTraceLatticeOf exMVTrain exMVCs exMVL ∧ exMVL.isMonotone = false ∧
    Spec.IsTracedMVCtx exMVTrain exMVK ∧
    traceMV exMVL (exMVCs.map Prod.snd) exMVK false
      = .ok ([(Key.name "x", [1]), (Key.name "y", [2]), (Key.name "z", []), (Key.name "w", [0])],
             [(Key.name "x", [0, 1]), (Key.name "y", [0, 1, 2]), (Key.name "z", []), (Key.name "w", [0])]) := by
  decide +kernel

end Fca.C17
