/-
  Property C01 — the derivation operators return exactly the prime sets of the incidence relation
  (all three backends, index and name versions, base sets, monotone variants).
-/
import Fca.Model.Context
import Fca.Spec.Galois
import Fca.Lemmas.AllI
import Fca.Lemmas.Names
import Fca.Gen.Equiv
import Fca.Gen.EquivCtx
namespace Fca.C01

def InRange (xs : List Nat) (n : Nat) : Prop := ∀ x ∈ xs, x < n
def BaseInRange (base : Option (List Nat)) (n : Nat) : Prop := ∀ bs, base = some bs → ∀ x ∈ bs, x < n

/-- `extension_i(B, base)` = the objects of the base (default: all objects, in context order)
    that have every attribute of `B`, in the order of the base.  Every backend. -/
theorem extension_i_exact (K : Ctx) (hwf : K.table.WF) (B : List Nat) (base : Option (List Nat))
    (hB : InRange B K.nAttributes) (hbase : BaseInRange base K.nObjects) :
    K.extensionI B base = Spec.ext K.table B (base.getD (List.range K.nObjects)) :=
  K.extensionI_eq hwf B base hB hbase

/-- `intention_i(A, base)` = the attributes of the base (default: all attributes, in context
    order) shared by every object of `A`, in the order of the base.  Every backend. -/
theorem intention_i_exact (K : Ctx) (hwf : K.table.WF) (A : List Nat) (base : Option (List Nat))
    (hA : InRange A K.nObjects) (hbase : BaseInRange base K.nAttributes) :
    K.intentionI A base = Spec.int K.table A (base.getD (List.range K.nAttributes)) :=
  K.intentionI_eq hwf A base hA hbase

/-- monotone extension: objects of the base having at least one attribute of `B`
    (the full attribute set is excluded, as in the property). -/
theorem extension_monotone_i_exact (K : Ctx) (hwf : K.table.WF) (B : List Nat)
    (base : Option (List Nat)) (hB : InRange B K.nAttributes) (hbase : BaseInRange base K.nObjects)
    (hnotfull : B.length ≠ K.nAttributes) :
    K.extensionMonotoneI B base = Spec.extMono K.table B (base.getD (List.range K.nObjects)) := by
  unfold Ctx.extensionMonotoneI Spec.extMono
  rw [if_neg hnotfull]
  rw [anyI_axis1 K.table hwf K.backend base (some B) hbase (OptIdx.valid_some hB)]
  rfl

/-- the excluded case: FCApy's test suite fixes the answer to "the whole base" -/
theorem extension_monotone_i_full (K : Ctx) (B : List Nat) (base : Option (List Nat))
    (hfull : B.length = K.nAttributes) :
    K.extensionMonotoneI B base = base.getD (List.range K.nObjects) := by
  unfold Ctx.extensionMonotoneI
  rw [if_pos hfull]; cases base <;> rfl

/-- monotone intention away from its `len()` shortcut: attributes of the base that no object outside `A` has
    (`A` need not be in range or duplicate-free) -/
theorem intention_monotone_i_of_ne (K : Ctx) (hwf : K.table.WF) (A : List Nat) (base : Option (List Nat))
    (hbase : BaseInRange base K.nAttributes) (hlen : A.length ≠ K.nObjects) :
    K.intentionMonotoneI A base = Spec.intMono K.table A (base.getD (List.range K.nAttributes)) := by
  unfold Ctx.intentionMonotoneI Spec.intMono
  simp only
  have hinv : ∀ i ∈ (List.range K.nObjects).filter (fun g => !(A.contains g)), i < K.table.height :=
    fun i hi => List.mem_range.mp (List.mem_filter.mp hi).1
  rw [if_neg hlen, anyI_axis0 K.table hwf K.backend (some _) base (OptIdx.valid_some hinv) hbase]
  apply List.filter_congr
  intro a (ha : a ∈ base.getD (List.range K.table.width))
  -- `a` is in the base: not hit by an object outside `A` = every object is in `A` or lacks `a`
  simp only [Option.getD_some, List.contains_eq_mem (a := a), List.mem_filter, ha, true_and, Bool.decide_eq_true,
    List.not_any_eq_all_not, List.all_filter, Bool.not_not, Ctx.nObjects]

/-- the `len()` shortcut of the monotone intention: the whole base -/
theorem intention_monotone_i_full (K : Ctx) (A : List Nat) (base : Option (List Nat)) (hfull : A.length = K.nObjects) :
    K.intentionMonotoneI A base = base.getD (List.range K.nAttributes) := by
  unfold Ctx.intentionMonotoneI
  exact if_pos hfull

/-- monotone intention: attributes of the base that no object outside `A` has. -/
theorem intention_monotone_i_exact (K : Ctx) (hwf : K.table.WF) (A : List Nat)
    (base : Option (List Nat)) (hA : InRange A K.nObjects) (hnd : A.Nodup)
    (hbase : BaseInRange base K.nAttributes) :
    K.intentionMonotoneI A base = Spec.intMono K.table A (base.getD (List.range K.nAttributes)) := by
  by_cases hlen : A.length = K.nObjects
  · -- the shortcut is right for a duplicate-free in-range `A`: it then lists every object
    have hall := ListAux.perm_range_of_nodup hnd hA (Nat.le_of_eq hlen.symm)
    rw [intention_monotone_i_full K A base hlen]
    refine (List.filter_eq_self.mpr fun a _ => List.all_eq_true.mpr fun g hg => ?_).symm
    rw [List.contains_iff_mem.mpr (hall.mem_iff.mpr hg), Bool.true_or]
  · exact intention_monotone_i_of_ne K hwf A base hbase hlen

/-- by name, all names known: the result is the name image, in order, of the index result
    computed on the named attributes and the named base. -/
theorem extension_by_name (K : Ctx) (hwf : K.table.WF)
    (hobj : K.objNames.length = K.nObjects) (hattr : K.attrNames.length = K.nAttributes)
    (attrs : List String) (base : Option (List String))
    (hattrs : ∀ a ∈ attrs, a ∈ K.attrNames) (hbs : ∀ bs, base = some bs → ∀ g ∈ bs, g ∈ K.objNames) :
    ∃ ai bi, namesToIdx K.attrNames attrs = .ok ai ∧
      ai.map (fun i => K.attrNames.getD i "") = attrs ∧
      (match base with
        | none => bi = List.range K.nObjects
        | some bs => namesToIdx K.objNames bs = .ok bi ∧ bi.map (fun i => K.objNames.getD i "") = bs) ∧
      K.extension attrs base false
        = .ok ((Spec.ext K.table ai bi).map fun g => K.objNames.getD g "") := by
  obtain ⟨ai, ha⟩ := namesToIdx_ok_of_mem hattrs
  obtain ⟨hai, hamap⟩ := namesToIdx_ok ha
  have haiR : InRange ai K.nAttributes := fun i hi => hattr ▸ hai i hi
  cases base with
  | none =>
    refine ⟨ai, List.range K.nObjects, ha, hamap, rfl, ?_⟩
    simp only [Ctx.extension, ha, bind, Except.bind, pure, Except.pure, Bool.not_false, ↓reduceIte]
    rw [extension_i_exact K hwf ai (some (List.range K.nObjects)) haiR
      (OptIdx.valid_some fun x hx => List.mem_range.mp hx)]
    rfl
  | some bs =>
    obtain ⟨bi, hb⟩ := namesToIdx_ok_of_mem (hbs bs rfl)
    obtain ⟨hbi, hbmap⟩ := namesToIdx_ok hb
    refine ⟨ai, bi, ha, hamap, ⟨hb, hbmap⟩, ?_⟩
    simp only [Ctx.extension, ha, hb, bind, Except.bind, pure, Except.pure, Bool.not_false, ↓reduceIte]
    rw [extension_i_exact K hwf ai (some bi) haiR (OptIdx.valid_some fun i hi => hobj ▸ hbi i hi)]
    rfl

/-- by name, all names known: intention is the name image of the index result. -/
theorem intention_by_name (K : Ctx) (hwf : K.table.WF)
    (hobj : K.objNames.length = K.nObjects)
    (objs : List String) (oi : List Nat) (hoi : namesToIdx K.objNames objs = .ok oi) :
    K.intention objs false
      = .ok ((Spec.int K.table oi (List.range K.nAttributes)).map fun m => K.attrNames.getD m "") := by
  have hlt := (namesToIdx_ok hoi).1
  have hR : InRange oi K.nObjects := by intro i hi; rw [← hobj]; exact hlt i hi
  simp only [Ctx.intention, hoi, bind, Except.bind, pure, Except.pure, Bool.not_false, ↓reduceIte]
  rw [intention_i_exact K hwf oi none hR (by intro bs h; cases h)]
  rfl

/-- an unknown attribute, base-object or object name is rejected with `KeyError`
    (both derivation directions, monotone or not). -/
theorem unknown_name_keyerror (K : Ctx) (mono : Bool) :
    (∀ attrs base, (∃ a ∈ attrs, a ∉ K.attrNames) → K.extension attrs base mono = .error .KeyError) ∧
    (∀ attrs bs, (∀ a ∈ attrs, a ∈ K.attrNames) → (∃ g ∈ bs, g ∉ K.objNames) →
        K.extension attrs (some bs) mono = .error .KeyError) ∧
    (∀ objs, (∃ g ∈ objs, g ∉ K.objNames) → K.intention objs mono = .error .KeyError) := by
  refine ⟨?_, ?_, ?_⟩
  · intro attrs base h
    simp [Ctx.extension, namesToIdx_error h, bind, Except.bind]
  · intro attrs bs hall h
    obtain ⟨ai, ha⟩ := namesToIdx_ok_of_mem hall
    simp [Ctx.extension, ha, namesToIdx_error h, bind, Except.bind]
  · intro objs h
    simp [Ctx.intention, namesToIdx_error h, bind, Except.bind]

/-! ### the selection matters only as a set

  Repetitions and the order of the given indexes are irrelevant for all four prime sets, and hence for
  `extension_i` / `intention_i` on every backend.  (This is what entitles the correspondence check to hand the
  selection over as a set / frozenset / list with repeated indexes and to judge the answer by the prime set of
  the de-duplicated selection.  For the monotone *operators* the statement is false exactly on the `len()`-based
  shortcut — hypotheses `hnotfull` / `Nodup` above — which the check therefore excludes.) -/

theorem spec_ext_sel_as_set (t : Table) (B B' base : List Nat) (h : ∀ x, x ∈ B ↔ x ∈ B') :
    Spec.ext t B base = Spec.ext t B' base :=
  List.filter_congr fun _ _ => ListAux.all_eq_of_mem_iff h _

theorem spec_int_sel_as_set (t : Table) (A A' base : List Nat) (h : ∀ x, x ∈ A ↔ x ∈ A') :
    Spec.int t A base = Spec.int t A' base :=
  List.filter_congr fun _ _ => ListAux.all_eq_of_mem_iff h _

theorem spec_extMono_sel_as_set (t : Table) (B B' base : List Nat) (h : ∀ x, x ∈ B ↔ x ∈ B') :
    Spec.extMono t B base = Spec.extMono t B' base :=
  List.filter_congr fun _ _ => ListAux.any_eq_of_mem_iff h _

theorem spec_intMono_sel_as_set (t : Table) (A A' base : List Nat) (h : ∀ x, x ∈ A ↔ x ∈ A') :
    Spec.intMono t A base = Spec.intMono t A' base := by
  have hc : ∀ g, A.contains g = A'.contains g := fun g => by simp only [List.contains_eq_mem, h g]
  simp only [Spec.intMono, hc]

/-- `extension_i` answers the same for two selections with the same elements (any order, any repetitions). -/
theorem extension_i_sel_as_set (K : Ctx) (hwf : K.table.WF) (B B' : List Nat) (base : Option (List Nat))
    (hB : InRange B K.nAttributes) (hbase : BaseInRange base K.nObjects) (h : ∀ x, x ∈ B ↔ x ∈ B') :
    K.extensionI B base = K.extensionI B' base := by
  have hB' : InRange B' K.nAttributes := fun x hx => hB x ((h x).mpr hx)
  rw [extension_i_exact K hwf B base hB hbase, extension_i_exact K hwf B' base hB' hbase]
  exact spec_ext_sel_as_set _ _ _ _ h

/-- `intention_i` answers the same for two selections with the same elements (any order, any repetitions). -/
theorem intention_i_sel_as_set (K : Ctx) (hwf : K.table.WF) (A A' : List Nat) (base : Option (List Nat))
    (hA : InRange A K.nObjects) (hbase : BaseInRange base K.nAttributes) (h : ∀ x, x ∈ A ↔ x ∈ A') :
    K.intentionI A base = K.intentionI A' base := by
  have hA' : InRange A' K.nObjects := fun x hx => hA x ((h x).mpr hx)
  rw [intention_i_exact K hwf A base hA hbase, intention_i_exact K hwf A' base hA' hbase]
  exact spec_int_sel_as_set _ _ _ _ h

/-- the monotone extension away from its `len()` shortcut: same elements, same answer -/
theorem extension_monotone_i_sel_as_set (K : Ctx) (hwf : K.table.WF) (B B' : List Nat) (base : Option (List Nat))
    (hB : InRange B K.nAttributes) (hbase : BaseInRange base K.nObjects) (h : ∀ x, x ∈ B ↔ x ∈ B')
    (hn : B.length ≠ K.nAttributes) (hn' : B'.length ≠ K.nAttributes) :
    K.extensionMonotoneI B base = K.extensionMonotoneI B' base := by
  have hB' : InRange B' K.nAttributes := fun x hx => hB x ((h x).mpr hx)
  rw [extension_monotone_i_exact K hwf B base hB hbase hn, extension_monotone_i_exact K hwf B' base hB' hbase hn']
  exact spec_extMono_sel_as_set _ _ _ _ h

/-- the `len()` shortcut is the (only) place where a repeated index changes the answer of the monotone extension:
    a concrete witness (two attributes, the selection `[0, 0]` has the length of the attribute set). -/
example : (⟨.lists, ⟨[[true, false], [false, true]], 2⟩, [], []⟩ : Ctx).extensionMonotoneI [0, 0] none = [0, 1]
    ∧ (⟨.lists, ⟨[[true, false], [false, true]], 2⟩, [], []⟩ : Ctx).extensionMonotoneI [0] none = [0] := by
  decide +kernel

private def exK : Ctx :=
  { backend := .bitarray, table := ⟨[[true, false, true], [true, true, false]], 3⟩,
    objNames := ["g0", "g1"], attrNames := ["a", "b", "c"] }

/-- the hypotheses are met by a concrete, non-trivial context -/
example : exK.table.WF ∧ InRange [2, 0] exK.nAttributes ∧ BaseInRange (some [1, 0]) exK.nObjects
    ∧ exK.extensionI [2, 0] (some [1, 0]) = [0] := by
  have hin : ∀ x ∈ [2, 0], x < 3 := by decide +kernel
  have hbase : ∀ x ∈ [1, 0], x < 2 := by decide +kernel
  exact ⟨by decide +kernel, hin, OptIdx.valid_some hbase, by decide +kernel⟩

/-! ### the flag vectors behind the derivation operators, for the definitions GENERATED from the Python source

  `extension_i` / `intention_i` filter a base by the flag vector `all(axis=1 / 0)`; for the lists backend these flag
  vectors are computed by `BinTableLists._all_per_row / _all_per_column / _any_per_row / _any_per_column`.
  `Fca.Gen.Lists.*` is the translation of their Python source (`harness/py2lean.py`), proved equal to the model
  in `Fca/Gen/Equiv.lean`; here: each flag is exactly the quantifier over the incidence relation. -/

section
variable (t : Table) (hwf : t.WF) (rows cols : Option (List Nat))
  (hr : BaseInRange rows t.height) (hc : BaseInRange cols t.width)
include hwf hr hc

/-- object `i` of the selection gets the flag "has every selected attribute" -/
theorem gen_lists_all_per_row_exact : Gen.Lists.allPerRow t rows cols
    = .ok ((rows.getD (List.range t.height)).map fun i => (cols.getD (List.range t.width)).all fun j => t.get i j) := by
  rw [Gen.Lists.allPerRow_eq_model t hwf rows cols hr hc, L.allPerRow_eq t hwf rows cols hr]

/-- attribute `j` of the selection gets the flag "shared by every selected object" -/
theorem gen_lists_all_per_column_exact : Gen.Lists.allPerColumn t rows cols
    = .ok ((cols.getD (List.range t.width)).map fun j => (rows.getD (List.range t.height)).all fun i => t.get i j) := by
  rw [Gen.Lists.allPerColumn_eq_model t hwf rows cols hr hc, L.allPerColumn_eq]

theorem gen_lists_any_per_row_exact : Gen.Lists.anyPerRow t rows cols
    = .ok ((rows.getD (List.range t.height)).map fun i => (cols.getD (List.range t.width)).any fun j => t.get i j) := by
  rw [Gen.Lists.anyPerRow_eq_model t hwf rows cols hr hc, L.anyPerRow_eq t hwf rows cols hr]

theorem gen_lists_any_per_column_exact : Gen.Lists.anyPerColumn t rows cols
    = .ok ((cols.getD (List.range t.width)).map fun j => (rows.getD (List.range t.height)).any fun i => t.get i j) := by
  rw [Gen.Lists.anyPerColumn_eq_model t hwf rows cols hr hc, L.anyPerColumn_eq]

end

/-! `AbstractBinTable.all_i / any_i` as run by a `BinTableLists` (generated from the Python source with `axis`
    specialised to `1` / `0`) return exactly the prime sets, in the order of the base -/

/-- `data.all_i(1, base, B)` — what `extension_i(B, base)` returns for a non-empty `B` — is the extent `B′` within the base -/
theorem gen_lists_all_i_axis1_is_extension (t : Table) (hwf : t.WF) (B : List Nat) (base : Option (List Nat))
    (hB : InRange B t.width) (hbase : BaseInRange base t.height) :
    Gen.Lists.allI1 t base (some B) = .ok (Spec.ext t B (base.getD (List.range t.height))) := by
  have hB' : BaseInRange (some B) t.width := OptIdx.valid_some hB
  rw [Gen.Lists.allI1_eq_model t hwf base (some B) hbase hB']
  exact congrArg Except.ok (allI_axis1 t hwf .lists base (some B) hbase hB')

/-- `data.all_i(0, A, base)` — what `intention_i(A, base)` returns for a non-empty `A` — is the intent `A′` within the base -/
theorem gen_lists_all_i_axis0_is_intention (t : Table) (hwf : t.WF) (A : List Nat) (base : Option (List Nat))
    (hA : InRange A t.height) (hbase : BaseInRange base t.width) :
    Gen.Lists.allI0 t (some A) base = .ok (Spec.int t A (base.getD (List.range t.width))) := by
  have hA' : BaseInRange (some A) t.height := OptIdx.valid_some hA
  rw [Gen.Lists.allI0_eq_model t hwf (some A) base hA' hbase]
  exact congrArg Except.ok (allI_axis0 t hwf .lists (some A) base hA' hbase)

/-- `data.any_i(1, base, B)` — the monotone extension away from its `len()` shortcut -/
theorem gen_lists_any_i_axis1_is_extension_monotone (t : Table) (hwf : t.WF) (B : List Nat) (base : Option (List Nat))
    (hB : InRange B t.width) (hbase : BaseInRange base t.height) :
    Gen.Lists.anyI1 t base (some B) = .ok (Spec.extMono t B (base.getD (List.range t.height))) := by
  have hB' : BaseInRange (some B) t.width := OptIdx.valid_some hB
  rw [Gen.Lists.anyI1_eq_model t hwf base (some B) hbase hB']
  exact congrArg Except.ok (anyI_axis1 t hwf .lists base (some B) hbase hB')

/-- `data.any_i(0, A, base)`: attributes of the base that some object of `A` has (the building block of
    `intention_monotone_i`, which calls it on the complement of its argument) -/
theorem gen_lists_any_i_axis0_exact (t : Table) (hwf : t.WF) (A : List Nat) (base : Option (List Nat))
    (hA : InRange A t.height) (hbase : BaseInRange base t.width) :
    Gen.Lists.anyI0 t (some A) base
      = .ok ((base.getD (List.range t.width)).filter fun c => A.any fun i => t.get i c) := by
  have hA' : BaseInRange (some A) t.height := OptIdx.valid_some hA
  rw [Gen.Lists.anyI0_eq_model t hwf (some A) base hA' hbase]
  exact congrArg Except.ok (anyI_axis0 t hwf .lists (some A) base hA' hbase)

/-- non-vacuity, and the generated definition computes: -/
example : Gen.Lists.allI1 ⟨[[true, false, true], [true, true, false]], 3⟩ (some [1, 0]) (some [2, 0]) = .ok [0] := by rfl

/-! ### the derivation operators of `FormalContext` themselves, for the definitions GENERATED from the Python source

  `Fca.Gen.Lists.ctx*` is the translation of the source of `FormalContext.extension_i / intention_i /
  extension_monotone_i / intention_monotone_i / extension / intention` (and of the properties `data`, `n_objects`,
  `n_attributes` they read) for a context whose table is a `BinTableLists`; `Fca/Gen/EquivCtx.lean` proves them equal to
  the model `Ctx.*`, so the theorems above hold for what the code says.  (Added to the hypotheses: `K.backend = .lists` —
  the other two backends are not in the translated subset — and, in `gen_intention_by_name`, `hattr`.) -/

theorem gen_extension_i_exact (K : Ctx) (hb : K.backend = .lists) (hwf : K.table.WF) (B : List Nat)
    (base : Option (List Nat)) (hB : InRange B K.nAttributes) (hbase : BaseInRange base K.nObjects) :
    Gen.Lists.ctxExtensionI K B base = .ok (Spec.ext K.table B (base.getD (List.range K.nObjects))) := by
  rw [Gen.Lists.ctxExtensionI_eq_model K hb hwf B base hB hbase, extension_i_exact K hwf B base hB hbase]

theorem gen_intention_i_exact (K : Ctx) (hb : K.backend = .lists) (hwf : K.table.WF) (A : List Nat)
    (base : Option (List Nat)) (hA : InRange A K.nObjects) (hbase : BaseInRange base K.nAttributes) :
    Gen.Lists.ctxIntentionI K A base = .ok (Spec.int K.table A (base.getD (List.range K.nAttributes))) := by
  rw [Gen.Lists.ctxIntentionI_eq_model K hb hwf A base hA hbase, intention_i_exact K hwf A base hA hbase]

theorem gen_extension_monotone_i_exact (K : Ctx) (hb : K.backend = .lists) (hwf : K.table.WF) (B : List Nat)
    (base : Option (List Nat)) (hB : InRange B K.nAttributes) (hbase : BaseInRange base K.nObjects)
    (hnotfull : B.length ≠ K.nAttributes) :
    Gen.Lists.ctxExtensionMonotoneI K B base = .ok (Spec.extMono K.table B (base.getD (List.range K.nObjects))) := by
  rw [Gen.Lists.ctxExtensionMonotoneI_eq_model K hb hwf B base hB hbase,
    extension_monotone_i_exact K hwf B base hB hbase hnotfull]

theorem gen_extension_monotone_i_full (K : Ctx) (B : List Nat) (base : Option (List Nat))
    (hfull : B.length = K.nAttributes) :
    Gen.Lists.ctxExtensionMonotoneI K B base = .ok (base.getD (List.range K.nObjects)) := by
  rw [Gen.Lists.ctxExtensionMonotoneI_full_eq_model K B base hfull, extension_monotone_i_full K B base hfull]

theorem gen_intention_monotone_i_exact (K : Ctx) (hb : K.backend = .lists) (hwf : K.table.WF) (A : List Nat)
    (base : Option (List Nat)) (hA : InRange A K.nObjects) (hnd : A.Nodup) (hbase : BaseInRange base K.nAttributes) :
    Gen.Lists.ctxIntentionMonotoneI K A base
      = .ok (Spec.intMono K.table A (base.getD (List.range K.nAttributes))) := by
  rw [Gen.Lists.ctxIntentionMonotoneI_eq_model K hb hwf A base hbase,
    intention_monotone_i_exact K hwf A base hA hnd hbase]

/-- `extension(attributes, base_objects)` by name, all names known (the statement of `extension_by_name`) -/
theorem gen_extension_by_name (K : Ctx) (hb : K.backend = .lists) (hwf : K.table.WF)
    (hobj : K.objNames.length = K.nObjects) (hattr : K.attrNames.length = K.nAttributes)
    (attrs : List String) (base : Option (List String))
    (hattrs : ∀ a ∈ attrs, a ∈ K.attrNames) (hbs : ∀ bs, base = some bs → ∀ g ∈ bs, g ∈ K.objNames) :
    ∃ ai bi, namesToIdx K.attrNames attrs = .ok ai ∧
      ai.map (fun i => K.attrNames.getD i "") = attrs ∧
      (match base with
        | none => bi = List.range K.nObjects
        | some bs => namesToIdx K.objNames bs = .ok bi ∧ bi.map (fun i => K.objNames.getD i "") = bs) ∧
      Gen.Lists.ctxExtension K attrs base false
        = .ok ((Spec.ext K.table ai bi).map fun g => K.objNames.getD g "") := by
  rw [Gen.Lists.ctxExtension_eq_model K hb hwf hobj hattr attrs base false]
  exact extension_by_name K hwf hobj hattr attrs base hattrs hbs

theorem gen_intention_by_name (K : Ctx) (hb : K.backend = .lists) (hwf : K.table.WF)
    (hobj : K.objNames.length = K.nObjects) (hattr : K.attrNames.length = K.nAttributes)
    (objs : List String) (oi : List Nat) (hoi : namesToIdx K.objNames objs = .ok oi) :
    Gen.Lists.ctxIntention K objs false
      = .ok ((Spec.int K.table oi (List.range K.nAttributes)).map fun m => K.attrNames.getD m "") := by
  rw [Gen.Lists.ctxIntention_eq_model K hb hwf hobj hattr objs false]
  exact intention_by_name K hwf hobj objs oi hoi

/-- an unknown attribute / base-object / object name is a `KeyError` of the source-derived definitions as well —
    no hypothesis on the context (the `try … except KeyError: raise KeyError` of the source keeps the class) -/
theorem gen_unknown_name_keyerror (K : Ctx) (mono : Bool) :
    (∀ attrs base, (∃ a ∈ attrs, a ∉ K.attrNames) → Gen.Lists.ctxExtension K attrs base mono = .error .KeyError) ∧
    (∀ attrs bs, (∀ a ∈ attrs, a ∈ K.attrNames) → (∃ g ∈ bs, g ∉ K.objNames) →
        Gen.Lists.ctxExtension K attrs (some bs) mono = .error .KeyError) ∧
    (∀ objs, (∃ g ∈ objs, g ∉ K.objNames) → Gen.Lists.ctxIntention K objs mono = .error .KeyError) := by
  obtain ⟨h1, h2, h3⟩ := unknown_name_keyerror K mono
  exact ⟨fun attrs base h => Gen.Lists.ctxExtension_error_eq_model K attrs base mono _ (h1 attrs base h),
    fun attrs bs ha h => Gen.Lists.ctxExtension_error_eq_model K attrs (some bs) mono _ (h2 attrs bs ha h),
    fun objs h => Gen.Lists.ctxIntention_error_eq_model K objs mono _ (h3 objs h)⟩

/-- non-vacuity, and the generated definitions compute: -/
example : Gen.Lists.ctxExtension ⟨.lists, ⟨[[true, false, true], [true, true, false]], 3⟩, ["g0", "g1"], ["a", "b", "c"]⟩
    ["c", "a"] (some ["g1", "g0"]) false = .ok ["g0"] := by rfl

end Fca.C01
