/-
  Props/C18 — the minimal-generator search returns exactly the minimum-size generators ("minimum generator" is
  `Spec.IsMinGen`, `Fca/Spec/MinGen.lean`), and every index / name argument of the formal and the many-valued
  routine is read as the SET of its members (DESIGN.md's class H7, "length as a stand-in for fullness").
-/
import Fca.Lemmas.MinGen
import Fca.Lemmas.ExceptEq
namespace Fca.C18

/-- **C18, index version.**  For a well-formed table (any backend), ANY `intent`, an in-range
    duplicate-free base generator `bg` and in-range base objects `bo` (`None` = all objects),
    `get_minimal_generators_i(intent, bg, bo)` returns — each exactly once — the strictly ascending
    attribute tuples `S` with `bg ⊆ S`, `cl_bo S = intent` (as sets; extension inside `bo`, intention over
    all attributes) and `|S|` minimum among all such attribute sets; nothing else. -/
theorem min_gens_exact (K : Ctx) (hwf : K.table.WF) (intent bg : List Nat) (bo : Option (List Nat))
    (hbg : C01.InRange bg K.nAttributes) (hbgn : bg.Nodup) (hbo : C01.BaseInRange bo K.nObjects) :
    ∃ R, K.getMinimalGeneratorsI intent (some bg) bo = .ok R ∧ R.Nodup ∧
      ∀ S, S ∈ R ↔ Spec.IsMinGen K.table intent bg (bo.getD (List.range K.nObjects)) S := by
  have hdef : K.getMinimalGeneratorsI intent (some bg) bo
      = K.getMinimalGeneratorsI intent (some bg) (some (bo.getD (List.range K.nObjects))) := by
    cases bo <;> rfl
  have hbo := OptIdx.getD_lt hbo
  rw [hdef]
  refine ⟨_, getMinimalGeneratorsI_some .., nodup_minGenLoop .., fun S => ?_⟩
  rw [minGenLoop_eq]
  exact mem_first_level (isGen_of_mem_lvl K hwf intent hbgn hbg hbo) (mem_lvl_of_isGen K hwf intent hbgn hbo) S

/-- the default `base_objects_i=None` is the list of all objects, in context order -/
theorem min_gens_default_base_objects (K : Ctx) (intent : List Nat) (bg : Option (List Nat)) :
    K.getMinimalGeneratorsI intent bg none
      = K.getMinimalGeneratorsI intent bg (some (List.range K.nObjects)) := rfl

/-- the driver's executable oracle `Spec.minGensSpec` (brute force over all attribute subsets) lists
    exactly the minimum generators, each once — so "implementation = oracle as sets" in the
    correspondence check is the property itself, and the model equals the oracle as a set. -/
theorem min_gens_oracle_exact (K : Ctx) (hwf : K.table.WF) (intent bg : List Nat) (bo : Option (List Nat))
    (hbg : C01.InRange bg K.nAttributes) (hbgn : bg.Nodup) (hbo : C01.BaseInRange bo K.nObjects) :
    (Spec.minGensSpec K.table intent bg (bo.getD (List.range K.nObjects))).Nodup ∧
    (∀ S, S ∈ Spec.minGensSpec K.table intent bg (bo.getD (List.range K.nObjects))
        ↔ Spec.IsMinGen K.table intent bg (bo.getD (List.range K.nObjects)) S) ∧
    ∃ R, K.getMinimalGeneratorsI intent (some bg) bo = .ok R ∧
      ∀ S, S ∈ R ↔ S ∈ Spec.minGensSpec K.table intent bg (bo.getD (List.range K.nObjects)) := by
  obtain ⟨R, hR, _, hmem⟩ := min_gens_exact K hwf intent bg bo hbg hbgn hbo
  exact ⟨nodup_minGensSpec .., fun S => mem_minGensSpec, R, hR, fun S => (hmem S).trans mem_minGensSpec.symm⟩

/-- the default `base_generator=None` is the empty base generator -/
theorem min_gens_default_base_gen (K : Ctx) (intent : List Nat) (bo : Option (List Nat)) :
    K.getMinimalGeneratorsI intent none bo = K.getMinimalGeneratorsI intent (some []) bo := rfl

/-- the result is empty exactly when no attribute set containing `bg` generates `intent` inside `bo`
    (in particular for every `intent` that is not closed, and for every `bg ⊄ intent`). -/
theorem min_gens_empty_iff (K : Ctx) (hwf : K.table.WF) (intent bg : List Nat) (bo : Option (List Nat))
    (hbg : C01.InRange bg K.nAttributes) (hbgn : bg.Nodup) (hbo : C01.BaseInRange bo K.nObjects) :
    K.getMinimalGeneratorsI intent (some bg) bo = .ok [] ↔
      ¬ ∃ S, Spec.IsGen K.table intent bg (bo.getD (List.range K.nObjects)) S := by
  obtain ⟨R, hR, _, hmem⟩ := min_gens_exact K hwf intent bg bo hbg hbgn hbo
  rw [hR]
  constructor
  · intro h
    cases h
    rintro ⟨S, hS⟩
    obtain ⟨S0, hS0, hmin⟩ := ListAux.exists_min_measure List.length hS
    exact absurd ((hmem S0).mpr ⟨hS0, hmin⟩) List.not_mem_nil
  · intro h
    congr 1
    apply List.eq_nil_iff_forall_not_mem.mpr
    intro S hS
    exact h ⟨S, ((hmem S).mp hS).1⟩

/-- a closed intent containing the base generator always has a generator (itself), so the search
    result is non-empty for every in-scope input of the property. -/
theorem min_gens_nonempty_of_closed (K : Ctx) (hwf : K.table.WF) (intent bg : List Nat) (bo : Option (List Nat))
    (hbg : C01.InRange bg K.nAttributes) (hbgn : bg.Nodup) (hbo : C01.BaseInRange bo K.nObjects)
    (hint : intent.Pairwise (· < ·)) (hir : C01.InRange intent K.nAttributes)
    (hsub : ∀ a ∈ bg, a ∈ intent)
    (hclosed : Spec.SameSet (Spec.clBase K.table (bo.getD (List.range K.nObjects)) intent) intent) :
    K.getMinimalGeneratorsI intent (some bg) bo ≠ .ok [] := by
  intro h
  exact (min_gens_empty_iff K hwf intent bg bo hbg hbgn hbo).mp h ⟨intent, hint, hir, hsub, hclosed⟩

/-- **`get_minimal_generators_i` reads its index arguments as sets** (well-formed table, in-range base
    generator and base objects): replacing `intent` / the base objects by ANY list with the same members
    (repetitions — in particular a list of length `n_objects` whose member set is a proper subset —, a
    permutation, an unsorted full range, one entry more or fewer) and the duplicate-free base generator by a
    permutation of it returns the very same list of generators. -/
theorem min_gens_args_as_sets (K : Ctx) (hwf : K.table.WF) (intent intent' bg bg' bo bo' : List Nat)
    (hbg : C01.InRange bg K.nAttributes) (hbgn : bg.Nodup) (hbgn' : bg'.Nodup)
    (hbo : C01.InRange bo K.nObjects)
    (hI : ∀ a, a ∈ intent ↔ a ∈ intent') (hG : ∀ a, a ∈ bg ↔ a ∈ bg') (hO : ∀ g, g ∈ bo ↔ g ∈ bo') :
    K.getMinimalGeneratorsI intent (some bg) (some bo) = K.getMinimalGeneratorsI intent' (some bg') (some bo') := by
  have hattrs : K.attrsToIterate bg' = K.attrsToIterate bg :=
    List.filter_congr fun a _ => by simp only [List.contains_eq_mem, hG a]
  rw [getMinimalGeneratorsI_some, getMinimalGeneratorsI_some, hattrs,
    minGenLoop_congr K intent bg bo intent' bg' bo' (K.attrsToIterate bg) _ (fun c hc => ?_) fun c _ =>
      pySorted_congr (((List.perm_ext_iff_of_nodup hbgn hbgn').mpr hG).append_right c)]
  have hbg' : ∀ a ∈ bg', a < K.nAttributes := fun a ha => hbg a ((hG a).mpr ha)
  have hbo' : ∀ g ∈ bo', g < K.nObjects := fun g hg => hbo g ((hO g).mpr hg)
  rw [Bool.eq_iff_iff, genTest_iff K hwf _ hbg hc hbo, genTest_iff K hwf _ hbg' (hattrs ▸ hc) hbo']
  rw [clBase_congr K.table (bo := bo) (bo' := bo') (X := bg ++ c) (Y := bg' ++ c) hO
    (fun a => by simp only [List.mem_append, hG a])]
  exact ⟨fun H x => (H x).trans (hI x), fun H x => (H x).trans (hI x).symm⟩

/-- **C18, name version agrees with the index version.**  With pairwise distinct names, calling
    `get_minimal_generators` with the *names* of in-range index lists `I` (intent), `G` (base generator,
    duplicate-free) and `O` (base objects, or `None` = all objects) returns exactly the name images of what
    `get_minimal_generators_i` returns on `I`, `G`, `O` (same tuples, same order inside the tuples). -/
theorem min_gens_names_agree (K : Ctx) (hwf : K.table.WF)
    (hattr : K.attrNames.length = K.nAttributes) (hobj : K.objNames.length = K.nObjects)
    (hand : K.attrNames.Nodup) (hond : K.objNames.Nodup)
    (I G : List Nat) (O : Option (List Nat))
    (hI : C01.InRange I K.nAttributes) (hG : C01.InRange G K.nAttributes) (hGn : G.Nodup)
    (hO : C01.BaseInRange O K.nObjects) :
    K.getMinimalGenerators (I.map fun i => K.attrNames.getD i "")
        (some (G.map fun i => K.attrNames.getD i ""))
        (O.map fun os => os.map fun g => K.objNames.getD g "")
      = match K.getMinimalGeneratorsI I (some G) (some (O.getD (List.range K.nObjects))) with
        | .error e => .error e
        | .ok gens => .ok (gens.map fun mg => mg.map fun m => K.attrNames.getD m "") := by
  unfold Ctx.getMinimalGenerators
  simp only
  rw [idxOfNamesIn_map K.attrNames hand I (hattr ▸ hI), idxOfNamesIn_map K.attrNames hand G (hattr ▸ hG), hattr,
    ← min_gens_args_as_sets K hwf _ I _ G _ (O.getD (List.range K.nObjects)) (fun _ h => (Dual.mem_canon.mp h).1)
      (List.nodup_range.filter _) hGn (fun _ h => (Dual.mem_canon.mp h).1) (Dual.mem_canon_of_lt hI)
      (Dual.mem_canon_of_lt hG) (Dual.mem_canon_of_lt (OptIdx.getD_lt hO))]
  -- the base objects the by-name call arrives at are the ascending duplicate-free version of `O` (or of all objects)
  cases O with
  | none =>
    simp only [Option.map_none, Option.getD_none, canon_range]
    rfl  -- the `match` of the statement and that of the model are two copies of one function
  | some os =>
    simp only [Option.map_some, Option.getD_some]
    rw [idxOfNamesIn_map K.objNames hond os (hobj ▸ hO os rfl), hobj]
    rfl

/-- `base_generator=None` by name is the empty base generator -/
theorem min_gens_names_default_base_gen (K : Ctx) (intent : List String) (bo : Option (List String)) :
    K.getMinimalGenerators intent none bo = K.getMinimalGenerators intent (some []) bo := rfl

/-- names that are not attribute / object names of the context are silently ignored by the by-name
    entry point (membership-test translation) -/
theorem min_gens_names_unknown_ignored (K : Ctx) (intent bg : List String) (bo : Option (List String))
    (x : String) (hx : x ∉ K.attrNames) :
    K.getMinimalGenerators (x :: intent) (some (x :: bg)) bo = K.getMinimalGenerators intent (some bg) bo := by
  have key : ∀ sel : List String, Ctx.idxOfNamesIn K.attrNames (x :: sel) = Ctx.idxOfNamesIn K.attrNames sel :=
    fun sel => idxOfNamesIn_congr K.attrNames fun y hy =>
      ⟨fun h => (List.mem_cons.mp h).resolve_left fun e => hx (e ▸ hy), List.mem_cons_of_mem x⟩
  unfold Ctx.getMinimalGenerators
  simp only [key]

/-- the modelled `MVContext.extension_i` is the conjunctive filter of the base objects -/
theorem mv_extension_i_conjunctive (cols : List MGMV.Col) (n : Nat) (descr : MGMV.DescrD) (base : Option (List Nat)) :
    MGMV.extensionI cols n descr base = MGMV.extSpec cols descr (base.getD (List.range n)) := by
  cases base with
  | none => simp only [MGMV.extensionI, Option.getD_none, MGMV.extLoop_eq]
  | some b =>
    simp only [MGMV.extensionI, Option.getD_some]
    split
    · rename_i h0
      rw [List.eq_nil_of_length_eq_zero h0]
      rfl
    · exact MGMV.extLoop_eq _ _ _

/-- **C18, many-valued (interval) contexts — partial correctness.**  Whenever the modelled
    `MVContext.get_minimal_generators` returns (i.e. its `while` loop ends within the given fuel and no
    assertion fires), every returned generator `d` has, inside the base objects `bo` (default: all objects),
    the same extension as the intent — both for the library's own `extension_i` and for the plain
    conjunctive-filter reading of it.  For EVERY `ps_to_iterate` (`psIter`: any list of pattern-structure
    indexes — permuted, with repetitions, a proper subset; `none` = all) and every base object list (any
    order, repetitions allowed).  Termination is NOT claimed: the loop has no exit when the extension
    of the intent is not contained in `bo`, when `bo` is not listed in ascending order, or when the pattern
    structures of `psIter` do not suffice. -/
theorem mv_gens_same_extension (cols : List MGMV.Col) (n : Nat) (intent : List MGMV.Descr)
    (baseGen : List MGMV.PGen) (baseObjs : Option (List Nat)) (psIter : Option (List Nat)) (fuel : Nat)
    (R : List MGMV.DescrD) (hbo : C01.BaseInRange baseObjs n)
    (h : MGMV.getMinimalGeneratorsPs cols n intent baseGen baseObjs psIter fuel = .ok R) :
    ∀ d ∈ R,
      MGMV.extensionI cols n d (some (baseObjs.getD (List.range n)))
        = MGMV.extensionI cols n (MGMV.intentD intent) (some (baseObjs.getD (List.range n)))
      ∧ MGMV.sameExtension cols intent (baseObjs.getD (List.range n)) d = true := by
  intro d hd
  unfold MGMV.getMinimalGeneratorsPs at h
  simp only at h
  split at h
  · cases h
  have hgood := MGMV.whileLoop_good _ _ _ _ _ _ _ _ _ _ _ h (by intro d hd; cases hd) d hd
  have hbor := OptIdx.getD_lt hbo
  generalize baseObjs.getD (List.range n) = bo at *
  rw [mv_extension_i_conjunctive, mv_extension_i_conjunctive] at hgood
  change MGMV.extSpec cols d bo = MGMV.extSpec cols (MGMV.intentD intent) (List.range n) at hgood
  -- a base object is an object of the context, so the two sides of `hgood` decide what it satisfies
  have key : MGMV.extSpec cols d bo = MGMV.extSpec cols (MGMV.intentD intent) bo :=
    List.filter_congr fun g hg => MGMV.eq_of_filter_eq hgood hg (List.mem_range.mpr (hbor g hg))
  refine ⟨?_, ?_⟩
  · rw [mv_extension_i_conjunctive, mv_extension_i_conjunctive]; exact key
  · unfold MGMV.sameExtension; rw [key]; exact beq_self_eq_true _

/-- **the specification reads `intent`, the base generator and the base objects as sets**: being a minimum
    generator does not change when any of the three lists is replaced by a list with the same members
    (repeated entries, another order, another length). -/
theorem is_min_gen_args_as_sets (t : Table) (intent intent' bg bg' bo bo' S : List Nat)
    (hI : ∀ a, a ∈ intent ↔ a ∈ intent') (hG : ∀ a, a ∈ bg ↔ a ∈ bg') (hO : ∀ g, g ∈ bo ↔ g ∈ bo') :
    Spec.IsMinGen t intent bg bo S ↔ Spec.IsMinGen t intent' bg' bo' S := by
  have key : ∀ S, Spec.IsGen t intent bg bo S ↔ Spec.IsGen t intent' bg' bo' S := by
    intro S
    unfold Spec.IsGen
    rw [clBase_congr t (bo := bo) (bo' := bo') (X := S) (Y := S) hO (fun _ => Iff.rfl)]
    constructor
    · rintro ⟨h1, h2, h3, h4⟩
      exact ⟨h1, h2, fun a ha => h3 a ((hG a).mpr ha), fun x => (h4 x).trans (hI x)⟩
    · rintro ⟨h1, h2, h3, h4⟩
      exact ⟨h1, h2, fun a ha => h3 a ((hG a).mp ha), fun x => (h4 x).trans (hI x).symm⟩
  unfold Spec.IsMinGen
  rw [key S]
  exact and_congr_right fun _ => forall_congr' fun S' => by rw [key S']

/-- only a base list that CONTAINS every object may stand for "no base objects given": then (and whatever its
    length, order and repetitions) the answer is the one of `base_objects_i=None`.  (A list of length
    `n_objects` with a repeated entry is not such a list — see the example below.) -/
theorem min_gens_full_base_objects (K : Ctx) (hwf : K.table.WF) (intent bg bo : List Nat)
    (hbg : C01.InRange bg K.nAttributes) (hbgn : bg.Nodup) (hbo : C01.InRange bo K.nObjects)
    (hfull : ∀ g, g < K.nObjects → g ∈ bo) :
    K.getMinimalGeneratorsI intent (some bg) (some bo) = K.getMinimalGeneratorsI intent (some bg) none := by
  rw [min_gens_default_base_objects]
  exact min_gens_args_as_sets K hwf intent intent bg bg bo _ hbg hbgn hbgn hbo (fun _ => Iff.rfl)
    (fun _ => Iff.rfl) (fun g => ⟨fun h => List.mem_range.mpr (hbo g h), fun h => hfull g (List.mem_range.mp h)⟩)

/-- **the by-name entry point reads its name arguments as sets** — unconditionally (any table, any names,
    duplicated or unknown names included): the translation is by membership tests. -/
theorem min_gens_names_args_as_sets (K : Ctx) (intent intent' bg bg' bo bo' : List String)
    (hI : ∀ x, x ∈ intent ↔ x ∈ intent') (hG : ∀ x, x ∈ bg ↔ x ∈ bg') (hO : ∀ x, x ∈ bo ↔ x ∈ bo') :
    K.getMinimalGenerators intent (some bg) (some bo) = K.getMinimalGenerators intent' (some bg') (some bo')
    ∧ K.getMinimalGenerators intent (some bg) none = K.getMinimalGenerators intent' (some bg') none := by
  unfold Ctx.getMinimalGenerators
  simp only
  rw [idxOfNamesIn_congr K.attrNames fun x _ => hI x, idxOfNamesIn_congr K.attrNames fun x _ => hG x,
    idxOfNamesIn_congr K.objNames fun x _ => hO x]
  exact ⟨rfl, rfl⟩

/-- **the many-valued acceptance test reads the base objects as a set**: "generator `d` has the same
    extension as the intent inside the base objects" means that `d` and the intent agree on every base
    object, so the verdict is the same for every list with the same members. -/
theorem mv_same_extension_as_set (cols : List MGMV.Col) (intent : List MGMV.Descr) (bo bo' : List Nat)
    (d : MGMV.DescrD) (h : ∀ g, g ∈ bo ↔ g ∈ bo') :
    (MGMV.sameExtension cols intent bo d = true ↔
      ∀ g ∈ bo, MGMV.covers cols d g = MGMV.covers cols (MGMV.intentD intent) g)
    ∧ MGMV.sameExtension cols intent bo d = MGMV.sameExtension cols intent bo' d := by
  have key : ∀ bo, MGMV.sameExtension cols intent bo d = true ↔
      ∀ g ∈ bo, MGMV.covers cols d g = MGMV.covers cols (MGMV.intentD intent) g := fun bo =>
    beq_iff_eq.trans ⟨fun h _ hg => MGMV.eq_of_filter_eq h hg hg, List.filter_congr⟩
  refine ⟨key bo, ?_⟩
  rw [Bool.eq_iff_iff, key, key]
  exact ⟨fun H g hg => H g ((h g).mpr hg), fun H g hg => H g ((h g).mp hg)⟩

/-- **many-valued search, base objects as a set.**  If the search ran on the list `run` (what the routine
    makes of the caller's base objects: the list itself on the numpy branch, an iteration order of
    `frozenset(bo)` on the branch without numpy, the ascending duplicate-free index list on the by-name
    path) and `run` has the members of the caller's `bo`, then every returned generator has the same extension
    as the intent inside the caller's base object SET — whatever repetitions, order or length `bo` has. -/
theorem mv_gens_same_extension_as_set (cols : List MGMV.Col) (n : Nat) (intent : List MGMV.Descr)
    (baseGen : List MGMV.PGen) (bo run : List Nat) (psIter : Option (List Nat)) (fuel : Nat)
    (R : List MGMV.DescrD) (hrun : C01.InRange run n) (hmem : ∀ g, g ∈ run ↔ g ∈ bo)
    (h : MGMV.getMinimalGeneratorsPs cols n intent baseGen (some run) psIter fuel = .ok R) :
    ∀ d ∈ R, MGMV.sameExtension cols intent bo d = true := by
  intro d hd
  have h1 := (mv_gens_same_extension cols n intent baseGen (some run) psIter fuel R
    (by intro bs hbs; cases hbs; exact hrun) h d hd).2
  rw [← (mv_same_extension_as_set cols intent run bo d hmem).2]
  exact h1

/-- an iteration order of `frozenset(bo)` (branch without numpy) has the members of `bo` -/
theorem mv_gens_same_extension_frozenset (cols : List MGMV.Col) (n : Nat) (intent : List MGMV.Descr)
    (baseGen : List MGMV.PGen) (bo ord : List Nat) (psIter : Option (List Nat)) (fuel : Nat)
    (R : List MGMV.DescrD) (hbo : C01.InRange bo n) (hord : MGMV.IsFrozensetOrder bo ord)
    (h : MGMV.getMinimalGeneratorsPs cols n intent baseGen (some ord) psIter fuel = .ok R) :
    ∀ d ∈ R, MGMV.sameExtension cols intent bo d = true :=
  mv_gens_same_extension_as_set cols n intent baseGen bo ord psIter fuel R
    (fun g hg => hbo g ((hord.2 g).mp hg)) hord.2 h

/-! ### non-vacuity: the hypotheses are met by a concrete, non-trivial context -/

private def exK : Ctx :=
  { backend := .bitarray, table := ⟨[[true, false, true], [true, true, false], [false, true, true]], 3⟩,
    objNames := ["g0", "g1", "g2"], attrNames := ["a", "b", "c"] }

example : exK.table.WF ∧ C01.InRange [1] exK.nAttributes ∧ [1].Nodup ∧ C01.InRange [2, 1] exK.nObjects
    ∧ exK.getMinimalGeneratorsI [0, 1] (some [1]) (some [0, 1, 2]) = .ok [[0, 1]]
    ∧ exK.getMinimalGeneratorsI [1] none (some [2, 1]) = .ok [[]]
    ∧ exK.getMinimalGeneratorsI [0, 1] (some [1]) none = .ok [[0, 1]]
    ∧ exK.getMinimalGeneratorsI [0, 1, 2] none (some [0, 1, 2]) = .ok [[0, 1, 2]]
    ∧ exK.getMinimalGeneratorsI [0, 2] (some [1]) (some [0, 1, 2]) = .ok []
    ∧ exK.getMinimalGenerators ["b", "a", "zz"] (some ["b"]) none = .ok [["a", "b"]] := by
  unfold C01.InRange
  decide +kernel

example : exK.attrNames.length = exK.nAttributes ∧ exK.objNames.length = exK.nObjects
    ∧ exK.attrNames.Nodup ∧ exK.objNames.Nodup := by decide +kernel

/-- a 3-object interval column `[1, 2, 3]`; intent = `[2, 3]` (extension `{1, 2}`); the search returns
    the projection-1 generator `[2, +inf)` -/
example : MGMV.getMinimalGenerators [[(1, 1), (2, 2), (3, 3)]] 3 [.iv (.fin 2) (.fin 3)] [] (some [0, 1, 2]) 3
    = .ok [[(0, .iv (.fin 2) .pinf)]] ∧ C01.BaseInRange (some [0, 1, 2]) 3 := by
  refine ⟨MGMV.mvIs_eq (by decide +kernel), ?_⟩
  intro bs h; cases h; decide

/-- non-termination witness of the model: base objects that miss an object of the intent's extension
    exhaust any fuel (here 5 rounds) -/
example : MGMV.getMinimalGenerators [[(1, 1), (2, 2), (3, 3)]] 3 [.iv (.fin 2) (.fin 3)] [] (some [0, 1]) 5
    = .error .OutOfFuel := MGMV.mvIs_eq (by decide +kernel)

/-- H7 non-vacuity: in the 3-object context `exK` the base list `[2, 2, 1]` has length `n_objects` but denotes
    `{1, 2}`; it is answered like `[1, 2]` (and like `[2, 1]`, `[1, 2, 2, 1]`) and NOT like `None` / `[0, 1, 2]`;
    a permuted / repeated intent and a permuted base generator change nothing. -/
example : [2, 2, 1].length = exK.nObjects
    ∧ exK.getMinimalGeneratorsI [1] (some []) (some [2, 2, 1]) = .ok [[]]
    ∧ exK.getMinimalGeneratorsI [1] (some []) (some [1, 2]) = .ok [[]]
    ∧ exK.getMinimalGeneratorsI [1] (some []) (some [1, 2, 2, 1]) = .ok [[]]
    ∧ exK.getMinimalGeneratorsI [1] (some []) none = .ok [[1]]
    ∧ exK.getMinimalGeneratorsI [1] (some []) (some [2, 0, 1]) = .ok [[1]]
    ∧ exK.getMinimalGeneratorsI [1, 0, 1] (some [1, 0]) (some [1, 1, 1]) = .ok [[0, 1]]
    ∧ exK.getMinimalGeneratorsI [0, 1] (some [0, 1]) (some [1]) = .ok [[0, 1]]
    ∧ exK.getMinimalGenerators ["b", "b", "b"] (some []) (some ["g2", "g2", "g1"]) = .ok [[]]
    ∧ exK.getMinimalGenerators ["b"] (some []) (some ["g1", "g2"]) = .ok [[]]
    ∧ exK.getMinimalGenerators ["b"] (some []) none = .ok [["b"]] := by
  decide +kernel

/-- H7 non-vacuity (many-valued): 3 objects `1, 2, 3`, intent `[2, 3]` (extension `{1, 2}`); the base list
    `[0, 1, 2, 0]` (one longer than the context, object 0 repeated) and `ps_to_iterate = [0, 0]` are answered;
    a base list that lists the extension out of order (`[2, 1]`) exhausts any fuel (the real loop does not end);
    a pattern-structure index outside the intent raises `KeyError`. -/
example : MGMV.getMinimalGeneratorsPs [[(1, 1), (2, 2), (3, 3)]] 3 [.iv (.fin 2) (.fin 3)] [] (some [0, 1, 2, 0])
      (some [0, 0]) 3 = .ok [[(0, .iv (.fin 2) .pinf)]]
    ∧ MGMV.getMinimalGeneratorsPs [[(1, 1), (2, 2), (3, 3)]] 3 [.iv (.fin 2) (.fin 3)] [] (some [2, 1]) none 4
      = .error .OutOfFuel
    ∧ MGMV.getMinimalGeneratorsPs [[(1, 1), (2, 2), (3, 3)]] 3 [.iv (.fin 2) (.fin 3)] [] none (some [1]) 4
      = .error .KeyError
    ∧ MGMV.IsFrozensetOrder [2, 1, 1, 2] [1, 2]
    ∧ MGMV.sameExtension [[(1, 1), (2, 2), (3, 3)]] [.iv (.fin 2) (.fin 3)] [2, 1, 1, 2] [(0, .iv (.fin 2) .pinf)] = true
    ∧ MGMV.sameExtension [[(1, 1), (2, 2), (3, 3)]] [.iv (.fin 2) (.fin 3)] [0, 0, 1] [(0, .iv .ninf (.fin 3))] = false := by
  refine ⟨MGMV.mvIs_eq (by decide +kernel), MGMV.mvIs_eq (by decide +kernel), MGMV.mvIs_eq (by decide +kernel),
    ⟨by decide, ?_⟩, by decide +kernel, by decide +kernel⟩
  intro g; simp only [List.mem_cons, List.not_mem_nil, or_false]; omega

end Fca.C18
