/-
  Fca.Model.CbO — the Close-by-One miners of `fcapy/algorithms/concept_construction.py`
  (`close_by_one_objectwise_fbarray`, `close_by_one_objectwise`, `close_by_one`) and
  `FormalConcept.from_objects`, written the way the Python is written.

  The `while combinations_to_check:` loop is a worklist machine.  The deque is a `List` whose
  head is the deque's right end (`pop()` takes the head, `extend(xs)` puts `xs.reverse` in front).
  The two local closures of the Python (`intention_ba` / `extension_iter`, resp. the context's
  `intention_i` / `extension_i(…, base_objects_i=…)`) are the two function parameters of the machine.
-/
import Fca.Model.Context
namespace Fca

/-- What a `FormalConcept` carries: index and name views of extent and intent. -/
structure ConceptRec where
  extentI : List Nat
  extent  : List String
  intentI : List Nat
  intent  : List String
  deriving DecidableEq, Repr, Inhabited

/-- `BinTable.T` : the transposed table (`width` of the result = old height). -/
def Table.transposeT (t : Table) : Table :=
  ⟨(List.range t.width).map fun a => (List.range t.height).map fun g => t.get g a, t.height⟩

namespace Ctx

/-- `FormalContext.T` -/
def T (K : Ctx) : Ctx := ⟨K.backend, K.table.transposeT, K.attrNames, K.objNames⟩

/-- `FormalContext.n_bin_attrs` (`self.data.width`) -/
def nBinAttrs (K : Ctx) : Nat := K.table.width

/-- `FormalConcept.from_objects(objects_i, K, is_extent)` for index input:
    `intent_i = K.intention_i(objects_i)`; the objects are re-closed unless `is_extent`. -/
def fromObjects (K : Ctx) (objs : List Nat) (isExtent : Bool) : ConceptRec :=
  let intentI := K.intentionI objs none
  let intent := intentI.map fun m => K.attrNames.getD m ""
  let objsI := if !isExtent then K.extensionI intentI none else objs
  ⟨objsI, objsI.map fun g => K.objNames.getD g "", intentI, intent⟩

end Ctx

/-! ## the worklist machine -/

/-- which of the two object-wise loops -/
inductive CboVariant where
  | fbarray     -- `close_by_one_objectwise_fbarray`: `intents_found` checked first, filled on emission
  | objectwise  -- `close_by_one_objectwise`: `extents_i_found` checked after the completion, never filled
  deriving DecidableEq, Repr

/-- loop state.  `out` holds `(comb_i, extent_i)` of every emission, newest first. -/
structure CboSt (ι : Type) where
  stack        : List (List Nat)
  intentsFound : List ι
  extentsFound : List (List Nat)
  out          : List (List Nat × List Nat)

/-- `comb_i[-1]` (`none` for the empty tuple) -/
def combLast (comb : List Nat) : Option Nat := comb.getLast?

/-- one iteration of the `while` body for the popped combination `comb` (`s.stack` is already popped). -/
def cboStep {ι : Type} [BEq ι] (v : CboVariant) (n : Nat) (intention : List Nat → ι)
    (extIter : ι → List Nat → List Nat) (comb : List Nat) (s : CboSt ι) : CboSt ι :=
  let intent := intention comb
  -- `if intent_ba in intents_found: continue`
  if v == .fbarray && s.intentsFound.contains intent then s else
  -- canonicity: an object below `comb_i[-1]`, not in the combination, has the intent
  let lex := match combLast comb with
    | none => false
    | some l => !(extIter intent ((List.range l).filter fun g => !comb.contains g)).isEmpty
  if lex then s else
  let lo := match combLast comb with
    | none => 0
    | some l => l + 1
  let base := (List.range' lo (n - lo)).filter fun g => !comb.contains g
  let extent := comb ++ extIter intent base
  -- `if extent_i in extents_i_found: continue`
  if v == .objectwise && s.extentsFound.contains extent then s else
  let lo2 := match combLast comb with
    | none => 0
    | some l => l
  -- `range(n_objs - 1, lo2 - 1, -1)` filtered, each appended to the extent
  let newCombs := ((List.range' lo2 (n - lo2)).reverse.filter fun g => !extent.contains g).map
    fun g => extent ++ [g]
  { stack := newCombs.reverse ++ s.stack
    intentsFound := if v == .fbarray then intent :: s.intentsFound else s.intentsFound
    extentsFound := s.extentsFound
    out := (comb, extent) :: s.out }

/-- the `while` loop with fuel -/
def cboLoop {ι : Type} [BEq ι] (v : CboVariant) (n : Nat) (intention : List Nat → ι)
    (extIter : ι → List Nat → List Nat) : Nat → CboSt ι → Except PyErr (List (List Nat × List Nat))
  | 0, _ => .error .OutOfFuel
  | f + 1, s =>
    match s.stack with
    | [] => .ok s.out.reverse
    | comb :: rest => cboLoop v n intention extIter f (cboStep v n intention extIter comb { s with stack := rest })

/-- `combinations_to_check = deque([tuple()])`, empty found-sets -/
def cboInit (ι : Type) : CboSt ι := ⟨[[]], [], [], []⟩

/-- a sufficient fuel for `n` objects (the measure in `Lemmas/CbOMachine`, `CbOM.run` in `Lemmas/CbONodup`) -/
def cboFuel (n : Nat) : Nat := (n + 1) ^ (n + 1) + 1

/-! ## `close_by_one_objectwise_fbarray` -/

/-- `intention_ba`: `intent = all_attrs; for g in objs: intent &= objs_descriptions[g]` -/
def intentionBa (t : Table) (objs : List Nat) : List Bool :=
  objs.foldl (fun intent g => B.band intent (t.row g)) (List.replicate t.width true)

/-- `extension_iter`: the `base_objects` whose description contains the intent
    (`intent_ba & objs_descriptions[g_i] == intent_ba`) -/
def extensionIter (t : Table) (intentBa : List Bool) (base : List Nat) : List Nat :=
  base.filter fun g => B.band intentBa (t.row g) == intentBa

/-- the emission trace `(comb_i, extent_i)` of `close_by_one_objectwise_fbarray` -/
def cboFbarrayTrace (K : Ctx) (fuel : Nat) : Except PyErr (List (List Nat × List Nat)) :=
  cboLoop .fbarray K.nObjects (intentionBa K.table) (extensionIter K.table) fuel (cboInit _)

/-- `close_by_one_objectwise_fbarray(context)` as a list (each emission goes through `from_objects`) -/
def cboFbarray (K : Ctx) (fuel : Nat) : Except PyErr (List ConceptRec) :=
  match cboFbarrayTrace K fuel with
  | .error e => .error e
  | .ok tr => .ok (tr.map fun p => K.fromObjects p.2 false)

/-! ## `close_by_one_objectwise` -/

def cboObjectwiseTrace (K : Ctx) (fuel : Nat) : Except PyErr (List (List Nat × List Nat)) :=
  cboLoop .objectwise K.nObjects (fun comb => K.intentionI comb none)
    (fun intent base => K.extensionI intent (some base)) fuel (cboInit _)

/-- `close_by_one_objectwise(context)` (emissions `from_objects(extent_i, context, is_extent=True)`) -/
def cboObjectwise (K : Ctx) (fuel : Nat) : Except PyErr (List ConceptRec) :=
  match cboObjectwiseTrace K fuel with
  | .error e => .error e
  | .ok tr => .ok (tr.map fun p => K.fromObjects p.2 true)

/-! ## `close_by_one` (formal contexts) -/

/-- shape dispatch: wide tables directly, the others on the transposed context, rebuilding each
    concept from the transposed concept's intent (= an extent of the original context). -/
def closeByOne (K : Ctx) (fuel : Nat) : Except PyErr (List ConceptRec) :=
  if K.nObjects < K.nBinAttrs then cboFbarray K fuel
  else
    match cboFbarray K.T fuel with
    | .error e => .error e
    | .ok cs => .ok (cs.map fun c => K.fromObjects c.intentI true)

/-- the fuel `close_by_one` needs: the machine runs over the objects of the table it is given -/
def closeByOneFuel (K : Ctx) : Nat :=
  if K.nObjects < K.nBinAttrs then cboFuel K.nObjects else cboFuel K.nBinAttrs

end Fca
