/-
  Fca.Model.LatticeQuery — the order queries of a `ConceptLattice`, written the way the Python is
  written (`fcapy/poset/poset.py`, `fcapy/poset/lattice.py`, `fcapy/lattice/concept_lattice.py`,
  `fcapy/lattice/formal_concept.py`).

  * `PQ.*`  : the *uncached* `POSet` queries, generic in the comparison `leq : Nat → Nat → Bool` on the
              element indexes `0 … n-1` (`_descendants_nocache`, `_ancestors_nocache`, `_children_nocache`,
              `_parents_nocache`, `join`, `meet`, `tops`, `bottoms`, `Lattice.top/bottom`).
  * `LQ.*`  : the instantiation with the concept order (`FormalConcept.__le__`: support shortcut, then the
              membership loop), `sort_concepts`, `_get_chains`, `get_concept_new_extent(_i)`,
              `get_concept_new_intent(_i)`.
  * `LC.*`  : what `POSet.__init__` does with a `children_dict` (Lindig path): `_transpose_hierarchy`,
              `_closed_relation_cache_by_direct_cache`, and `from_context`'s re-indexing of the caches and of
              top/bottom by the sorting permutation.

  Sets of indexes are duplicate-free `List Nat`.  A Python `for x in <set>` whose order is unspecified takes the
  order as the parameter `ord : List Nat → List Nat` (the list of the set's members → the order of iteration).
-/
import Fca.Model.Basic
namespace Fca

/-! ## uncached POSet queries -/
namespace PQ

variable (leq : Nat → Nat → Bool) (n : Nat)

/-- `{i for i in range(len(self)) if self.leq_elements(i, element_index) and i != element_index}` -/
def descendants (i : Nat) : List Nat := (List.range n).filter fun j => leq j i && j != i

/-- `{i for i in range(len(self)) if self.leq_elements(element_index, i) and i != element_index}` -/
def ancestors (i : Nat) : List Nat := (List.range n).filter fun j => leq i j && j != i

/-- set difference `cur - sub` -/
def removeAll (cur sub : List Nat) : List Nat := cur.filter fun x => !(sub.contains x)

/-- `for el_idx in list(idxs): if el_idx in idxs: idxs -= rel(el_idx)` -/
def guardedSubtractLoop (rel : Nat → List Nat) : List Nat → List Nat → List Nat
  | [], cur => cur
  | el :: rest, cur =>
    if cur.contains el then guardedSubtractLoop rel rest (removeAll cur (rel el))
    else guardedSubtractLoop rel rest cur

/-- `_children_nocache`: subtract the descendants of the still-present descendants -/
def children (ord : List Nat → List Nat) (i : Nat) : List Nat :=
  let d := descendants leq n i
  guardedSubtractLoop (descendants leq n) (ord d) d

/-- `_parents_nocache` -/
def parents (ord : List Nat → List Nat) (i : Nat) : List Nat :=
  let a := ancestors leq n i
  guardedSubtractLoop (ancestors leq n) (ord a) a

/-- `s | {i}` -/
def withSelf (s : List Nat) (i : Nat) : List Nat := if s.contains i then s else i :: s

/-- `a &= b` -/
def interSets (a b : List Nat) : List Nat := a.filter fun x => b.contains x

/-- `x = rel(S[0]) | {S[0]}; for el in S[1:]: x &= rel(el) | {el}` -/
def boundsLoop (rel : Nat → List Nat) : List Nat → List Nat → List Nat
  | [], acc => acc
  | el :: rest, acc => boundsLoop rel rest (interSets acc (withSelf (rel el) el))

/-- `for el_idx in copy(idxs): idxs -= rel(el_idx)` (no membership guard here) -/
def subtractLoop (rel : Nat → List Nat) : List Nat → List Nat → List Nat
  | [], cur => cur
  | el :: rest, cur => subtractLoop rel rest (removeAll cur (rel el))

/-- `list(idxs)[0] if len(idxs) == 1 else None` -/
def single : List Nat → Option Nat
  | [k] => some k
  | _ => none

/-- common body of `join` (rel = ancestors) and `meet` (rel = descendants) -/
def extremum (rel : Nat → List Nat) (ord : List Nat → List Nat) (S : List Nat) : Except PyErr (Option Nat) :=
  let S' := if S.length = 0 then List.range n else S
  match S' with
  | [] => .error .IndexError            -- `element_indexes[0]` of an empty poset
  | s0 :: rest =>
    let cand := boundsLoop rel rest (withSelf (rel s0) s0)
    .ok (single (subtractLoop rel (ord cand) cand))

/-- `POSet.join` -/
def join (ord : List Nat → List Nat) (S : List Nat) : Except PyErr (Option Nat) :=
  extremum n (ancestors leq n) ord S

/-- `POSet.meet` -/
def meet (ord : List Nat → List Nat) (S : List Nat) : Except PyErr (Option Nat) :=
  extremum n (descendants leq n) ord S

/-- `[el_i for el_i in range(len(self)) if len(self.ancestors(el_i)) == 0]` -/
def tops : List Nat := (List.range n).filter fun i => (ancestors leq n i).length == 0

/-- `[el_i for el_i in range(len(self)) if len(self.descendants(el_i)) == 0]` -/
def bottoms : List Nat := (List.range n).filter fun i => (descendants leq n i).length == 0

/-- `UpperSemiLattice.__init__`: `ValueError` unless exactly one top; `_cache_top = top_elements[0]` -/
def top : Except PyErr Nat :=
  match tops leq n with
  | [k] => .ok k
  | _ => .error .ValueError

/-- `LowerSemiLattice.__init__` -/
def bottom : Except PyErr Nat :=
  match bottoms leq n with
  | [k] => .ok k
  | _ => .error .ValueError

end PQ

/-! ## the concept lattice -/
namespace LQ

/-- a formal concept: `(extent_i, intent_i)` -/
abbrev Concept := List Nat × List Nat
/-- the lattice's element list, in listing order -/
abbrev Lat := List Concept

def conc (cs : Lat) (i : Nat) : Concept := cs.getD i ([], [])
def extOf (cs : Lat) (i : Nat) : List Nat := (conc cs i).1
def intOf (cs : Lat) (i : Nat) : List Nat := (conc cs i).2

/-- `for g_i in lesser.extent_i: if g_i not in greater_ext_i: return False` / `return True` -/
def leLoop (greaterExt : List Nat) : List Nat → Bool
  | [] => true
  | g :: rest => if !(greaterExt.contains g) then false else leLoop greaterExt rest

/-- `FormalConcept.__le__` (same context, antimonotone): support shortcut, then the membership loop -/
def conceptLe (a b : Concept) : Bool :=
  if a.1.length > b.1.length then false else leLoop b.1 a.1

/-- `self._leq_func(self._elements[a_index], self._elements[b_index])` -/
def leq (cs : Lat) (i j : Nat) : Bool := conceptLe (conc cs i) (conc cs j)

def descendants (cs : Lat) (i : Nat) : List Nat := PQ.descendants (leq cs) cs.length i
def ancestors (cs : Lat) (i : Nat) : List Nat := PQ.ancestors (leq cs) cs.length i
def children (cs : Lat) (ord : List Nat → List Nat) (i : Nat) : List Nat := PQ.children (leq cs) cs.length ord i
def parents (cs : Lat) (ord : List Nat → List Nat) (i : Nat) : List Nat := PQ.parents (leq cs) cs.length ord i
def join (cs : Lat) (ord : List Nat → List Nat) (S : List Nat) : Except PyErr (Option Nat) :=
  PQ.join (leq cs) cs.length ord S
def meet (cs : Lat) (ord : List Nat → List Nat) (S : List Nat) : Except PyErr (Option Nat) :=
  PQ.meet (leq cs) cs.length ord S
def top (cs : Lat) : Except PyErr Nat := PQ.top (leq cs) cs.length
def bottom (cs : Lat) : Except PyErr Nat := PQ.bottom (leq cs) cs.length

/-! ### `sort_concepts` -/

/-- `','.join([str(g) for g in c.extent_i])` -/
def extKey (e : List Nat) : String := ",".intercalate (e.map fun g => toString g)

/-- `(-len(a.extent_i), key a) <= (-len(b.extent_i), key b)` as Python compares tuples
    (strings by code points, which is Lean's `String` order) -/
def keyLe (a b : Concept) : Bool :=
  decide (a.1.length > b.1.length) ||
    (a.1.length == b.1.length && decide (extKey a.1 ≤ extKey b.1))

/-- `sorted(concepts, key=lambda c: (-len(c.extent_i), ','.join(...)))` (a stable sort) -/
def sortConcepts (cs : Lat) : Lat := cs.mergeSort keyLe

/-! ### `get_concept_new_extent(_i)` / `get_concept_new_intent(_i)` -/

/-- `{g_i for sbc_i in sbc_is for g_i in self[sbc_i].extent_i}` (as a list; only membership is used) -/
def unionOf (f : Nat → List Nat) (idxs : List Nat) : List Nat := idxs.flatMap f

/-- `set(self[concept_i].extent_i) - sbc_extents_i` -/
def newExtentI (cs : Lat) (ord : List Nat → List Nat) (i : Nat) : List Nat :=
  PQ.removeAll (extOf cs i) (unionOf (extOf cs) (children cs ord i))

/-- `set(self[concept_i].intent_i) - spc_intent_i` -/
def newIntentI (cs : Lat) (ord : List Nat → List Nat) (i : Nat) : List Nat :=
  PQ.removeAll (intOf cs i) (unionOf (intOf cs) (parents cs ord i))

/-- the concept's `extent` field: `[object_names[g_i] for g_i in extent_i]` -/
def namesOf (names : List String) (idxs : List Nat) : List String := idxs.map fun g => names.getD g ""

/-- `set(self[concept_i].extent) - {g for sbc_i in sbc_is for g in self[sbc_i].extent}` -/
def newExtent (objNames : List String) (cs : Lat) (ord : List Nat → List Nat) (i : Nat) : List String :=
  let sub := (children cs ord i).flatMap fun j => namesOf objNames (extOf cs j)
  (namesOf objNames (extOf cs i)).filter fun g => !(sub.contains g)

/-- `set(self[concept_i].intent) - {m for spc_i in spc_is for m in self[spc_i].intent}` -/
def newIntent (attrNames : List String) (cs : Lat) (ord : List Nat → List Nat) (i : Nat) : List String :=
  let sup := (parents cs ord i).flatMap fun j => namesOf attrNames (intOf cs j)
  (namesOf attrNames (intOf cs i)).filter fun m => !(sup.contains m)

/-! ### `_get_chains` -/

/-- `FormalConcept.__eq__` (same context): equal support and equal extent sets -/
def conceptEq (a b : Concept) : Bool :=
  if a.1.length != b.1.length then false else a.1.all fun g => b.1.contains g

/-- `{c: idx for idx, c in enumerate(l)}[c]`: the last position holding a concept equal to `c` -/
def dictIdxFrom : Lat → Nat → Concept → Option Nat
  | [], _, _ => none
  | y :: ys, k, c =>
    match dictIdxFrom ys (k + 1) c with
    | some r => some r
    | none => if conceptEq y c then some k else none

def dictIdx (l : Lat) (c : Concept) : Option Nat := dictIdxFrom l 0 c

/-- `sorted(s)[0]` -/
def minOf : List Nat → Option Nat
  | [] => none
  | x :: xs => match minOf xs with
    | none => some x
    | some m => some (if x ≤ m then x else m)

/-- the two index maps `map_isort_i`, `map_i_isort` of `_get_chains` (lists of length `n`) -/
def chainMaps (cs : Lat) : Except PyErr (List Nat × List Nat) :=
  let sorted := sortConcepts cs
  let isortI := sorted.mapM fun c => dictIdx cs c
  let iIsort := cs.mapM fun c => dictIdx sorted c
  match isortI, iIsort with
  | some a, some b => .ok (a, b)
  | _, _ => .error .KeyError

/-- `c_sort_i = n-1; while map_isort_i[c_sort_i] in visited: c_sort_i -= 1` (fuel = `c_sort_i + 1`;
    running below 0 is an `IndexError`-free wrap-around in Python that cannot occur while an unvisited
    concept exists: reported as `OutOfFuel`) -/
def chainStart (isortI : List Nat) (visited : List Nat) : Nat → Except PyErr (Nat × Nat)
  | 0 => .error .OutOfFuel
  | k + 1 =>
    let ci := isortI.getD k 0
    if visited.contains ci then chainStart isortI visited k else .ok (ci, k)

/-- the inner `while True:` climb to the first sorted concept through the smallest parent index -/
def chainClimb (parentsOf : Nat → List Nat) (iIsort : List Nat) :
    Nat → Nat → Nat → List Nat → Except PyErr (List Nat)
  | 0, _, _, _ => .error .OutOfFuel
  | fuel + 1, ci, csi, chain =>
    let chain' := chain ++ [ci]
    if csi == 0 then .ok chain'
    else match minOf (parentsOf ci) with
      | none => .error .IndexError        -- `sorted(superconcepts_dict[c_i])[0]` of an empty set
      | some p => chainClimb parentsOf iIsort fuel p (iIsort.getD p 0) chain'

/-- the outer `while len(visited_concepts) < n_concepts:` loop -/
def chainsLoop (parentsOf : Nat → List Nat) (isortI iIsort : List Nat) (n : Nat) :
    Nat → List Nat → List (List Nat) → Except PyErr (List (List Nat))
  | 0, _, _ => .error .OutOfFuel
  | fuel + 1, visited, chains =>
    if visited.length < n then
      match chainStart isortI visited n with
      | .error e => .error e
      | .ok (ci, csi) =>
        match chainClimb parentsOf iIsort (n + 1) ci csi [] with
        | .error e => .error e
        | .ok chain =>
          let visited' := chain.foldl (fun v x => if v.contains x then v else x :: v) visited
          chainsLoop parentsOf isortI iIsort n fuel visited' (chains ++ [chain.reverse])
    else .ok chains

/-- `ConceptLattice._get_chains(concepts, parents_dict, is_concepts_sorted=False)` -/
def getChains (cs : Lat) (parentsOf : Nat → List Nat) : Except PyErr (List (List Nat)) :=
  match chainMaps cs with
  | .error e => .error e
  | .ok (isortI, iIsort) => chainsLoop parentsOf isortI iIsort cs.length (cs.length + 1) [] []

/-- `ConceptLattice.get_chains()` -/
def chains (cs : Lat) (ord : List Nat → List Nat) : Except PyErr (List (List Nat)) :=
  getChains cs (parents cs ord)

end LQ

/-! ## POSet initialisation from a `children_dict` and the Lindig re-indexing -/
namespace LC

/-- a Python dict `{int: set[int]}` in insertion order -/
abbrev Dict := List (Nat × List Nat)

def dget (d : Dict) (k : Nat) : Option (List Nat) := d.lookup k

/-- `d[k] = v` : overwrite in place, or append a new key -/
def dset : Dict → Nat → List Nat → Dict
  | [], k, v => [(k, v)]
  | (k', v') :: rest, k, v => if k' == k then (k', v) :: rest else (k', v') :: dset rest k v

def addElem (s : List Nat) (x : Nat) : List Nat := if s.contains x then s else s ++ [x]

/-- inner loop of `_transpose_hierarchy`: `for v in vs: new_dict[v] = new_dict.get(v, set()) | {k}` -/
def transposeInner (k : Nat) : List Nat → Dict → Dict
  | [], d => d
  | v :: vs, d => transposeInner k vs (dset d v (addElem ((dget d v).getD []) k))

/-- `_transpose_hierarchy` -/
def transposeLoop : Dict → Dict → Dict
  | [], d => d
  | (k, vs) :: rest, d =>
    let d1 := if (dget d k).isNone then dset d k [] else d
    transposeLoop rest (transposeInner k vs d1)

def transposeHierarchy (h : Dict) : Dict := transposeLoop h []

def unionInto (a b : List Nat) : List Nat := b.foldl addElem a

/-- first position of the worklist whose direct relatives are all visited
    (`direct[el] & visited == direct[el]`); `none` when there is none (the Python then reuses a stale `idx`) -/
def findReady (direct : Dict) (visited : List Nat) : List Nat → Nat → Option Nat
  | [], _ => none
  | el :: rest, i =>
    if ((dget direct el).getD []).all (visited.contains ·) then some i else findReady direct visited rest (i + 1)

/-- the `while len(elements_to_visit) > 0` worklist of `_closed_relation_cache_by_direct_cache` -/
def closedLoop (direct trans : Dict) (ord : List Nat → List Nat) :
    Nat → List Nat → List Nat → Dict → Except PyErr Dict
  | 0, _, _, _ => .error .OutOfFuel
  | fuel + 1, toVisit, visited, closed =>
    match toVisit with
    | [] => .ok closed
    | _ =>
      match findReady direct visited toVisit 0 with
      | none => .error .OutOfFuel      -- stale/unbound `idx`: outside the model
      | some idx =>
        let el := toVisit.getD idx 0
        let toVisit' := toVisit.eraseIdx idx
        match dget direct el with
        | none => .error .KeyError
        | some rels =>
          let cl := rels.foldl (fun acc r => unionInto acc ((dget closed r).getD [])) rels
          closedLoop direct trans ord fuel (toVisit' ++ ord ((dget trans el).getD []))
            (addElem visited el) (dset closed el cl)

/-- a fuel that always suffices for the worklist on `n` elements (each pop lowers the potential
    `Σ 2^|ancestors|` of the worklist, which starts below `2^n`; lemma `closedByDirect_ok`) -/
def closedFuel (n : Nat) : Nat := (n + 1) ^ (n + 1)

/-- `_closed_relation_cache_by_direct_cache` -/
def closedByDirect (direct : Dict) (ord : List Nat → List Nat) (fuel : Nat) : Except PyErr Dict :=
  let trans := transposeHierarchy direct
  let start := (direct.filter fun p => p.2.length == 0).map (·.1)
  closedLoop direct trans ord fuel start [] []

/-- the caches of a `Lattice` built with a `children_dict` -/
structure Caches where
  children : Dict
  descendants : Dict
  parents : Dict
  ancestors : Dict
  top : Option Nat
  bottom : Option Nat
  deriving Repr, Inhabited

/-- `[i for i in range(n) if len(cache[i]) == 0]` answered from the cache (`_ancestors_cache` hit) -/
def cachedExtremes (cache : Dict) (n : Nat) : List Nat :=
  (List.range n).filter fun i => ((dget cache i).getD []).length == 0

/-- `POSet.__init__` with a `children_dict`, then the semilattice constructors' top/bottom.
    (all keys `0 … n-1` are present in a Lindig `children_dict`, so every query is a cache hit) -/
def initFromChildren (childrenDict : Dict) (n : Nat) (ord : List Nat → List Nat) (fuel : Nat) :
    Except PyErr Caches :=
  match closedByDirect childrenDict ord fuel with
  | .error e => .error e
  | .ok desc =>
    let par := transposeHierarchy childrenDict
    let anc := transposeHierarchy desc
    match cachedExtremes desc n, cachedExtremes anc n with
    | [b], [t] => .ok ⟨childrenDict, desc, par, anc, some t, some b⟩
    | _, _ => .error .ValueError

/-- `{map_i_isort[i]: {map_i_isort[rel] for rel in relatives} for i, relatives in cache.items()}` -/
def reindexDict (m : List Nat) (d : Dict) : Dict :=
  d.foldl (fun acc p => dset acc (m.getD p.1 0) (p.2.foldl (fun s r => addElem s (m.getD r 0)) [])) []

/-- `from_context` (Lindig branch): `map_i_isort` and the re-indexing of the four caches and top/bottom -/
def reindex (cs0 : LQ.Lat) (c : Caches) : Except PyErr (LQ.Lat × List Nat × Caches) :=
  let sorted := LQ.sortConcepts cs0
  match cs0.mapM fun x => LQ.dictIdx sorted x with
  | none => .error .KeyError
  | some m =>
    .ok (sorted, m,
      ⟨reindexDict m c.children, reindexDict m c.descendants, reindexDict m c.parents,
       reindexDict m c.ancestors, c.top.map (m.getD · 0), c.bottom.map (m.getD · 0)⟩)

end LC
end Fca
