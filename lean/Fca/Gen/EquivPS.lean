/-
  The definitions generated from `fcapy/mvcontext/pattern_structure.py` (`Fca/Gen/GeneratedPS.lean`: `intention_i` /
  `extension_i` of `IntervalPS`, `SetPS`, `AttributePS`) equal the hand-written models of `Fca/Model/PS.lean` — WITHOUT
  any hypothesis: both sides live in `Except PyErr`, and an out-of-range object index is an `IndexError` on both sides,
  at the same point of the evaluation.  Each loop of the generated text is matched with the model's loop by a lemma that
  takes the loop body as a variable with its equation; the equation has the read `Gen.idx data g` in front, as the
  generated body does, so a body with one read satisfies it as it stands and `idx_bind_congr` serves a body that reads again.
  `harness/genside.py` re-elaborates THIS FILE against freshly generated definitions whenever the Python source changed.
-/
import Fca.Gen.GeneratedPS
import Fca.Gen.RtLemmas
import Fca.Model.PS
namespace Fca.Gen.Lists
open Fca.Gen Fca.PS

-- the `simp only` sets below also have to close what harmless rewrites of the Python source leave; on the source as
-- it is some of their lemmas are idle
set_option linter.unusedSimpArgs false

@[simp] theorem error_bind {ε α β} (e : ε) (f : α → Except ε β) : (Except.error e >>= f) = Except.error e := rfl

theorem idx_eq {α} (xs : List α) (i : Nat) :
    Gen.idx xs i = match xs[i]? with | some x => Except.ok x | none => Except.error PyErr.IndexError := rfl

/-- below a read `self._data[g]` that succeeded, the same read succeeds (double and conditional reads) -/
theorem idx_bind_congr {α β} {data : List α} {g : Nat} {k k' : α → Except PyErr β}
    (h : ∀ v, data[g]? = some v → k v = k' v) : (Gen.idx data g >>= k) = (Gen.idx data g >>= k') := by
  rw [idx_eq]
  cases hv : data[g]? with
  | none => rfl
  | some v => exact h v hv

theorem forIn_pyIntLoop (data : List Iv) (f : Nat → Int × Int → Except PyErr (ForInStep (Int × Int)))
    (hf : ∀ g s, f g s = Gen.idx data g >>= fun v =>
      Except.ok (ForInStep.yield (if v.1 < s.1 then v.1 else s.1, if v.2 > s.2 then v.2 else s.2)))
    (gs : List Nat) (s : Int × Int) : forIn gs s f = pyIntLoop data s gs := by
  induction gs generalizing s with
  | nil => rfl
  | cons g gs ih =>
    obtain ⟨mn, mx⟩ := s
    rw [List.forIn_cons, hf, pyIntLoop, idx_eq]
    cases data[g]? with
    | none => rfl
    | some v => exact ih _

/-- the model on a non-empty object list, in the words of the generated text: the first read, then the loop -/
theorem pyIntentionI_cons (data : List Iv) (g0 : Nat) (rest : List Nat) :
    pyIntentionI data (g0 :: rest)
      = (Gen.idx data g0 >>= fun v0 => pyIntLoop data v0 rest >>= fun r => Except.ok (some r)) := by
  rw [idx_eq]
  cases h : data[g0]? with
  | none => simp only [pyIntentionI, h, List.length_cons, Nat.add_one_ne_zero, if_false, error_bind]
  | some v0 =>
    simp only [pyIntentionI, h, List.length_cons, Nat.add_one_ne_zero, if_false, ok_bind]
    cases pyIntLoop data v0 rest <;> rfl

-- @target ivIntentionI
theorem ivIntentionI_eq_model (P : IvPS) (objs : List Nat) :
    Fca.Gen.Lists.ivIntentionI P objs = pyIntentionI P.data objs := by
  cases objs with
  | nil => rfl
  | cons g0 rest =>
    unfold Fca.Gen.Lists.ivIntentionI
    rw [pyIntentionI_cons]
    refine idx_bind_congr (data := P.data) (g := g0) fun v0 _ => ?_
    refine (congrArg (· >>= _) (forIn_pyIntLoop P.data _ (fun g s => by
      simp only [idx_eq, pure_eq_ok, decide_eq_true_eq]) rest (v0.1, v0.2))).trans ?_
    cases pyIntLoop P.data (v0.1, v0.2) rest <;> rfl

/-- `[g for g in base if cond(self._data[g])]` with a condition that reads `self._data[g]` (`IndexError`) -/
theorem filterMapM_filterLoop {α} (data : List α) (p : α → Bool) (f : Nat → Except PyErr (Option Nat))
    (hf : ∀ g, f g = Gen.idx data g >>= fun v => Except.ok (if p v then some g else none))
    (gs : List Nat) : Gen.filterMapM f gs = filterLoop data p gs := by
  induction gs with
  | nil => rfl
  | cons g gs ih =>
    rw [Gen.filterMapM, hf, filterLoop, ih, idx_eq]
    cases data[g]? with
    | none => rfl
    | some v =>
      simp only [ok_bind]
      cases filterLoop data p gs with
      | error e => rfl
      | ok r => cases p v <;> rfl

-- @target ivExtensionI
/-- `description` is `None` or a pair: the `isinstance(description, Number)` branch is decided by the declared type (A1 of
    harness/py2lean.py); a bare number or a sequence of another length is outside it -/
theorem ivExtensionI_eq_model (P : IvPS) (d : Option Iv) (base : Option (List Nat)) :
    Fca.Gen.Lists.ivExtensionI P d base = pyExtensionI P.data (IvDesc.ofOpt d) base := by
  unfold Fca.Gen.Lists.ivExtensionI pyExtensionI
  cases d with
  | none => rfl
  | some d =>
    obtain ⟨mn, mx⟩ := d
    refine (filterMapM_filterLoop P.data (fun v => decide (mn ≤ v.1) && decide (v.2 ≤ mx)) _ (fun g =>
      idx_bind_congr fun v h => by
        simp only [idx_eq, h, ok_bind, pure_eq_ok]
        cases decide (mn ≤ v.1) <;> cases decide (v.2 ≤ mx) <;> rfl) _).trans ?_
    rfl

theorem forIn_setIntLoop (data : List VSet) (f : Nat → VSet → Except PyErr (ForInStep VSet))
    (hf : ∀ g s, f g s = Gen.idx data g >>= fun row => Except.ok (ForInStep.yield (PS.setUnion s row)))
    (gs : List Nat) (s : VSet) : forIn gs s f = setIntLoop data s gs := by
  induction gs generalizing s with
  | nil => rfl
  | cons g gs ih =>
    rw [List.forIn_cons, hf, setIntLoop, idx_eq]
    cases data[g]? with
    | none => rfl
    | some row => exact ih _

theorem setUnion_eq (a b : VSet) : Gen.setUnion a b = PS.setUnion a b := rfl
theorem setInter_eq (a b : VSet) : Gen.setInter a b = PS.setInter a b := rfl
theorem setEq_eq (a b : VSet) : Gen.setEq a b = PS.setEq a b := rfl

-- @target setIntentionI
theorem setIntentionI_eq_model (P : SetPS) (objs : List Nat) :
    Fca.Gen.Lists.setIntentionI P objs = PS.setIntentionI P.data objs := by
  unfold Fca.Gen.Lists.setIntentionI PS.setIntentionI
  simp only [pure_eq_ok, bind_ok_right]
  rw [forIn_setIntLoop P.data _ fun g s => idx_bind_congr fun v h => by
    simp only [idx_eq, h, ok_bind, pure_eq_ok, setUnion_eq]]

-- @target setExtensionI
theorem setExtensionI_eq_model (P : SetPS) (d : Option VSet) (base : Option (List Nat)) :
    Fca.Gen.Lists.setExtensionI P d base = PS.setExtensionI P.data d base := by
  unfold Fca.Gen.Lists.setExtensionI PS.setExtensionI
  cases d with
  | none => rfl
  | some ds =>
    refine (filterMapM_filterLoop P.data (fun row => PS.setEq (PS.setInter row ds) row) _ (fun g =>
      idx_bind_congr fun v h => by simp only [idx_eq, h, ok_bind, pure_eq_ok, ite_ok] <;> rfl) _).trans ?_
    rfl

/-- `all(self._data[g] for g in objs)`: the generator stops at the first `False` -/
theorem allM_attrAllLoop (data : List Bool) (f : Nat → Except PyErr Bool)
    (hf : ∀ g, f g = Gen.idx data g)
    (gs : List Nat) : Gen.allM f gs = attrAllLoop data gs := by
  induction gs with
  | nil => rfl
  | cons g gs ih =>
    rw [Gen.allM, hf, attrAllLoop, idx_eq]
    cases data[g]? with
    | none => rfl
    | some v => cases v <;> first | rfl | exact ih

-- @target attrIntentionI
theorem attrIntentionI_eq_model (P : AttrPS) (objs : List Nat) :
    Fca.Gen.Lists.attrIntentionI P objs = PS.attrIntentionI P.data objs := by
  unfold Fca.Gen.Lists.attrIntentionI PS.attrIntentionI
  simp only [pure_eq_ok, bind_ok_right]
  rw [allM_attrAllLoop P.data _ fun g => by rfl]
  all_goals (cases objs <;> rfl)

-- @target attrExtensionI
theorem attrExtensionI_eq_model (P : AttrPS) (d : Bool) (base : Option (List Nat)) :
    Fca.Gen.Lists.attrExtensionI P d base = PS.attrExtensionI P.data d base := by
  unfold Fca.Gen.Lists.attrExtensionI PS.attrExtensionI
  cases d
  · rfl
  · refine (filterMapM_filterLoop P.data (fun v => v) _ (fun g => idx_bind_congr fun v _ => by
      cases v <;> rfl) _).trans ?_
    rfl

end Fca.Gen.Lists
