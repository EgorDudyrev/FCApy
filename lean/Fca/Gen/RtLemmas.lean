/-
  The translator's runtime vocabulary (`Fca.Gen.Rt`) in the shapes the generated code has: comprehensions (`mapM`) and
  `for` loops (`forIn`) whose bodies cannot fail, the name dictionary; `Agrees` is the tie that covers the exceptions
  as well.  Core only.
-/
import Fca.Gen.Rt
import Fca.Lemmas.ListAux
namespace Fca.Gen

@[simp] theorem ok_bind {ε α β} (a : α) (f : α → Except ε β) : (Except.ok a >>= f) = f a := rfl
@[simp] theorem pure_eq_ok {ε α} (a : α) : (pure a : Except ε α) = Except.ok a := rfl
@[simp] theorem map_ok {ε α β} (g : α → β) (a : α) : (g <$> (Except.ok a : Except ε α)) = Except.ok (g a) := rfl
theorem bind_ok_right {ε α} (x : Except ε α) : (x >>= fun a => Except.ok a) = x := bind_pure x

theorem ite_ok {ε α} (c : Prop) [Decidable c] (a b : α) :
    (if c then (Except.ok a : Except ε α) else Except.ok b) = Except.ok (if c then a else b) := by
  split <;> rfl

/-- `…: return False` / fall through to `return True` -/
theorem ite_ok_not {ε} (c : Bool) : (if c then (Except.ok false : Except ε Bool) else Except.ok true) = Except.ok (!c) := by
  cases c <;> rfl

/-- `…: return True` / fall through to `return False` -/
theorem ite_ok_self {ε} (c : Bool) : (if c then (Except.ok true : Except ε Bool) else Except.ok false) = Except.ok c := by
  cases c <;> rfl

/-- the tie for a function whose exceptions are modelled too: `gen` raises whatever `model` raises, with nothing
    assumed, and answers as `model` does once `P` holds -/
structure Agrees {ε β} (P : Prop) (gen model : Except ε β) : Prop where
  error : ∀ e, model = .error e → gen = .error e
  eq : P → gen = model

theorem Agrees.bind {ε α β} {P : Prop} (x : Except ε α) {f f' : α → Except ε β}
    (h : ∀ a, x = .ok a → Agrees P (f a) (f' a)) : Agrees P (x >>= f) (x >>= f') := by
  cases x with
  | error e => exact ⟨fun _ h => h, fun _ => rfl⟩
  | ok a => exact h a rfl

theorem Agrees.of_ok {ε β} {P : Prop} {gen : Except ε β} {b : β} (h : P → gen = .ok b) : Agrees P gen (.ok b) :=
  ⟨fun _ h => (nomatch h), h⟩

@[simp] theorem pyAll_eq (xs : List Bool) : Gen.pyAll xs = Fca.pyAll xs := rfl
@[simp] theorem pyAny_eq (xs : List Bool) : Gen.pyAny xs = Fca.pyAny xs := rfl
@[simp] theorem pySum_eq (xs : List Nat) : Gen.pySum xs = xs.sum := rfl
@[simp] theorem pySumB_eq (xs : List Bool) : Gen.pySumB xs = (xs.filter id).length := rfl
@[simp] theorem intOfBool_eq (b : Bool) : Gen.intOfBool b = if b then 1 else 0 := rfl

@[simp] theorem listMul_singleton {α} (a : α) (n : Nat) : Gen.listMul [a] n = List.replicate n a :=
  List.flatten_replicate_singleton

@[simp] theorem pyAssert_true : Gen.pyAssert true = Except.ok () := rfl
@[simp] theorem pyAssert_false : Gen.pyAssert false = Except.error PyErr.AssertionError := rfl

/-- `[x for x in xs if p(x)]` -/
theorem filterMap_ite_eq_filter {α} (p : α → Bool) : ∀ xs : List α,
    xs.filterMap (fun x => if p x = true then some x else none) = xs.filter p :=
  congrFun (List.filterMap_eq_filter (p := p))

theorem idx_ok {α} {xs : List α} {i : Nat} (h : i < xs.length) : Gen.idx xs i = Except.ok xs[i] := by
  simp [Gen.idx, List.getElem?_eq_getElem h]

theorem idx_error {α} {xs : List α} {i : Nat} (h : xs.length ≤ i) : Gen.idx xs i = Except.error PyErr.IndexError := by
  simp [Gen.idx, List.getElem?_eq_none h]

theorem mapM_ok {ε α β} {f : α → Except ε β} {g : α → β} {xs : List α} (h : ∀ x ∈ xs, f x = Except.ok (g x)) :
    xs.mapM f = Except.ok (xs.map g) :=
  ListAux.mapM_eq_pure_map xs h

/-- a `for` loop with `break` whose body cannot fail: the body computes `k`, `stop` decides the `break`, and `M` is any
    function that unfolds the way the loop runs (a model loop does so by `rfl`; without `break`, `stop := fun _ => false`
    and `M` is a `foldl`) -/
theorem forIn_break {ε α σ} {f : α → σ → Except ε (ForInStep σ)} (k : α → σ → σ) (stop : σ → Bool) (M : List α → σ → σ)
    (hnil : ∀ s, M [] s = s) (hcons : ∀ x xs s, M (x :: xs) s = if stop (k x s) then k x s else M xs (k x s))
    {xs : List α} (h : ∀ x ∈ xs, ∀ s, f x s = Except.ok (if stop (k x s) then .done (k x s) else .yield (k x s)))
    (s : σ) : forIn xs s f = Except.ok (M xs s) := by
  induction xs generalizing s with
  | nil => rw [hnil]; rfl
  | cons x xs ih =>
    rw [List.forIn_cons, h x List.mem_cons_self s, ok_bind, hcons]
    cases stop (k x s)
    · exact ih (fun y hy => h y (List.mem_cons_of_mem _ hy)) _
    · rfl

/-- `acc = […]; for x in xs: acc.append(f(x))` — the accumulating loop is `mapM` (the first exception wins) -/
theorem forIn_append {ε α β} (f : α → Except ε β) (body : α → List β → Except ε (ForInStep (List β)))
    (h : ∀ x acc, body x acc = (f x >>= fun t => Except.ok (ForInStep.yield (acc ++ [t]))))
    (xs : List α) : forIn xs [] body = xs.mapM f := by
  suffices ∀ acc, forIn xs acc body = (xs.mapM f >>= fun ys => Except.ok (acc ++ ys)) from
    (this []).trans (bind_ok_right _)
  induction xs with
  | nil => simp [List.mapM_nil]
  | cons x xs ih =>
    intro acc
    rw [List.forIn_cons, h x acc, List.mapM_cons]
    cases f x with
    | error e => rfl
    | ok t =>
      simp only [ok_bind]
      rw [ih (acc ++ [t])]
      cases xs.mapM f with
      | error e => rfl
      | ok ys => simp

/-- `for x in xs: if p(x): return b` followed by the rest `K` — how `do`-notation runs a loop with an early
    `return` and no mutable variable: the loop state is `(the value returned so far, ())`, and the continuation
    looks at it. -/
theorem forIn_return_const {ε α β γ} {f : α → Option β × Unit → Except ε (ForInStep (Option β × Unit))}
    (p : α → Bool) (b : β) (K : Option β × Unit → Except ε γ) {xs : List α}
    (h : ∀ x ∈ xs, ∀ s, f x s
        = if p x then Except.ok (ForInStep.done (some b, ())) else Except.ok (ForInStep.yield (none, ()))) :
    (forIn xs (none, ()) f >>= K) = if xs.any p then K (some b, ()) else K (none, ()) := by
  induction xs with
  | nil => rfl
  | cons x xs ih =>
    rw [List.forIn_cons, h x List.mem_cons_self]
    cases hp : p x
    · simp only [Bool.false_eq_true, if_false, ok_bind, List.any_cons, hp, Bool.false_or]
      exact ih fun y hy => h y (List.mem_cons_of_mem _ hy)
    · simp [hp]

theorem dictGet_eq {κ ν} [BEq κ] (d : List (κ × ν)) (k : κ) :
    Gen.dictGet d k = match Gen.dictFind d k with | some v => Except.ok v | none => Except.error PyErr.KeyError := rfl

/-- the dictionary `{name: idx for idx, name in enumerate(names)}` is the model's `nameIdx` -/
theorem dictFind_enumFrom (x : String) : ∀ (names : List String) (i : Nat),
    Gen.dictFind ((List.zip (List.range' i names.length) names).map fun p => (p.2, p.1)) x = nameIdxFrom names i x
  | [], _ => rfl
  | y :: ys, i => by
    simp only [List.length_cons, List.range'_succ, List.zip_cons_cons, List.map_cons, Gen.dictFind, nameIdxFrom,
      dictFind_enumFrom x ys (i + 1), beq_iff_eq]
    cases nameIdxFrom ys (i + 1) x <;> rfl

theorem dictFind_enumDict (names : List String) (x : String) :
    Gen.dictFind (Gen.enumDict names) x = nameIdx names x := by
  unfold Gen.enumDict Gen.enumerate nameIdx
  rw [List.range_eq_range']
  exact dictFind_enumFrom x names 0

/-- `[d[x] for x in xs]` / the `append` loop over `d[x]`: `KeyError` on the first unknown name -/
theorem mapM_dictGet_enumDict (names : List String) : ∀ xs : List String,
    xs.mapM (fun x => Gen.dictGet (Gen.enumDict names) x) = namesToIdx names xs
  | [] => rfl
  | x :: xs => by
    rw [List.mapM_cons, dictGet_eq, dictFind_enumDict, namesToIdx, mapM_dictGet_enumDict names xs]
    cases nameIdx names x with
    | none => rfl
    | some i => cases namesToIdx names xs <;> rfl

/-- the by-name step: `x` collects `d[y] for y in xs` (a comprehension, or an `append` loop), where the model runs
    `namesToIdx`; an unknown name is a `KeyError` on both sides -/
theorem Agrees.names {β} {P : Prop} {names xs : List String} {x : Except PyErr (List Nat)}
    (hx : x = xs.mapM fun y => Gen.dictGet (Gen.enumDict names) y) {F F' : List Nat → Except PyErr β}
    (hF : ∀ is, namesToIdx names xs = .ok is → Agrees P (F is) (F' is)) :
    Agrees P (x >>= F) (namesToIdx names xs >>= F') := by
  rw [hx, mapM_dictGet_enumDict]
  exact Agrees.bind _ hF

end Fca.Gen
