/-
  The uncached queries of `fcapy/poset/poset.py` as generated from the Python source (`Fca/Gen/GeneratedPoset.lean`)
  against the hand-written state-passing model `Fca/Model/Poset.lean`: on a cache-less state the model leaves the
  state alone and answers exactly what the source-derived definition computes (`IndexError` included); `ord` (the
  iteration order of a set) is the same parameter on both sides.
  `harness/genside.py` re-elaborates THIS FILE against freshly generated definitions whenever the Python source changed.

  `PureAt s m r`: on the state `s` the model computation `m` keeps the state and answers the `Except` program `r`.  Its
  rules (`pureAt_bind`, a comprehension `pureAt_filterM`, a loop `pureAt_foldM`, the cache switch `pureAt_uncached`) are
  applied directly in the `-- @target` theorems, each with the theorem of the generated callee.  The model is written
  once for both directions (`Dir`), the generated definitions come in pairs; so the two bodies that are more than one
  rule (`directNocache`, `boundE`) are first shown to answer the `Except` program of the same shape over whatever
  their callee answers (these lemmas mention no generated definition).
-/
import Fca.Gen.GeneratedPoset
import Fca.Gen.RtLemmas
import Fca.Model.Poset
namespace Fca.Gen.Lists
open Fca.Gen Fca.Poset

-- the `simp only` sets that normalise a generated text name more lemmas than the source as it is needs, so that a
-- harmlessly rewritten source still goes through
set_option linter.unusedSimpArgs false

theorem except_ok_bind {ε β γ} (a : β) (f : β → Except ε γ) : (Except.ok a).bind f = f a := rfl

section
variable {α β γ : Type} {s : St α}

def PureAt (s : St α) (m : M α β) (r : Except PyErr β) : Prop := m s = (s, r)

theorem pureAt_pure (b : β) : PureAt s (pure b : M α β) (Except.ok b) := rfl

theorem pureAt_bind {m : M α β} {x : Except PyErr β} {f : β → M α γ} {g : β → Except PyErr γ}
    (hm : PureAt s m x) (hf : ∀ b, PureAt s (f b) (g b)) : PureAt s (m >>= f) (x >>= g) := by
  show M.bind m f s = _
  unfold M.bind
  rw [hm]
  cases x with
  | error e => rfl
  | ok b => exact hf b

/-- `{i for i in xs if h(i, c(i))}` -/
theorem pureAt_filterM {c : Nat → M α β} {g : Nat → Except PyErr β} (hc : ∀ i, PureAt s (c i) (g i))
    {h : Nat → β → Bool} {xs : List Nat} :
    PureAt s (M.filterM (fun i => do let t ← c i; pure (h i t)) xs)
      (Gen.filterMapM (fun i => do let t ← g i; if h i t then pure (some i) else pure none) xs) := by
  induction xs with
  | nil => rfl
  | cons i is ih =>
    refine (pureAt_bind (pureAt_bind (hc i) fun t => pureAt_pure (h i t)) fun b =>
      pureAt_bind ih fun r => pureAt_pure (if b then i :: r else r)).trans ?_
    rw [Gen.filterMapM]
    cases g i with
    | error e => rfl
    | ok t =>
      simp only [ok_bind]
      generalize Gen.filterMapM _ is = rest
      cases rest <;> cases h i t <;> rfl

/-- `for x in xs: acc = step(acc, x)`; `body` is the loop body in the shape the generated text has it (`hb`) -/
theorem pureAt_foldM {step : β → Nat → M α β} {g : β → Nat → Except PyErr β}
    (h : ∀ acc x, PureAt s (step acc x) (g acc x)) {body : Nat → β → Except PyErr (ForInStep β)}
    (hb : ∀ x r, body x r = (g r x >>= fun a => pure (ForInStep.yield a))) (xs : List Nat) (acc : β) :
    PureAt s (M.foldM step acc xs) (forIn xs acc body) := by
  induction xs generalizing acc with
  | nil => rfl
  | cons x xs ih =>
    refine (pureAt_bind (h acc x) fun a => ih a).trans ?_
    rw [List.forIn_cons, hb]
    cases g acc x <;> rfl

theorem pureAt_get {f : St α → M α β} {r : Except PyErr β} (h : PureAt s (f s) r) : PureAt s (M.get >>= f) r := h

/-- `if self._use_cache: … else: body` on a cache-less state -/
theorem pureAt_uncached {a b : St α → M α β} {r : Except PyErr β} (hc : s.useCache = false) (h : PureAt s (b s) r) :
    PureAt s (do let s ← M.get; if s.useCache then a s else b s) r := by
  refine pureAt_get ?_
  rw [hc]
  exact h
end

theorem setDiff_eq (a b : List Nat) : Poset.setDiff a b = Gen.setDiff a b := by
  unfold Gen.setDiff Poset.setDiff
  apply List.filter_congr
  intro x _
  simp

theorem setInter_eq' (a b : List Nat) : Poset.setInter a b = Gen.setInter a b := by
  unfold Gen.setInter Poset.setInter
  apply List.filter_congr
  intro x _
  simp

theorem setInsert_eq (x : Nat) (l : List Nat) : Poset.setInsert x l = Gen.setUnion l [x] := by
  unfold Gen.setUnion Poset.setInsert
  by_cases h : x ∈ l <;> simp [h]

section
variable {α : Type} (leq : α → α → Bool) (ord : List Nat → List Nat) {s : St α} (d : Dir)

theorem pureAt_directNocache (e : Nat) {clo : Nat → Except PyErr (List Nat)}
    (hclo : ∀ x, PureAt s (closedE leq d x) (clo x)) :
    PureAt s (directNocache leq ord d e) (do
      let xs ← clo e
      forIn (ord xs) xs fun x r =>
        if r.contains x then do
          let t ← clo x
          pure (ForInStep.yield (Gen.setDiff r t))
        else pure (ForInStep.yield r)) := by
  have hstep : ∀ (acc : List Nat) (x : Nat), PureAt s
      (if x ∈ acc then closedE leq d x >>= fun a => pure (Poset.setDiff acc a) else pure acc)
      (if x ∈ acc then clo x >>= fun a => pure (Poset.setDiff acc a) else pure acc) := by
    intro acc x
    split
    · exact pureAt_bind (hclo x) fun a => pureAt_pure _
    · exact pureAt_pure acc
  exact pureAt_bind (hclo e) fun xs => pureAt_foldM hstep (fun x r => by
    by_cases hx : x ∈ r <;> simp only [hx, List.contains_eq_mem, decide_true, decide_false, if_true, if_false,
      Bool.false_eq_true, bind_assoc, pure_bind, setDiff_eq]) (ord xs) xs

/-- with exactly one element left, the order in which Python walks the set does not matter -/
theorem pick_single (hord : ∀ l, (ord l).Perm l) (j : List Nat) :
    (if j.length == 1 then do let t ← Gen.idx (ord j) 0; pure (some t) else pure none)
      = (pure (if j.length == 1 then j.head? else none) : Except PyErr (Option Nat)) := by
  match j with
  | [] => rfl
  | [z] =>
    rw [List.perm_singleton.mp (hord [z])]
    rfl
  | _ :: _ :: _ => rfl

/-- `join(S)` / `meet(S)`; `sel` is the selection with the default resolved (`[]` stands for all elements) -/
theorem pureAt_boundE (hord : ∀ l, (ord l).Perm l) {clo : Nat → Except PyErr (List Nat)}
    (hclo : ∀ x, PureAt s (closedE leq d x) (clo x)) (S : List Nat) {sel : Except PyErr (List Nat)}
    (hsel : sel = Except.ok (if S.isEmpty then List.range s.elems.length else S)) :
    PureAt s (boundE leq ord d S) (do
      let L ← sel
      let t1 ← Gen.idx L 0
      let t2 ← clo t1
      let t3 ← Gen.idx L 0
      let j1 ← forIn (List.drop 1 L) (Gen.setUnion t2 [t3]) fun y r => do
        let t4 ← clo y
        pure (ForInStep.yield (Gen.setInter r (Gen.setUnion t4 [y])))
      let j2 ← forIn (ord j1) j1 fun y r => do
        let t5 ← clo y
        pure (ForInStep.yield (Gen.setDiff r t5))
      if j2.length == 1 then do
        let t6 ← Gen.idx (ord j2) 0
        pure (some t6)
      else pure none) := by
  subst hsel
  unfold boundE
  refine pureAt_get ?_
  generalize (if S.isEmpty then List.range s.elems.length else S) = L
  cases L with
  | nil => rfl
  | cons x xs =>
    refine (pureAt_bind (hclo x) fun a0 =>
      pureAt_bind (pureAt_foldM (fun acc y => pureAt_bind (hclo y) fun a => pureAt_pure _) (fun _ _ => rfl) xs _) fun j1 =>
      pureAt_bind (pureAt_foldM (fun acc y => pureAt_bind (hclo y) fun a => pureAt_pure _) (fun _ _ => rfl) (ord j1) j1)
        fun j2 =>
      pureAt_pure _).trans ?_
    simp only [bind_assoc, setInter_eq', setInsert_eq, setDiff_eq, pick_single ord hord]
    rfl

end

variable {α : Type} [DecidableEq α] (leq : α → α → Bool) (ord : List Nat → List Nat)

/-- the receiver a cache-less model state denotes -/
def recvOf (leq : α → α → Bool) (s : St α) : PosetR α := ⟨s.elems, leq⟩

-- @target posetLen
theorem posetLen_eq_model (P : PosetR α) : Fca.Gen.Lists.posetLen ord P = .ok P.elems.length := by
  unfold Fca.Gen.Lists.posetLen
  rfl

-- @target posetLeqNocache
theorem posetLeqNocache_eq_model (P : PosetR α) (a b : Nat) :
    Fca.Gen.Lists.posetLeqNocache ord P a b = leqNocache P.leq P.elems a b := by
  unfold Fca.Gen.Lists.posetLeqNocache leqNocache Gen.idx
  cases P.elems[a]? <;> cases P.elems[b]? <;> rfl

-- @target posetLeq
theorem posetLeq_eq_model (s : St α) (hc : s.useCache = false) (a b : Nat) :
    (leqE leq a b).run s = (s, Fca.Gen.Lists.posetLeq ord (recvOf leq s) a b) := by
  unfold Fca.Gen.Lists.posetLeq
  simp only [posetLeqNocache_eq_model, M.run, leqE, hc, Bool.false_eq_true, if_false, recvOf, bind_ok_right, pure_eq_ok]

-- @target posetDescendantsNocache
theorem posetDescendantsNocache_eq_model (s : St α) (hc : s.useCache = false) (e : Nat) :
    (closedNocache leq .desc e).run s = (s, Fca.Gen.Lists.posetDescendantsNocache ord (recvOf leq s) e) := by
  unfold Fca.Gen.Lists.posetDescendantsNocache
  exact pureAt_filterM (fun i => posetLeq_eq_model leq ord s hc i e)

-- @target posetAncestorsNocache
theorem posetAncestorsNocache_eq_model (s : St α) (hc : s.useCache = false) (e : Nat) :
    (closedNocache leq .anc e).run s = (s, Fca.Gen.Lists.posetAncestorsNocache ord (recvOf leq s) e) := by
  unfold Fca.Gen.Lists.posetAncestorsNocache
  exact pureAt_filterM (fun i => posetLeq_eq_model leq ord s hc e i)

-- @target posetDescendants
theorem posetDescendants_eq_model (s : St α) (hc : s.useCache = false) (e : Nat) :
    (closedE leq .desc e).run s = (s, Fca.Gen.Lists.posetDescendants ord (recvOf leq s) e) := by
  unfold Fca.Gen.Lists.posetDescendants
  try simp only [pure_eq_ok, bind_ok_right]
  exact pureAt_uncached hc (posetDescendantsNocache_eq_model leq ord s hc e)

-- @target posetAncestors
theorem posetAncestors_eq_model (s : St α) (hc : s.useCache = false) (e : Nat) :
    (closedE leq .anc e).run s = (s, Fca.Gen.Lists.posetAncestors ord (recvOf leq s) e) := by
  unfold Fca.Gen.Lists.posetAncestors
  try simp only [pure_eq_ok, bind_ok_right]
  exact pureAt_uncached hc (posetAncestorsNocache_eq_model leq ord s hc e)

-- @target posetChildrenNocache
theorem posetChildrenNocache_eq_model (s : St α) (hc : s.useCache = false) (e : Nat) :
    (directNocache leq ord .desc e).run s = (s, Fca.Gen.Lists.posetChildrenNocache ord (recvOf leq s) e) := by
  unfold Fca.Gen.Lists.posetChildrenNocache
  simp only [pure_eq_ok, bind_ok_right]
  exact pureAt_directNocache leq ord .desc e (posetDescendants_eq_model leq ord s hc)

-- @target posetParentsNocache
theorem posetParentsNocache_eq_model (s : St α) (hc : s.useCache = false) (e : Nat) :
    (directNocache leq ord .anc e).run s = (s, Fca.Gen.Lists.posetParentsNocache ord (recvOf leq s) e) := by
  unfold Fca.Gen.Lists.posetParentsNocache
  simp only [pure_eq_ok, bind_ok_right]
  exact pureAt_directNocache leq ord .anc e (posetAncestors_eq_model leq ord s hc)

-- @target posetChildren
theorem posetChildren_eq_model (s : St α) (hc : s.useCache = false) (e : Nat) :
    (directE leq ord .desc e).run s = (s, Fca.Gen.Lists.posetChildren ord (recvOf leq s) e) := by
  unfold Fca.Gen.Lists.posetChildren
  try simp only [pure_eq_ok, bind_ok_right]
  exact pureAt_uncached hc (posetChildrenNocache_eq_model leq ord s hc e)

-- @target posetParents
theorem posetParents_eq_model (s : St α) (hc : s.useCache = false) (e : Nat) :
    (directE leq ord .anc e).run s = (s, Fca.Gen.Lists.posetParents ord (recvOf leq s) e) := by
  unfold Fca.Gen.Lists.posetParents
  try simp only [pure_eq_ok, bind_ok_right]
  exact pureAt_uncached hc (posetParentsNocache_eq_model leq ord s hc e)

-- @target posetBottoms
theorem posetBottoms_eq_model (s : St α) (hc : s.useCache = false) :
    (extremesE leq .desc).run s = (s, Fca.Gen.Lists.posetBottoms ord (recvOf leq s)) := by
  unfold Fca.Gen.Lists.posetBottoms
  exact pureAt_filterM (posetDescendants_eq_model leq ord s hc)

-- @target posetTops
theorem posetTops_eq_model (s : St α) (hc : s.useCache = false) :
    (extremesE leq .anc).run s = (s, Fca.Gen.Lists.posetTops ord (recvOf leq s)) := by
  unfold Fca.Gen.Lists.posetTops
  exact pureAt_filterM (posetAncestors_eq_model leq ord s hc)

-- @target posetJoin
/-- `join(S)`; `None` and `[]` both stand for "all elements"; `hord`: Python walks a set in SOME order -/
theorem posetJoin_eq_model (s : St α) (hc : s.useCache = false) (hord : ∀ l, (ord l).Perm l) (S : Option (List Nat)) :
    (boundE leq ord .anc (S.getD [])).run s = (s, Fca.Gen.Lists.posetJoin ord (recvOf leq s) S) := by
  unfold Fca.Gen.Lists.posetJoin
  exact pureAt_boundE leq ord .anc hord (posetAncestors_eq_model leq ord s hc) (S.getD [])
    (by cases S with | none => rfl | some xs => cases xs <;> rfl)

-- @target posetMeet
theorem posetMeet_eq_model (s : St α) (hc : s.useCache = false) (hord : ∀ l, (ord l).Perm l) (S : Option (List Nat)) :
    (boundE leq ord .desc (S.getD [])).run s = (s, Fca.Gen.Lists.posetMeet ord (recvOf leq s) S) := by
  unfold Fca.Gen.Lists.posetMeet
  exact pureAt_boundE leq ord .desc hord (posetDescendants_eq_model leq ord s hc) (S.getD [])
    (by cases S with | none => rfl | some xs => cases xs <;> rfl)

end Fca.Gen.Lists
