/-
  The definitions generated from `fcapy/context/formal_context.py` (`Fca/Gen/GeneratedCtx.lean`: the properties
  `data / n_objects / n_attributes`, `extension_i`, `extension_monotone_i`, `intention_i`, `intention_monotone_i` and
  the by-name wrappers `extension`, `intention`, for a context whose `_data` is a `BinTableLists`) equal the
  hand-written model `Fca.Ctx.*` (`Fca/Model/Context.lean`) under the hypotheses of the C01 theorems plus
  `K.backend = .lists` (only that backend is translated).  What C01 proves without hypotheses has hypothesis-free
  companions (`ctxExtensionMonotoneI_full_eq_model`, `ctxExtension_error_eq_model`, `ctxIntention_error_eq_model`).
  `harness/genside.py` re-elaborates the text of this file as it does that of `Fca/Gen/Equiv.lean`.
-/
import Fca.Gen.GeneratedCtx
import Fca.Gen.Equiv
import Fca.Lemmas.Names
import Fca.Lemmas.AllI
import Fca.Lemmas.ExceptAux
namespace Fca.Gen.Lists
open Fca.Gen

set_option linter.unusedSimpArgs false

-- @target ctxData
theorem ctxData_eq_model (K : Ctx) : Fca.Gen.Lists.ctxData K = .ok K.table := by
  unfold Fca.Gen.Lists.ctxData
  rfl

-- @target ctxNObjects
theorem ctxNObjects_eq_model (K : Ctx) : Fca.Gen.Lists.ctxNObjects K = .ok K.nObjects := by
  unfold Fca.Gen.Lists.ctxNObjects
  simp only [ctxData_eq_model, ok_bind, pure_eq_ok]
  rfl

-- @target ctxNAttributes
theorem ctxNAttributes_eq_model (K : Ctx) : Fca.Gen.Lists.ctxNAttributes K = .ok K.nAttributes := by
  unfold Fca.Gen.Lists.ctxNAttributes
  simp only [ctxData_eq_model, ok_bind, pure_eq_ok]
  rfl

-- @target ctxExtensionI
theorem ctxExtensionI_eq_model (K : Ctx) (hb : K.backend = .lists) (hwf : K.table.WF) (B : List Nat)
    (base : Option (List Nat)) (hB : ∀ x ∈ B, x < K.nAttributes)
    (hbase : ∀ bs, base = some bs → ∀ x ∈ bs, x < K.nObjects) :
    Fca.Gen.Lists.ctxExtensionI K B base = .ok (K.extensionI B base) := by
  unfold Fca.Gen.Lists.ctxExtensionI Ctx.extensionI
  refine ite_eq_ok ?_ ?_ ?_
  · simp only [Gen.len, beq_iff_eq, eq_comm (a := 0)]
  · cases base <;> rfl
  · simp only [ctxData_eq_model, ctxNObjects_eq_model, ok_bind, pure_eq_ok,
      allI1_eq_model K.table hwf base (some B) hbase (OptIdx.valid_some hB), Fca.allI, hb]

-- @target ctxExtensionMonotoneI
theorem ctxExtensionMonotoneI_eq_model (K : Ctx) (hb : K.backend = .lists) (hwf : K.table.WF) (B : List Nat)
    (base : Option (List Nat)) (hB : ∀ x ∈ B, x < K.nAttributes)
    (hbase : ∀ bs, base = some bs → ∀ x ∈ bs, x < K.nObjects) :
    Fca.Gen.Lists.ctxExtensionMonotoneI K B base = .ok (K.extensionMonotoneI B base) := by
  unfold Fca.Gen.Lists.ctxExtensionMonotoneI Ctx.extensionMonotoneI
  refine ite_eq_ok ?_ ?_ ?_
  · exact beq_iff_eq
  · cases base <;> rfl
  · simp only [ctxData_eq_model, ctxNObjects_eq_model, ctxNAttributes_eq_model, ok_bind, pure_eq_ok,
      anyI1_eq_model K.table hwf base (some B) hbase (OptIdx.valid_some hB), Fca.anyI, hb]

/-- in the case of the `len()` shortcut (`hfull`) nothing else is assumed (C01.extension_monotone_i_full) -/
theorem ctxExtensionMonotoneI_full_eq_model (K : Ctx) (B : List Nat) (base : Option (List Nat))
    (hfull : B.length = K.nAttributes) :
    Fca.Gen.Lists.ctxExtensionMonotoneI K B base = .ok (K.extensionMonotoneI B base) := by
  unfold Fca.Gen.Lists.ctxExtensionMonotoneI Ctx.extensionMonotoneI
  rw [if_pos hfull]
  refine (if_pos ?_).trans ?_
  · exact beq_iff_eq.mpr hfull
  · cases base <;> rfl

-- @target ctxIntentionI
theorem ctxIntentionI_eq_model (K : Ctx) (hb : K.backend = .lists) (hwf : K.table.WF) (A : List Nat)
    (base : Option (List Nat)) (hA : ∀ x ∈ A, x < K.nObjects)
    (hbase : ∀ bs, base = some bs → ∀ x ∈ bs, x < K.nAttributes) :
    Fca.Gen.Lists.ctxIntentionI K A base = .ok (K.intentionI A base) := by
  unfold Fca.Gen.Lists.ctxIntentionI Ctx.intentionI
  refine ite_eq_ok ?_ ?_ ?_
  · simp only [Gen.len, beq_iff_eq, eq_comm (a := 0)]
  · cases base <;> rfl
  · simp only [ctxData_eq_model, ctxNObjects_eq_model, ctxNAttributes_eq_model, ok_bind, pure_eq_ok,
      allI0_eq_model K.table hwf (some A) base (OptIdx.valid_some hA) hbase, Fca.allI, hb]

-- @target ctxIntentionMonotoneI
theorem ctxIntentionMonotoneI_eq_model (K : Ctx) (hb : K.backend = .lists) (hwf : K.table.WF) (A : List Nat)
    (base : Option (List Nat)) (hbase : ∀ bs, base = some bs → ∀ x ∈ bs, x < K.nAttributes) :
    Fca.Gen.Lists.ctxIntentionMonotoneI K A base = .ok (K.intentionMonotoneI A base) := by
  unfold Fca.Gen.Lists.ctxIntentionMonotoneI Ctx.intentionMonotoneI
  have hinv : ∀ xs, some (List.filter (fun g => !A.contains g) (List.range K.table.height)) = some xs →
      ∀ x ∈ xs, x < K.table.height :=
    OptIdx.valid_some fun x hx => List.mem_range.mp (List.mem_filter.mp hx).1
  refine bind_of_ok (a := base.getD (List.range K.nAttributes)) (by cases base <;> rfl) ?_
  refine ite_eq_ok ?_ ?_ ?_
  · exact beq_iff_eq
  · rfl
  simp only [ctxData_eq_model, ctxNObjects_eq_model, Ctx.nObjects, ok_bind, pure_eq_ok, filterMap_ite_eq_filter,
    Gen.pySet, Gen.range, anyI0_eq_model K.table hwf _ base hinv hbase, Fca.anyI, hb]

theorem extensionI_subset (K : Ctx) (hwf : K.table.WF) (B bs : List Nat) (hB : ∀ x ∈ B, x < K.nAttributes)
    (hbs : ∀ x ∈ bs, x < K.nObjects) : ∀ g ∈ K.extensionI B (some bs), g < K.nObjects := by
  intro g hg
  rw [K.extensionI_eq hwf B _ hB (OptIdx.valid_some hbs)] at hg
  exact hbs g (List.mem_filter.mp hg).1

theorem extensionMonotoneI_subset (K : Ctx) (hwf : K.table.WF) (B bs : List Nat) (hB : ∀ x ∈ B, x < K.nAttributes)
    (hbs : ∀ x ∈ bs, x < K.nObjects) : ∀ g ∈ K.extensionMonotoneI B (some bs), g < K.nObjects := by
  intro g hg
  unfold Ctx.extensionMonotoneI at hg
  split at hg
  · exact hbs g hg
  · rw [anyI_axis1 K.table hwf K.backend (some bs) (some B) (OptIdx.valid_some hbs) (OptIdx.valid_some hB)] at hg
    exact hbs g (List.mem_filter.mp hg).1

theorem intentionI_subset (K : Ctx) (hwf : K.table.WF) (A : List Nat) (hA : ∀ x ∈ A, x < K.nObjects) :
    ∀ m ∈ K.intentionI A none, m < K.nAttributes := by
  intro m hm
  rw [K.intentionI_eq hwf A none hA (by intro cs h; cases h)] at hm
  exact List.mem_range.mp (List.mem_filter.mp hm).1

theorem intentionMonotoneI_subset (K : Ctx) (A : List Nat) : ∀ m ∈ K.intentionMonotoneI A none, m < K.nAttributes := by
  intro m hm
  unfold Ctx.intentionMonotoneI at hm
  simp only [Option.getD_none] at hm
  split at hm
  · exact List.mem_range.mp hm
  · exact List.mem_range.mp (List.mem_filter.mp hm).1

/-- `[names[i] for i in idxs]` with in-range indexes -/
theorem mapM_idx_names {names : List String} {n : Nat} (hn : names.length = n) {is : List Nat} (h : ∀ i ∈ is, i < n)
    (f : Nat → Except PyErr String) (hf : ∀ i, f i = (Gen.idx names i >>= fun t => Except.ok t)) :
    is.mapM f = .ok (is.map fun i => names.getD i "") := by
  subst hn
  apply mapM_ok
  intro i hi
  rw [hf, idx_ok (h i hi), ok_bind, ListAux.getD_eq_get names i "" (h i hi)]

-- @target ctxExtension
/-- the common tail of `extension`: derive by index (`x`; `hx` holds by cases on `mono`, whichever way the
    `is_monotone` conditional is written), then name the result -/
theorem ctxExtension_tail (K : Ctx) {attrs : List String} {ai : List Nat} (hai : namesToIdx K.attrNames attrs = .ok ai)
    (bi : List Nat) (hbi : K.objNames.length = K.nObjects → ∀ i ∈ bi, i < K.nObjects) (mono : Bool)
    (x : Except PyErr (List Nat))
    (hx : x = bif mono then ctxExtensionMonotoneI K ai (some bi) else ctxExtensionI K ai (some bi))
    (f : Nat → Except PyErr String) (hf : ∀ i, f i = (Gen.idx K.objNames i >>= fun t => Except.ok t)) :
    Agrees (K.backend = .lists ∧ K.table.WF ∧ K.objNames.length = K.nObjects ∧ K.attrNames.length = K.nAttributes)
      (x >>= fun e => List.mapM f e)
      (.ok (List.map (fun g => K.objNames.getD g "")
        (if (!mono) = true then K.extensionI ai (some bi) else K.extensionMonotoneI ai (some bi)))) := by
  subst hx
  refine Agrees.of_ok fun ⟨hb, hwf, hobj, hattr⟩ => ?_
  have haiR : ∀ i ∈ ai, i < K.nAttributes := hattr ▸ (namesToIdx_ok hai).1
  cases mono
  · exact bind_of_ok (ctxExtensionI_eq_model K hb hwf ai _ haiR (OptIdx.valid_some (hbi hobj)))
      (mapM_idx_names hobj (extensionI_subset K hwf ai bi haiR (hbi hobj)) f hf)
  · exact bind_of_ok (ctxExtensionMonotoneI_eq_model K hb hwf ai _ haiR (OptIdx.valid_some (hbi hobj)))
      (mapM_idx_names hobj (extensionMonotoneI_subset K hwf ai bi haiR (hbi hobj)) f hf)

/-- `extension` by name: whatever the model raises (an unknown attribute / base object is a `KeyError` on both
    sides) the source-derived definition raises — no hypothesis; and for a well-formed lists context it answers as the
    model does -/
theorem ctxExtension_agrees (K : Ctx) (attrs : List String) (base : Option (List String)) (mono : Bool) :
    Agrees (K.backend = .lists ∧ K.table.WF ∧ K.objNames.length = K.nObjects ∧ K.attrNames.length = K.nAttributes)
      (Fca.Gen.Lists.ctxExtension K attrs base mono) (K.extension attrs base mono) := by
  unfold Fca.Gen.Lists.ctxExtension Ctx.extension
  refine Agrees.names (by
    first | exact forIn_append _ _ (fun x acc => by rfl) _ | rfl | simp only [Gen.attrNameMap, bind_ok_right])
    fun ai hai => ?_
  cases base with
  | none =>
    simp only [ctxNObjects_eq_model, ok_bind, pure_eq_ok, Gen.range]
    exact ctxExtension_tail K hai _ (fun _ i hi => List.mem_range.mp hi) mono _ (by cases mono <;> rfl) _
      (fun i => by first | rfl | exact (bind_ok_right _).symm)
  | some bs =>
    simp only []
    exact Agrees.names (by
      first
        | exact (bind_ok_right _).trans (forIn_append _ _ (fun x acc => by rfl) _)
        | rfl
        | simp only [Gen.objNameMap, bind_ok_right])
      fun bi hbi =>
        ctxExtension_tail K hai bi (fun hobj => hobj ▸ (namesToIdx_ok hbi).1) mono _ (by cases mono <;> rfl) _
          (fun i => by first | rfl | exact (bind_ok_right _).symm)

/-- the index step of `extension`, whichever way the `is_monotone` conditional is written -/
macro "gen_ext_choice" K:ident hb:ident hwf:ident ai:ident bi:term:max hai:ident hbi:term:max mono:ident : tactic =>
  `(tactic| (
    have hbi' : ∀ bs, some $bi = some bs → ∀ x ∈ bs, x < Ctx.nObjects $K := by intro bs h; cases h; exact $hbi
    cases $mono:ident <;>
      simp [ctxExtensionI_eq_model $K $hb $hwf $ai (some $bi) $hai hbi',
        ctxExtensionMonotoneI_eq_model $K $hb $hwf $ai (some $bi) $hai hbi']))

theorem ctxExtension_eq_model (K : Ctx) (hb : K.backend = .lists) (hwf : K.table.WF)
    (hobj : K.objNames.length = K.nObjects) (hattr : K.attrNames.length = K.nAttributes)
    (attrs : List String) (base : Option (List String)) (mono : Bool) :
    Fca.Gen.Lists.ctxExtension K attrs base mono = K.extension attrs base mono :=
  (ctxExtension_agrees K attrs base mono).eq ⟨hb, hwf, hobj, hattr⟩

theorem ctxExtension_error_eq_model (K : Ctx) (attrs : List String) (base : Option (List String)) (mono : Bool)
    (e : PyErr) (h : K.extension attrs base mono = .error e) :
    Fca.Gen.Lists.ctxExtension K attrs base mono = .error e :=
  (ctxExtension_agrees K attrs base mono).error e h

-- @target ctxIntention
/-- `intention` by name: the model's exceptions unconditionally, its answers for a well-formed lists context -/
theorem ctxIntention_agrees (K : Ctx) (objs : List String) (mono : Bool) :
    Agrees (K.backend = .lists ∧ K.table.WF ∧ K.objNames.length = K.nObjects ∧ K.attrNames.length = K.nAttributes)
      (Fca.Gen.Lists.ctxIntention K objs mono) (K.intention objs mono) := by
  unfold Fca.Gen.Lists.ctxIntention Ctx.intention
  refine Agrees.names (by
    first | exact forIn_append _ _ (fun x acc => by rfl) _ | rfl | simp only [Gen.objNameMap, bind_ok_right])
    fun oi hoi => Agrees.of_ok fun ⟨hb, hwf, hobj, hattr⟩ => ?_
  have hoiR : ∀ i ∈ oi, i < K.nObjects := hobj ▸ (namesToIdx_ok hoi).1
  cases mono
  · refine bind_of_ok (ctxIntentionI_eq_model K hb hwf oi none hoiR (by intro bs h; cases h)) ?_
    exact mapM_idx_names hattr (intentionI_subset K hwf oi hoiR) _
      (fun i => by first | rfl | exact (bind_ok_right _).symm)
  · refine bind_of_ok (ctxIntentionMonotoneI_eq_model K hb hwf oi none (by intro bs h; cases h)) ?_
    exact mapM_idx_names hattr (intentionMonotoneI_subset K oi) _
      (fun i => by first | rfl | exact (bind_ok_right _).symm)

theorem ctxIntention_error_eq_model (K : Ctx) (objs : List String) (mono : Bool)
    (e : PyErr) (h : K.intention objs mono = .error e) :
    Fca.Gen.Lists.ctxIntention K objs mono = .error e :=
  (ctxIntention_agrees K objs mono).error e h

theorem ctxIntention_eq_model (K : Ctx) (hb : K.backend = .lists) (hwf : K.table.WF)
    (hobj : K.objNames.length = K.nObjects) (hattr : K.attrNames.length = K.nAttributes)
    (objs : List String) (mono : Bool) :
    Fca.Gen.Lists.ctxIntention K objs mono = K.intention objs mono :=
  (ctxIntention_agrees K objs mono).eq ⟨hb, hwf, hobj, hattr⟩

end Fca.Gen.Lists
