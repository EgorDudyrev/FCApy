/-
  Every definition the translator generates from the Python source of `BinTableLists` (`Fca/Gen/Generated.lean`,
  namespace `Fca.Gen.Lists`) equals the hand-written model (`Fca/Model/BinTable.lean`, namespace `Fca.L`):

      f_eq_model : t.WF → (rows in range) → (cols in range) → Gen.Lists.f t rows cols = .ok (L.f t rows cols)

  under the hypotheses of the C01/C05 theorems (the range hypotheses are written out: `C01.BaseInRange` and
  `OptIdx.Valid` both unfold to them), which therefore hold of the source-derived definitions (`gen_*` in `Props/C01`,
  `Props/C05`).  Here: `all/any/sum` (whole table, per row, per column) and `all_i/any_i`.

  `harness/genside.py` re-elaborates the TEXT of this file against freshly generated definitions whenever the Python
  source has changed.  The generated namespace is renamed then, so refer to it only as `Fca.Gen.Lists`; a
  `-- @target f` marker says which generated function the declarations after it belong to.  The scripts do not
  mention the text of the generated loop bodies (a body need only agree, on in-range arguments, with one round of the
  model's loop: the `k` and `stop` of `forIn_break`) and accept harmless variants of the source: swapped operands, a
  missing `break`.
-/
import Fca.Gen.Generated
import Fca.Gen.RtLemmas
import Fca.Lemmas.BinTable
namespace Fca.Gen.Lists
open Fca.Gen

-- simp arguments that only a variant of the source needs are left in the scripts
set_option linter.unusedSimpArgs false

theorem getD_lt {sel : Option (List Nat)} {n : Nat} (h : ∀ xs, sel = some xs → ∀ x ∈ xs, x < n) :
    ∀ x ∈ sel.getD (List.range n), x < n :=
  OptIdx.getD_lt h

/-- closes `lhs = rhs` goals that are equal up to unfolding, moving `Except.ok` out of a conditional, or the order of
    the operands of `&`, `|`, `+` (a source with swapped operands is accepted) -/
macro "gen_close" : tactic =>
  `(tactic| first
    | done
    | rfl
    | exact ite_ok _ _ _
    | (simp [Function.curry, Bool.and_comm, Bool.or_comm, Nat.add_comm] <;> done))

/-- the shared first step: split the optional selections, name the in-range facts -/
macro "gen_selections" hrs:ident hcs:ident : tactic =>
  `(tactic| (
    rename_i rows cols hr hc
    have $hrs : ∀ i ∈ L.rowsOf _ rows, i < _ := getD_lt hr
    have $hcs : ∀ c ∈ cols.getD (List.range _), c < _ := getD_lt hc
    cases rows <;> cases cols <;>
      simp only [L.rowsOf, Option.getD_none, Option.getD_some] at $hrs:ident $hcs:ident ⊢ <;>
      simp only [pure_eq_ok, Gen.range, Gen.len, Gen.zip, listMul_singleton, List.length_range]))

/-- `sel = None` stands for `range(n)`, in the source and in the model alike: it suffices to treat an explicit list
    of in-range indexes -/
theorem of_some {α} {n : Nat} {sel : Option (List Nat)} {G : Option (List Nat) → Except PyErr α}
    {M : Option (List Nat) → α} (hs : ∀ xs, sel = some xs → ∀ x ∈ xs, x < n)
    (hG : G none = G (some (List.range n))) (hM : M none = M (some (List.range n)))
    (h : ∀ xs : List Nat, (∀ i ∈ xs, i < n) → G (some xs) = .ok (M (some xs))) : G sel = .ok (M sel) := by
  cases sel with
  | none => rw [hG, hM]; exact h _ (fun i hi => List.mem_range.mp hi)
  | some xs => exact h xs (hs xs rfl)

theorem of_some_rows {α γ} {n : Nat} {rows : Option (List Nat)} {c : γ} {G : Option (List Nat) → γ → Except PyErr α}
    {M : Option (List Nat) → γ → α} (hr : ∀ xs, rows = some xs → ∀ x ∈ xs, x < n)
    (hG : G none c = G (some (List.range n)) c) (hM : M none c = M (some (List.range n)) c)
    (h : ∀ rs : List Nat, (∀ i ∈ rs, i < n) → G (some rs) c = .ok (M (some rs) c)) : G rows c = .ok (M rows c) :=
  of_some (G := fun r => G r c) (M := fun r => M r c) hr hG hM h

theorem idx_data (t : Table) {i : Nat} (hi : i < t.height) : Gen.idx t.data i = Except.ok (t.row i) := by
  rw [idx_ok hi]
  exact congrArg Except.ok (ListAux.getD_eq_get t.data i [] hi).symm

theorem idx_row (t : Table) (h : t.WF) {i j : Nat} (hi : i < t.height) (hj : j < t.width) :
    Gen.idx (t.row i) j = Except.ok (t.get i j) := by
  have hj' : j < (t.row i).length := (t.row_length h hi).symm ▸ hj
  rw [idx_ok hj']
  exact congrArg Except.ok (ListAux.getD_eq_get (t.row i) j false hj').symm

/-- `[… row[c] … for v, c in zip(vals, cs)]` with in-range columns -/
theorem mapM_zip_cols {β γ} {n : Nat} {cs : List Nat} (hcs : ∀ c ∈ cs, c < n) (vals : List β)
    (f : β × Nat → Except PyErr γ) (g : β → Nat → γ) (h : ∀ v c, c < n → f (v, c) = .ok (g v c)) :
    (vals.zip cs).mapM f = .ok (List.zipWith g vals cs) := by
  rw [mapM_ok (g := fun p => g p.1 p.2) (fun p hp => h p.1 p.2 (hcs _ (List.of_mem_zip hp).2)),
    List.map_zip_eq_zipWith]
  rfl

/-! The early `break`s are optimisations (`L.allPerColumnLoop_eq_foldl`): a source without them is proved equal to the
    model as well. -/

theorem forIn_allPerColumn_nobreak {ε} (t : Table) (cs rs : List Nat) (vals : List Bool)
    (f : Nat → List Bool → Except ε (ForInStep (List Bool)))
    (h : ∀ i ∈ rs, ∀ v, f i v = .ok (.yield (List.zipWith (fun v c => v && t.get i c) v cs))) :
    forIn rs vals f = .ok (L.allPerColumnLoop t cs rs vals) := by
  rw [L.allPerColumnLoop_eq_foldl]
  exact forIn_break _ (fun _ => false) (fun rs v => rs.foldl _ v) (fun _ => rfl) (fun _ _ _ => rfl) h vals

theorem forIn_anyPerColumn_nobreak {ε} (t : Table) (cs rs : List Nat) (vals : List Bool)
    (f : Nat → List Bool → Except ε (ForInStep (List Bool)))
    (h : ∀ i ∈ rs, ∀ v, f i v = .ok (.yield (List.zipWith (fun v c => v || t.get i c) v cs))) :
    forIn rs vals f = .ok (L.anyPerColumnLoop t cs rs vals) := by
  rw [L.anyPerColumnLoop_eq_foldl]
  exact forIn_break _ (fun _ => false) (fun rs v => rs.foldl _ v) (fun _ => rfl) (fun _ _ _ => rfl) h vals

/-! `forIn_return_const` and `mapM_ok` are applied to the body as it unfolds (`refine … .trans`, `exact`: up to
    reduction), not after a normalising pass: whether the source computes `rows` by a conditional expression (a `let`)
    or by an `if` statement (a bind of `pure`) makes no difference then. -/

-- @target allAll
theorem allAll_eq_model (t : Table) (hwf : t.WF) (rows cols : Option (List Nat))
    (hr : ∀ xs, rows = some xs → ∀ x ∈ xs, x < t.height) (hc : ∀ xs, cols = some xs → ∀ x ∈ xs, x < t.width) :
    Fca.Gen.Lists.allAll t rows cols = .ok (L.allAll t rows cols) := by
  refine of_some_rows hr rfl rfl (fun rs hrs => ?_)
  unfold Fca.Gen.Lists.allAll L.allAll
  cases cols with
  | none =>
    refine (forIn_return_const (fun i => !Fca.pyAll (t.row i)) false _ (fun i hi s => by
      simp only [idx_data t (hrs i hi), ok_bind, pyAll_eq]; gen_close)).trans ?_
    simp only [L.rowsOf, Option.getD_some, pure_eq_ok, ite_ok_not, List.all_eq_not_any_not, Bool.not_not]
  | some cs =>
    have hcs := hc cs rfl
    refine (forIn_return_const (fun i => List.any _ fun j => !t.get i j) false _ (fun i hi s => by
      simp only [idx_data t (hrs i hi), ok_bind]
      rw [forIn_return_const (fun j => !t.get i j) false _ (fun j hj s => by
        simp only [idx_row t hwf (hrs i hi) (hcs j hj), ok_bind]; gen_close)]
      gen_close)).trans ?_
    simp only [L.rowsOf, Option.getD_some, pure_eq_ok, ite_ok_not, List.all_eq_not_any_not, Bool.not_not]

-- @target anyAny
theorem anyAny_eq_model (t : Table) (hwf : t.WF) (rows cols : Option (List Nat))
    (hr : ∀ xs, rows = some xs → ∀ x ∈ xs, x < t.height) (hc : ∀ xs, cols = some xs → ∀ x ∈ xs, x < t.width) :
    Fca.Gen.Lists.anyAny t rows cols = .ok (L.anyAny t rows cols) := by
  refine of_some_rows hr rfl rfl (fun rs hrs => ?_)
  unfold Fca.Gen.Lists.anyAny L.anyAny
  cases cols with
  | none =>
    refine (forIn_return_const (fun i => Fca.pyAny (t.row i)) true _ (fun i hi s => by
      simp only [idx_data t (hrs i hi), ok_bind, pyAny_eq]; gen_close)).trans ?_
    simp only [L.rowsOf, Option.getD_some, pure_eq_ok, ite_ok_self]
  | some cs =>
    have hcs := hc cs rfl
    refine (forIn_return_const (fun i => List.any _ fun j => t.get i j) true _ (fun i hi s => by
      simp only [idx_data t (hrs i hi), ok_bind]
      rw [forIn_return_const (fun j => t.get i j) true _ (fun j hj s => by
        simp only [idx_row t hwf (hrs i hi) (hcs j hj), ok_bind]; gen_close)]
      gen_close)).trans ?_
    simp only [L.rowsOf, Option.getD_some, pure_eq_ok, ite_ok_self]

-- @target allPerRow
theorem allPerRow_eq_model (t : Table) (hwf : t.WF) (rows cols : Option (List Nat))
    (hr : ∀ xs, rows = some xs → ∀ x ∈ xs, x < t.height) (hc : ∀ xs, cols = some xs → ∀ x ∈ xs, x < t.width) :
    Fca.Gen.Lists.allPerRow t rows cols = .ok (L.allPerRow t rows cols) := by
  refine of_some_rows hr rfl rfl (fun rs hrs => ?_)
  unfold Fca.Gen.Lists.allPerRow L.allPerRow
  cases cols with
  | none =>
    exact mapM_ok (g := fun i => Fca.pyAll (t.row i)) (fun i hi => by
      simp only [idx_data t (hrs i hi), ok_bind, pyAll_eq]; gen_close)
  | some cs =>
    have hcs := hc cs rfl
    exact mapM_ok (g := fun i => Fca.pyAll (List.map (fun j => t.get i j) cs)) (fun i hi => by
      rw [mapM_ok (g := fun j => t.get i j) (fun j hj => by
        simp only [idx_data t (hrs i hi), ok_bind, idx_row t hwf (hrs i hi) (hcs j hj)]; gen_close)]
      simp only [ok_bind, pyAll_eq]; gen_close)

-- @target anyPerRow
theorem anyPerRow_eq_model (t : Table) (hwf : t.WF) (rows cols : Option (List Nat))
    (hr : ∀ xs, rows = some xs → ∀ x ∈ xs, x < t.height) (hc : ∀ xs, cols = some xs → ∀ x ∈ xs, x < t.width) :
    Fca.Gen.Lists.anyPerRow t rows cols = .ok (L.anyPerRow t rows cols) := by
  refine of_some_rows hr rfl rfl (fun rs hrs => ?_)
  unfold Fca.Gen.Lists.anyPerRow L.anyPerRow
  cases cols with
  | none =>
    exact mapM_ok (g := fun i => Fca.pyAny (t.row i)) (fun i hi => by
      simp only [idx_data t (hrs i hi), ok_bind, pyAny_eq]; gen_close)
  | some cs =>
    have hcs := hc cs rfl
    exact mapM_ok (g := fun i => Fca.pyAny (List.map (fun j => t.get i j) cs)) (fun i hi => by
      rw [mapM_ok (g := fun j => t.get i j) (fun j hj => by
        simp only [idx_data t (hrs i hi), ok_bind, idx_row t hwf (hrs i hi) (hcs j hj)]; gen_close)]
      simp only [ok_bind, pyAny_eq]; gen_close)

-- @target sumPerRow
theorem sumPerRow_eq_model (t : Table) (hwf : t.WF) (rows cols : Option (List Nat))
    (hr : ∀ xs, rows = some xs → ∀ x ∈ xs, x < t.height) (hc : ∀ xs, cols = some xs → ∀ x ∈ xs, x < t.width) :
    Fca.Gen.Lists.sumPerRow t rows cols = .ok (L.sumPerRow t rows cols) := by
  refine of_some_rows hr rfl rfl (fun rs hrs => ?_)
  unfold Fca.Gen.Lists.sumPerRow L.sumPerRow
  cases cols with
  | none =>
    exact mapM_ok (g := fun i => L.countTrue (t.row i)) (fun i hi => by
      simp only [idx_data t (hrs i hi), ok_bind, pySumB_eq]; gen_close)
  | some cs =>
    have hcs := hc cs rfl
    exact mapM_ok (g := fun i => L.countTrue (List.map (fun j => t.get i j) cs)) (fun i hi => by
      rw [mapM_ok (g := fun j => t.get i j) (fun j hj => by
        simp only [idx_data t (hrs i hi), ok_bind, idx_row t hwf (hrs i hi) (hcs j hj)]; gen_close)]
      simp only [ok_bind, pySumB_eq]; gen_close)

-- @target allPerColumn
theorem allPerColumn_eq_model (t : Table) (hwf : t.WF) (rows cols : Option (List Nat))
    (hr : ∀ xs, rows = some xs → ∀ x ∈ xs, x < t.height) (hc : ∀ xs, cols = some xs → ∀ x ∈ xs, x < t.width) :
    Fca.Gen.Lists.allPerColumn t rows cols = .ok (L.allPerColumn t rows cols) := by
  refine of_some hc ?_ rfl (fun cs hcs => ?_)
  · unfold Fca.Gen.Lists.allPerColumn
    simp only [Gen.len, Gen.range, List.length_range]
  refine of_some_rows hr rfl rfl (fun rs hrs => ?_)
  unfold Fca.Gen.Lists.allPerColumn L.allPerColumn
  simp only [L.rowsOf, Option.getD_some, pure_eq_ok, Gen.len, Gen.zip, listMul_singleton, ok_bind, bind_ok_right]
  first
  | (refine forIn_break (fun i v => List.zipWith (fun v c => v && t.get i c) v cs) (fun v => !Fca.pyAny v)
       (L.allPerColumnLoop t cs) (fun _ => rfl) (fun _ _ _ => rfl) (fun i hi v => ?_) _
     simp only [idx_data t (hrs i hi), ok_bind]
     rw [mapM_zip_cols hcs v _ (fun v c => v && t.get i c) (fun v c hc => by
       simp only [idx_row t hwf (hrs i hi) hc, ok_bind]; gen_close)]
     simp only [ok_bind, pyAny_eq]
     gen_close)
  | (refine forIn_allPerColumn_nobreak t _ _ _ _ (fun i hi v => ?_)      -- the source has no `break`
     simp only [idx_data t (hrs i hi), ok_bind]
     rw [mapM_zip_cols hcs v _ (fun v c => v && t.get i c) (fun v c hc => by
       simp only [idx_row t hwf (hrs i hi) hc, ok_bind]; gen_close)]
     simp only [ok_bind]
     gen_close)

-- @target anyPerColumn
theorem anyPerColumn_eq_model (t : Table) (hwf : t.WF) (rows cols : Option (List Nat))
    (hr : ∀ xs, rows = some xs → ∀ x ∈ xs, x < t.height) (hc : ∀ xs, cols = some xs → ∀ x ∈ xs, x < t.width) :
    Fca.Gen.Lists.anyPerColumn t rows cols = .ok (L.anyPerColumn t rows cols) := by
  refine of_some hc ?_ rfl (fun cs hcs => ?_)
  · unfold Fca.Gen.Lists.anyPerColumn
    simp only [Gen.len, Gen.range, List.length_range]
  refine of_some_rows hr rfl rfl (fun rs hrs => ?_)
  unfold Fca.Gen.Lists.anyPerColumn L.anyPerColumn
  simp only [L.rowsOf, Option.getD_some, pure_eq_ok, Gen.len, Gen.zip, listMul_singleton, ok_bind, bind_ok_right]
  first
  | (refine forIn_break (fun i v => List.zipWith (fun v c => v || t.get i c) v cs) Fca.pyAll
       (L.anyPerColumnLoop t cs) (fun _ => rfl) (fun _ _ _ => rfl) (fun i hi v => ?_) _
     simp only [idx_data t (hrs i hi), ok_bind]
     rw [mapM_zip_cols hcs v _ (fun v c => v || t.get i c) (fun v c hc => by
       simp only [idx_row t hwf (hrs i hi) hc, ok_bind]; gen_close)]
     simp only [ok_bind, pyAll_eq]
     gen_close)
  | (refine forIn_anyPerColumn_nobreak t _ _ _ _ (fun i hi v => ?_)      -- the source has no `break`
     simp only [idx_data t (hrs i hi), ok_bind]
     rw [mapM_zip_cols hcs v _ (fun v c => v || t.get i c) (fun v c hc => by
       simp only [idx_row t hwf (hrs i hi) hc, ok_bind]; gen_close)]
     simp only [ok_bind]
     gen_close)

-- @target sumPerColumn
theorem sumPerColumn_eq_model (t : Table) (hwf : t.WF) (rows cols : Option (List Nat))
    (hr : ∀ xs, rows = some xs → ∀ x ∈ xs, x < t.height) (hc : ∀ xs, cols = some xs → ∀ x ∈ xs, x < t.width) :
    Fca.Gen.Lists.sumPerColumn t rows cols = .ok (L.sumPerColumn t rows cols) := by
  refine of_some hc ?_ rfl (fun cs hcs => ?_)
  · unfold Fca.Gen.Lists.sumPerColumn
    simp only [Gen.len, Gen.range, List.length_range]
  refine of_some_rows hr rfl rfl (fun rs hrs => ?_)
  unfold Fca.Gen.Lists.sumPerColumn L.sumPerColumn
  simp only [L.rowsOf, Option.getD_some, pure_eq_ok, Gen.len, Gen.zip, listMul_singleton, ok_bind, bind_ok_right]
  refine forIn_break (fun i v => List.zipWith (fun v c => v + (if t.get i c then 1 else 0)) v cs) (fun _ => false)
    (L.sumPerColumnLoop t cs) (fun _ => rfl) (fun _ _ _ => rfl) (fun i hi v => ?_) _
  simp only [idx_data t (hrs i hi), ok_bind]
  rw [mapM_zip_cols hcs v _ (fun v c => v + (if t.get i c then 1 else 0)) (fun v c hc => by
    simp only [idx_row t hwf (hrs i hi) hc, ok_bind, intOfBool_eq]; gen_close)]
  simp only [ok_bind]
  gen_close

-- @target sumAll
theorem sumAll_eq_model (t : Table) (hwf : t.WF) (rows cols : Option (List Nat))
    (hr : ∀ xs, rows = some xs → ∀ x ∈ xs, x < t.height) (hc : ∀ xs, cols = some xs → ∀ x ∈ xs, x < t.width) :
    Fca.Gen.Lists.sumAll t rows cols = .ok (L.sumAll t rows cols) := by
  unfold Fca.Gen.Lists.sumAll L.sumAll
  rw [sumPerRow_eq_model t hwf rows cols hr hc]
  simp only [ok_bind, pure_eq_ok, pySum_eq]

/-! `AbstractBinTable.all / any / all_i / any_i` on a `BinTableLists` receiver, specialised to `axis = 0 / 1`
  (the translator folds the `axis` tests; `self.…` resolves along `BinTableLists → AbstractBinTable`) -/

-- @target allAxis0
theorem allAxis0_eq_model (t : Table) (hwf : t.WF) (rows cols : Option (List Nat))
    (hr : ∀ xs, rows = some xs → ∀ x ∈ xs, x < t.height) (hc : ∀ xs, cols = some xs → ∀ x ∈ xs, x < t.width) :
    Fca.Gen.Lists.allAxis0 t rows cols = .ok (L.allPerColumn t rows cols) := by
  unfold Fca.Gen.Lists.allAxis0
  rw [allPerColumn_eq_model t hwf rows cols hr hc]; gen_close

-- @target allAxis1
theorem allAxis1_eq_model (t : Table) (hwf : t.WF) (rows cols : Option (List Nat))
    (hr : ∀ xs, rows = some xs → ∀ x ∈ xs, x < t.height) (hc : ∀ xs, cols = some xs → ∀ x ∈ xs, x < t.width) :
    Fca.Gen.Lists.allAxis1 t rows cols = .ok (L.allPerRow t rows cols) := by
  unfold Fca.Gen.Lists.allAxis1
  rw [allPerRow_eq_model t hwf rows cols hr hc]; gen_close

-- @target anyAxis0
theorem anyAxis0_eq_model (t : Table) (hwf : t.WF) (rows cols : Option (List Nat))
    (hr : ∀ xs, rows = some xs → ∀ x ∈ xs, x < t.height) (hc : ∀ xs, cols = some xs → ∀ x ∈ xs, x < t.width) :
    Fca.Gen.Lists.anyAxis0 t rows cols = .ok (L.anyPerColumn t rows cols) := by
  unfold Fca.Gen.Lists.anyAxis0
  rw [anyPerColumn_eq_model t hwf rows cols hr hc]; gen_close

-- @target anyAxis1
theorem anyAxis1_eq_model (t : Table) (hwf : t.WF) (rows cols : Option (List Nat))
    (hr : ∀ xs, rows = some xs → ∀ x ∈ xs, x < t.height) (hc : ∀ xs, cols = some xs → ∀ x ∈ xs, x < t.width) :
    Fca.Gen.Lists.anyAxis1 t rows cols = .ok (L.anyPerRow t rows cols) := by
  unfold Fca.Gen.Lists.anyAxis1
  rw [anyPerRow_eq_model t hwf rows cols hr hc]; gen_close

/-- closes the index-pairing step of `all_i / any_i`: `[i for i, flg in zip(sel, flags) / enumerate(flags) if flg]` -/
macro "gen_pairing" sel:ident : tactic =>
  `(tactic| (
    simp only [ok_bind, pure_eq_ok]
    cases $sel:ident <;>
      simp only [L.allI, L.anyI, L.pairFilter, zipFilter, Gen.enumerate, Gen.zip, Nat.zero_ne_one, Nat.one_ne_zero,
        if_true, if_false] <;>
      gen_close))

-- @target allI0
theorem allI0_eq_model (t : Table) (hwf : t.WF) (rows cols : Option (List Nat))
    (hr : ∀ xs, rows = some xs → ∀ x ∈ xs, x < t.height) (hc : ∀ xs, cols = some xs → ∀ x ∈ xs, x < t.width) :
    Fca.Gen.Lists.allI0 t rows cols = .ok (L.allI t 0 rows cols) := by
  unfold Fca.Gen.Lists.allI0
  rw [allAxis0_eq_model t hwf rows cols hr hc]
  simp only [ok_bind, pure_eq_ok]
  -- `[i for i, flg in (zip(sel, flags) if sel is not None else enumerate(flags)) if flg]` is `L.pairFilter sel flags`
  -- once `sel` is split, whichever way the conditional is written
  exact congrArg Except.ok (by cases cols <;> rfl)

-- @target allI1
theorem allI1_eq_model (t : Table) (hwf : t.WF) (rows cols : Option (List Nat))
    (hr : ∀ xs, rows = some xs → ∀ x ∈ xs, x < t.height) (hc : ∀ xs, cols = some xs → ∀ x ∈ xs, x < t.width) :
    Fca.Gen.Lists.allI1 t rows cols = .ok (L.allI t 1 rows cols) := by
  unfold Fca.Gen.Lists.allI1
  rw [allAxis1_eq_model t hwf rows cols hr hc]
  simp only [ok_bind, pure_eq_ok]
  exact congrArg Except.ok (by cases rows <;> rfl)

-- @target anyI0
theorem anyI0_eq_model (t : Table) (hwf : t.WF) (rows cols : Option (List Nat))
    (hr : ∀ xs, rows = some xs → ∀ x ∈ xs, x < t.height) (hc : ∀ xs, cols = some xs → ∀ x ∈ xs, x < t.width) :
    Fca.Gen.Lists.anyI0 t rows cols = .ok (L.anyI t 0 rows cols) := by
  unfold Fca.Gen.Lists.anyI0
  rw [anyAxis0_eq_model t hwf rows cols hr hc]
  simp only [ok_bind, pure_eq_ok]
  exact congrArg Except.ok (by cases cols <;> rfl)

-- @target anyI1
theorem anyI1_eq_model (t : Table) (hwf : t.WF) (rows cols : Option (List Nat))
    (hr : ∀ xs, rows = some xs → ∀ x ∈ xs, x < t.height) (hc : ∀ xs, cols = some xs → ∀ x ∈ xs, x < t.width) :
    Fca.Gen.Lists.anyI1 t rows cols = .ok (L.anyI t 1 rows cols) := by
  unfold Fca.Gen.Lists.anyI1
  rw [anyAxis1_eq_model t hwf rows cols hr hc]
  simp only [ok_bind, pure_eq_ok]
  exact congrArg Except.ok (by cases rows <;> rfl)

end Fca.Gen.Lists
