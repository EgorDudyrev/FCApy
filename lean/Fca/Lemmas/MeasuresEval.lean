/-
  What the measure functions compute on a concept lattice.  `stability` counts the generating subsets of the extent
  (`utils.powerset` is a permutation of `Spec.sublists`); the two bounds are read off the numbers `2 ^ |A ∩ D|` of
  subsets under the child extents `D`, between whose maximum and sum the number of non-generators lies.  The bracket
  and the exponentiated log bound are then arithmetic in exact rationals, by core's own `Rat` lemmas.
-/
import Fca.Lemmas.MeasuresLattice
import Fca.Lemmas.AllI
import Fca.Lemmas.SharedLoops
namespace Fca.Measures
open Fca.Spec

theorem isCombs_combinations : ListAux.IsCombs combinations :=
  ⟨fun l => by cases l <;> rfl, fun _ => rfl, fun _ _ _ => rfl⟩

theorem powerset_eq_head (s : List Nat) :
    powerset s = [[]] ++ (List.range s.length).flatMap (fun r => combinations s (r + 1)) := by
  unfold powerset
  rw [List.range_succ_eq_map, List.flatMap_cons, List.flatMap_map, isCombs_combinations.zero]

theorem flatMap_append_perm {α β} (l : List α) (f g : α → List β) :
    (l.flatMap f ++ l.flatMap g).Perm (l.flatMap fun x => f x ++ g x) := by
  induction l with
  | nil => exact List.Perm.refl _
  | cons a l ih =>
    rw [List.flatMap_cons, List.flatMap_cons, List.flatMap_cons, List.append_assoc, List.append_assoc]
    refine ((List.Perm.trans ?_ (ih.append_left _))).append_left _
    rw [← List.append_assoc, ← List.append_assoc]
    exact List.perm_append_comm.append_right _

/-- splitting every `combinations (x :: xs) (r + 1)` into the sub-tuples with `x` and those without -/
theorem powerset_cons_perm (x : Nat) (xs : List Nat) :
    (powerset (x :: xs)).Perm (powerset xs ++ (powerset xs).map (x :: ·)) := by
  have hG : [[]] ++ (List.range (xs.length + 1)).flatMap (fun r => combinations xs (r + 1)) = powerset xs := by
    have hlast : combinations xs (xs.length + 1) = [] :=
      List.eq_nil_iff_forall_not_mem.mpr fun s hs =>
        have ⟨hsub, hlen⟩ := isCombs_combinations.mem.mp hs
        Nat.not_succ_le_self _ (hlen ▸ hsub.length_le)
    rw [powerset_eq_head xs, List.range_succ, List.flatMap_append, List.flatMap_singleton, hlast, List.append_nil]
  have hM : (List.range (xs.length + 1)).flatMap (fun r => (combinations xs r).map (x :: ·))
      = (powerset xs).map (x :: ·) := by
    unfold powerset
    rw [List.map_flatMap]
  rw [powerset_eq_head (x :: xs), ← hM, ← hG, List.append_assoc]
  simp only [List.length_cons, combinations]
  exact ((flatMap_append_perm _ _ _).symm.trans List.perm_append_comm).append_left [[]]

theorem powerset_perm_sublists (s : List Nat) : (powerset s).Perm (sublists s) := by
  induction s with
  | nil => exact List.Perm.refl _
  | cons x xs ih => exact (powerset_cons_perm x xs).trans (ih.append (ih.map _))

theorem countP_sublists_all (p : Nat → Bool) (l : List Nat) :
    (sublists l).countP (fun S => S.all p) = 2 ^ (l.countP p) := by
  induction l with
  | nil => rfl
  | cons x xs ih =>
    have hcomp : ((fun S : List Nat => S.all p) ∘ fun S => x :: S) = fun S => p x && S.all p :=
      funext fun S => List.all_cons
    rw [sublists, List.countP_append, List.countP_map, hcomp, ih, List.countP_cons]
    cases p x with
    | true => simp only [Bool.true_and, if_true, ih, Nat.pow_succ, Nat.mul_two]
    | false => simp only [Bool.false_and, List.countP_false, Function.const, Bool.false_eq_true, if_false, Nat.add_zero]

theorem countP_or_le {α} (p q : α → Bool) (l : List α) :
    l.countP (fun x => p x || q x) ≤ l.countP p + l.countP q := by
  induction l with
  | nil => exact Nat.le_refl 0
  | cons a as ih =>
    rw [List.countP_cons, List.countP_cons, List.countP_cons, Nat.add_add_add_comm]
    exact Nat.add_le_add ih (by cases p a <;> cases q a <;> decide)

theorem countP_any_le_sum {α γ} (cs : List γ) (P : γ → α → Bool) (l : List α) :
    l.countP (fun S => cs.any (fun c => P c S)) ≤ (cs.map fun c => l.countP (P c)).sum := by
  induction cs with
  | nil => simp
  | cons c cs ih =>
    simp only [List.any_cons, List.map_cons, List.sum_cons]
    exact Nat.le_trans (countP_or_le _ _ l) (Nat.add_le_add_left ih _)

theorem countP_mono_of_imp {α} (p q : α → Bool) (l : List α) (h : ∀ x ∈ l, p x = true → q x = true) :
    l.countP p ≤ l.countP q := List.countP_mono_left h

theorem setEq_iff (a b : List Nat) : setEq a b = true ↔ ∀ x, x ∈ a ↔ x ∈ b := ListAux.all_contains_and_iff a b

/-- on intents (filters of `range width`) set equality is list equality -/
theorem setEq_intAll (t : Table) (S A : List Nat) :
    setEq (intAll t S) (intAll t A) = (intAll t S == intAll t A) := by
  rw [Bool.eq_iff_iff, setEq_iff, beq_iff_eq]
  constructor
  · intro h
    refine intAll_eq_of_mem_iff t fun a ha => ?_
    have := h a
    rw [mem_intAll, mem_intAll] at this
    exact ⟨fun h1 => (this.mp ⟨ha, h1⟩).2, fun h1 => (this.mpr ⟨ha, h1⟩).2⟩
  · intro h x; rw [h]

theorem stabilityLoop_eq (K : Ctx) (B : List Nat) (l : List (List Nat)) (x : Nat) :
    stabilityLoop K B l x = x + l.countP (fun gs => setEq (K.intentionI gs none) B) := by
  induction l generalizing x with
  | nil => simp [stabilityLoop]
  | cons gs rest ih =>
    rw [stabilityLoop, ih, List.countP_cons, Nat.add_assoc, Nat.add_comm (List.countP _ rest)]

theorem stabilityLoop_genCount (K : Ctx) (hwf : K.table.WF) (A B : List Nat)
    (h : isConcept K.table A B = true) :
    stabilityLoop K B (powerset A) 0 = genCount K.table A B := by
  rw [stabilityLoop_eq, Nat.zero_add, (powerset_perm_sublists A).countP_eq]
  unfold genCount
  apply List.countP_congr
  intro S hS
  rw [K.intentionI_none hwf fun g hg => isConcept_extent_lt h g (mem_of_mem_sublists hS g hg),
    ← ((isConcept_iff K.table).mp h).2, setEq_intAll]

theorem dedup_of_nodup {l : List Nat} (h : l.Nodup) : dedup l = l := by
  induction l with
  | nil => rfl
  | cons x xs ih =>
    obtain ⟨hx, hxs⟩ := List.nodup_cons.mp h
    rw [dedup, ih hxs, List.filter_eq_self.mpr]
    exact fun y hy => bne_iff_ne.mpr fun (e : y = x) => hx (e ▸ hy)

theorem setDiffLen_add {A : List Nat} (hA : A.Nodup) (D : List Nat) :
    setDiffLen A D + A.countP (fun g => D.contains g) = A.length := by
  rw [setDiffLen, dedup_of_nodup hA, ← List.countP_eq_length_filter, Nat.add_comm,
    List.length_eq_countP_add_countP (fun g => D.contains g) (l := A)]
  simp only [Bool.not_eq_true, Bool.decide_eq_false]

def extOf (L : Lattice) (j : Nat) : List Nat := (L.concepts.map Prod.fst).getD j []

theorem extOf_eq (L : Lattice) {j : Nat} {A B : List Nat} (hj : L.concepts[j]? = some (A, B)) :
    extOf L j = A := exts_getD L hj

theorem get_ok (L : Lattice) {j : Nat} {c : List Nat × List Nat} (hj : L.concepts[j]? = some c) :
    L.get j = .ok c := by
  rw [Lattice.get, hj]

theorem invDiff_eq (L : Lattice) (A : List Nat) (cs : List Nat) (hcs : ∀ j ∈ cs, j < L.concepts.length) :
    invDiff L A cs = .ok (cs.map fun j => pow2neg (setDiffLen A (extOf L j))) := by
  induction cs with
  | nil => rfl
  | cons j rest ih =>
    obtain ⟨⟨D, E⟩, hc⟩ := get_of_lt L (hcs j List.mem_cons_self)
    rw [invDiff, get_ok L hc, ih fun k hk => hcs k (List.mem_cons_of_mem _ hk), List.map_cons, extOf_eq L hc]
    rfl

theorem deltas_eq (L : Lattice) (A : List Nat) (cs : List Nat) (hcs : ∀ j ∈ cs, j < L.concepts.length) :
    deltas L A cs = .ok (cs.map fun j => setDiffLen A (extOf L j)) := by
  induction cs with
  | nil => rfl
  | cons j rest ih =>
    obtain ⟨⟨D, E⟩, hc⟩ := get_of_lt L (hcs j List.mem_cons_self)
    rw [deltas, get_ok L hc, ih fun k hk => hcs k (List.mem_cons_of_mem _ hk), List.map_cons, extOf_eq L hc]
    rfl

theorem pyMax_mem {xs : List Rat} (h : xs ≠ []) : ∃ m, pyMax xs = .ok m ∧ m ∈ xs := by
  obtain ⟨x, xs, rfl⟩ := List.exists_cons_of_ne_nil h
  exact ⟨_, rfl, (foldl_pick_least (le := (· ≥ ·)) (fun _ => Rat.le_refl) (fun h h' => Rat.le_trans h' h) pickMax_spec xs x).1⟩

theorem pyMin_le {xs : List Nat} (h : xs ≠ []) : ∃ m, pyMin xs = .ok m ∧ ∀ x ∈ xs, m ≤ x := by
  obtain ⟨x, xs, rfl⟩ := List.exists_cons_of_ne_nil h
  exact ⟨_, rfl, (foldl_pick_least Nat.le_refl Nat.le_trans pickMin_spec xs x).2⟩

def nonGenCount (t : Table) (A B : List Nat) : Nat :=
  (sublists A).countP fun S => !(intAll t S == B)

theorem gen_add_nongen (t : Table) (A B : List Nat) :
    genCount t A B + nonGenCount t A B = 2 ^ A.length := by
  rw [genCount, nonGenCount, ← length_sublists A,
    List.length_eq_countP_add_countP (fun S => intAll t S == B) (l := sublists A)]
  simp only [Bool.not_eq_true, Bool.decide_eq_false]

/-- `|A ∩ D_j|` -/
def kOf (L : Lattice) (A : List Nat) (j : Nat) : Nat := A.countP fun g => (extOf L j).contains g

theorem sum_pow_mul_le (cs : List Nat) (k : Nat → Nat) (dmin n : Nat) (hk : ∀ j ∈ cs, k j + dmin ≤ n) :
    ((cs.map fun j => 2 ^ k j).sum) * 2 ^ dmin ≤ cs.length * 2 ^ n := by
  induction cs with
  | nil => simp
  | cons j rest ih =>
    rw [List.map_cons, List.sum_cons, List.length_cons, Nat.add_mul, Nat.add_mul, Nat.one_mul, Nat.add_comm,
      ← Nat.pow_add]
    exact Nat.add_le_add (ih fun x hx => hk x (List.mem_cons_of_mem _ hx))
      (Nat.pow_le_pow_right (by decide) (hk j List.mem_cons_self))

theorem natCast_ne_zero {D : Nat} (hD : D ≠ 0) : (D : Rat) ≠ 0 := mt Rat.natCast_eq_zero_iff.mp hD

theorem pow2neg_eq {d k n : Nat} (hdk : d + k = n) : pow2neg d = ((2 ^ k : Nat) : Rat) / ((2 ^ n : Nat) : Rat) := by
  rw [pow2neg, ← hdk, Nat.pow_add, Rat.natCast_mul, Rat.div_def, Rat.div_def, Rat.one_mul, Rat.inv_mul_rev,
    ← Rat.mul_assoc, Rat.mul_inv_cancel _ (natCast_ne_zero (Nat.pos_iff_ne_zero.mp (Nat.two_pow_pos k))), Rat.one_mul,
    Rat.natCast_pow, Rat.natCast_ofNat]

theorem pySum_map_div (xs : List Nat) (D : Rat) :
    pySum (xs.map fun x : Nat => (x : Rat) / D) = ((xs.sum : Nat) : Rat) / D := by
  have : ∀ (a : Rat), (xs.map fun x : Nat => (x : Rat) / D).foldl (· + ·) a = a + ((xs.sum : Nat) : Rat) / D := by
    induction xs with
    | nil => exact fun a => (Rat.add_zero a).symm.trans (congrArg _ ((Rat.div_def _ D).trans (Rat.zero_mul _)).symm)
    | cons x rest ih =>
      intro a
      rw [List.map_cons, List.foldl_cons, ih, List.sum_cons, Rat.natCast_add, Rat.div_def, Rat.div_def, Rat.div_def,
        Rat.add_mul, Rat.add_assoc]
  rw [pySum, this 0, Rat.zero_add]

theorem gen_frac {G N D : Nat} (hGN : G + N = D) (hD : D ≠ 0) : (G : Rat) / D = 1 - (N : Rat) / D := by
  rw [← Rat.mul_inv_cancel (D : Rat) (natCast_ne_zero hD), ← hGN, Rat.natCast_add, Rat.div_def, Rat.div_def,
    Rat.add_mul, Rat.add_sub_cancel]

theorem natDiv_le {a b D : Nat} (hD : D ≠ 0) (h : a ≤ b) : (a : Rat) / D ≤ (b : Rat) / D := by
  rw [Rat.div_def, Rat.div_def]
  exact Rat.mul_le_mul_of_nonneg_right (Rat.natCast_le_natCast.mpr h)
    (Rat.le_of_lt (Rat.inv_pos.mpr (Rat.natCast_pos.mpr (Nat.pos_of_ne_zero hD))))

theorem one_sub_le {x y : Rat} (h : x ≤ y) : 1 - y ≤ 1 - x := by
  rw [Rat.sub_eq_add_neg, Rat.sub_eq_add_neg, Rat.add_le_add_left]
  exact Rat.neg_le_neg h

theorem bracket_arith {G N S P D : Nat} (hGN : G + N = D) (hD : D ≠ 0) (hNS : N ≤ S) (hPN : P ≤ N) :
    1 - (S : Rat) / D ≤ (G : Rat) / D ∧ (G : Rat) / D ≤ 1 - (P : Rat) / D := by
  rw [gen_frac hGN hD]
  exact ⟨one_sub_le (natDiv_le hD hNS), one_sub_le (natDiv_le hD hPN)⟩

theorem log_arith {G N D d c w : Nat} (hGN : G + N = D) (hD : D ≠ 0) (h : N * 2 ^ d ≤ c * D) (hc : c ≤ w) :
    (1 - (G : Rat) / D) * (2 : Rat) ^ d ≤ (w : Rat) := by
  have h1 := natDiv_le hD (Nat.le_trans h (Nat.mul_le_mul_right D hc))
  rw [Rat.natCast_mul, Rat.natCast_mul, Rat.mul_div_cancel (natCast_ne_zero hD), Rat.natCast_pow, Rat.natCast_ofNat,
    Rat.div_def, Rat.mul_assoc, Rat.mul_comm _ (D : Rat)⁻¹, ← Rat.mul_assoc, ← Rat.div_def] at h1
  rwa [gen_frac hGN hD, Rat.sub_eq_add_neg, Rat.neg_sub, Rat.add_comm, Rat.sub_add_cancel]

theorem stability_ok (K : Ctx) (L : Lattice) {i : Nat} {c : List Nat × List Nat} (hi : L.concepts[i]? = some c) :
    ∃ s, stability i L K = .ok s := by
  simp only [stability, get_ok L hi, bind, Except.bind, pure, Except.pure]
  split <;> exact ⟨_, rfl⟩

section
variable {t : Table} {L : Lattice} (h : IsLatticeOf t L)
include h

theorem nonGenCount_eq {i : Nat} {A B : List Nat} (hi : L.concepts[i]? = some (A, B)) :
    nonGenCount t A B = (sublists A).countP fun S =>
      (L.childrenOf i).any fun j => S.all fun g => (extOf L j).contains g := by
  apply List.countP_congr
  intro S hS
  simp only [Bool.not_eq_true', beq_eq_false_iff_ne, ne_eq, List.any_eq_true, List.all_eq_true,
    List.contains_eq_mem, decide_eq_true_eq]
  exact nongen_iff h hi (mem_of_mem_sublists hS)

theorem nonGenCount_le_sum {i : Nat} {A B : List Nat} (hi : L.concepts[i]? = some (A, B)) :
    nonGenCount t A B ≤ ((L.childrenOf i).map fun j => 2 ^ kOf L A j).sum := by
  rw [nonGenCount_eq h hi]
  refine Nat.le_trans (countP_any_le_sum (L.childrenOf i)
    (fun j (S : List Nat) => S.all fun g => (extOf L j).contains g) (sublists A)) (Nat.le_of_eq ?_)
  exact congrArg List.sum (List.map_congr_left fun j _ => countP_sublists_all _ A)

theorem pow_le_nonGenCount {i j : Nat} {A B : List Nat} (hi : L.concepts[i]? = some (A, B))
    (hj : j ∈ L.childrenOf i) : 2 ^ kOf L A j ≤ nonGenCount t A B := by
  rw [nonGenCount_eq h hi, kOf, ← countP_sublists_all]
  exact List.countP_mono_left fun S _ hS => List.any_eq_true.mpr ⟨j, hj, hS⟩

/-- the bounds bracket the definition: `stability_bounds` is `(1 - S/2^|A|, 1 - P/2^|A|)` for the sum `S` and the
    maximum `P` of the `2^|A ∩ D|` of the children `D` (as `2^{-|A \ D|} = 2^|A ∩ D| / 2^|A|`; both `0` when there
    is no child), and `P ≤ N ≤ S` for the number `N` of non-generators -/
theorem stabilityBounds_bracket {i : Nat} {A B : List Nat} (hi : L.concepts[i]? = some (A, B)) :
    ∃ lb ub, stabilityBounds i L = .ok (lb, ub) ∧ lb ≤ stabilityDef t A B ∧ stabilityDef t A B ≤ ub := by
  have hsum := nonGenCount_le_sum h hi
  have hGN := gen_add_nongen t A B
  have hD : 2 ^ A.length ≠ 0 := Nat.pos_iff_ne_zero.mp (Nat.two_pow_pos _)
  by_cases hch : L.childrenOf i = []
  · rw [hch] at hsum
    refine ⟨_, _, ?_, bracket_arith (P := 0) hGN hD hsum (Nat.zero_le _)⟩
    simp only [stabilityBounds, get_ok L hi, hch, List.length_nil, Nat.lt_irrefl, if_false, bind, Except.bind,
      pure, Except.pure, pyMax, pySum, List.foldl_cons, List.foldl_nil, List.map_nil, List.sum_nil, Rat.natCast_ofNat,
      Rat.div_def, Rat.zero_mul, Rat.add_zero]
  · have hinv : invDiff L A (L.childrenOf i)
        = .ok (((L.childrenOf i).map fun j => 2 ^ kOf L A j).map fun x : Nat =>
            (x : Rat) / ((2 ^ A.length : Nat) : Rat)) := by
      rw [invDiff_eq L A _ (children_lt h hi), List.map_map]
      exact congrArg _ (List.map_congr_left fun j _ => pow2neg_eq (setDiffLen_add (extent_nodup h hi) (extOf L j)))
    obtain ⟨m, hm, hmem⟩ := pyMax_mem (xs := ((L.childrenOf i).map fun j => 2 ^ kOf L A j).map fun x : Nat =>
      (x : Rat) / ((2 ^ A.length : Nat) : Rat)) fun e => hch (List.map_eq_nil_iff.mp (List.map_eq_nil_iff.mp e))
    obtain ⟨x, hx, rfl⟩ := List.mem_map.mp hmem
    obtain ⟨j, hj, rfl⟩ := List.mem_map.mp hx
    refine ⟨_, _, ?_, bracket_arith hGN hD hsum (pow_le_nonGenCount h hi hj)⟩
    simp only [stabilityBounds, get_ok L hi, List.length_pos_iff.mpr hch, if_true, bind, Except.bind,
      pure, Except.pure, hinv, hm, pySum_map_div]

/-- `log_stability_lbound` never exceeds `−log2 (1 − stability)` (`Spec.LogLe`): it returns `+inf` for a childless
    concept, which has no non-generators, and else the least `Δ = |A \ D|` over the children `D`, for which
    `N · 2^Δ ≤ #children · 2^|A|` as `N ≤ Σ_D 2^|A ∩ D|` and `|A ∩ D| + Δ ≤ |A|`; there are at most `|M|`
    children -/
theorem logStabilityLbound_spec {i : Nat} {A B : List Nat} (hi : L.concepts[i]? = some (A, B)) {w : Nat}
    (hw : w ≠ 0) (htw : t.width ≤ w) :
    ∃ b, logStabilityLbound i L w = .ok ⟨b, w⟩ ∧ LogLe ⟨b, w⟩ (stabilityDef t A B) := by
  have hsum := nonGenCount_le_sum h hi
  have hGN := gen_add_nongen t A B
  have hD : 2 ^ A.length ≠ 0 := Nat.pos_iff_ne_zero.mp (Nat.two_pow_pos _)
  by_cases hch : L.childrenOf i = []
  · rw [hch] at hsum
    refine ⟨none, ?_, ?_⟩
    · simp only [logStabilityLbound, get_ok L hi, hch, List.isEmpty_nil, Bool.not_true, Bool.false_eq_true,
        if_false, if_neg hw, bind, Except.bind, pure, Except.pure, throw, throwThe, MonadExceptOf.throw]
    · have := log_arith (d := 0) (c := 0) (w := 0) hGN hD
        (by rw [Nat.le_zero.mp hsum, Nat.zero_mul]; exact Nat.zero_le _) (Nat.le_refl 0)
      rwa [Rat.pow_zero, Rat.mul_one] at this
  · obtain ⟨m, hm, hle⟩ := pyMin_le (xs := (L.childrenOf i).map fun j => setDiffLen A (extOf L j))
      fun e => hch (List.map_eq_nil_iff.mp e)
    refine ⟨some m, ?_, log_arith hGN hD (Nat.le_trans (Nat.mul_le_mul_right _ hsum)
      (sum_pow_mul_le (L.childrenOf i) (kOf L A) m A.length fun j hj => ?_))
      (Nat.le_trans (children_length_le_width h hi) htw)⟩
    · have hemp : (L.childrenOf i).isEmpty = false := by
        rw [List.isEmpty_eq_false_iff]; exact hch
      simp only [logStabilityLbound, get_ok L hi, hemp, Bool.not_false, if_true, if_neg hw,
        deltas_eq L A _ (children_lt h hi), hm, bind, Except.bind, pure, Except.pure]
    · exact Nat.le_trans (Nat.add_le_add_left (hle _ (List.mem_map.mpr ⟨j, hj, rfl⟩)) _)
        (Nat.le_of_eq ((Nat.add_comm _ _).trans (setDiffLen_add (extent_nodup h hi) (extOf L j))))

end

end Fca.Measures
