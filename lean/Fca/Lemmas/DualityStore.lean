/-
  After valid setter calls a context holds, field by field, the last value written; a step of the store touches
  the addressed slot only.
-/
import Fca.Model.DualityStore
import Fca.Lemmas.Duality
namespace Fca.Dual

theorem lastOr_nil {α} (d : α) : lastOr d [] = d := rfl

theorem lastOr_cons {α} (d x : α) (l : List α) : lastOr d (x :: l) = lastOr x l := by
  unfold lastOr
  rw [List.getLast?_cons]
  rfl

/-- what a valid setter call is for a context with `n` objects and `m` attributes -/
def MutValid (n m : Nat) : Mut → Prop
  | .objs ns => ns.length = n
  | .attrs ns => ns.length = m
  | .data rows => rows.length = n ∧ ∀ r ∈ rows, r.length = m

structure Shaped (n m : Nat) (K : Ctx) : Prop where
  wf : K.table.WF
  h : K.table.height = n
  w : K.table.width = m
  objs : K.objNames.length = n
  attrs : K.attrNames.length = m

theorem applyMut_valid {n m : Nat} (hn : 1 ≤ n) {K : Ctx} (hK : Shaped n m K) {x : Mut} (hx : MutValid n m x) :
    ∃ K', applyMut K x = .ok K' ∧ Shaped n m K' ∧ ∀ ms, finalCtx K (x :: ms) = finalCtx K' ms := by
  cases x with
  | objs ns =>
    refine ⟨{ K with objNames := ns }, if_neg (not_not_intro (hx.trans hK.h.symm)),
      ⟨hK.wf, hK.h, hK.w, hx, hK.attrs⟩, fun ms => ?_⟩
    simp only [finalCtx, List.filterMap_cons, Mut.objs?, Mut.attrs?, Mut.table?, lastOr_cons]
  | attrs ns =>
    refine ⟨{ K with attrNames := ns }, if_neg (not_not_intro (hx.trans hK.w.symm)),
      ⟨hK.wf, hK.h, hK.w, hK.objs, hx⟩, fun ms => ?_⟩
    simp only [finalCtx, List.filterMap_cons, Mut.objs?, Mut.attrs?, Mut.table?, lastOr_cons]
  | data rows =>
    refine ⟨{ K with table := mkTable rows }, rfl, ?_, fun ms => ?_⟩
    · rw [mkTable, Table.ofRows_eq_mk (hx.1 ▸ hn) hx.2]
      exact ⟨hx.2, hx.1, rfl, hK.objs, hK.attrs⟩
    simp only [finalCtx, List.filterMap_cons, Mut.objs?, Mut.attrs?, Mut.table?, lastOr_cons]

theorem finalCtx_nil (K : Ctx) : finalCtx K [] = K := rfl

theorem applyMuts_final {n m : Nat} (hn : 1 ≤ n) (muts : List Mut) :
    ∀ K : Ctx, Shaped n m K → (∀ x ∈ muts, MutValid n m x) →
      applyMuts K muts = .ok (finalCtx K muts) ∧ Shaped n m (finalCtx K muts) := by
  induction muts with
  | nil =>
    intro K hK _
    exact ⟨rfl, hK⟩
  | cons x ms ih =>
    intro K hK hv
    obtain ⟨K', h1, h2, h3⟩ := applyMut_valid hn hK (hv x (List.mem_cons_self ..))
    obtain ⟨h4, h5⟩ := ih K' h2 (fun y hy => hv y (List.mem_cons_of_mem _ hy))
    rw [h3 ms]
    refine ⟨?_, h5⟩
    simp only [applyMuts, h1]
    exact h4

theorem stepStore_derive_ok {S S1 : List Ctx} {src : Nat} {d : Derive}
    (h : stepStore S (.derive src d) = .ok S1) :
    ∃ K D, S[src]? = some K ∧ derive K d = .ok D ∧ S1 = S ++ [D] := by
  rw [stepStore] at h
  split at h
  · cases h
  · rename_i K hK
    split at h
    · cases h
    · rename_i D hD
      cases h
      exact ⟨K, D, hK, hD, rfl⟩

theorem stepStore_set_ok {S S1 : List Ctx} {i : Nat} {x : Mut} (h : stepStore S (.set i x) = .ok S1) :
    ∃ K K', S[i]? = some K ∧ applyMut K x = .ok K' ∧ S1 = S.set i K' := by
  rw [stepStore] at h
  split at h
  · cases h
  · rename_i K hK
    split at h
    · cases h
    · rename_i K' hK'
      cases h
      exact ⟨K, K', hK, hK', rfl⟩

theorem runStore_cons_ok {S S' : List Ctx} {op : HOp} {ops : List HOp} :
    runStore S (op :: ops) = .ok S' ↔ ∃ S1, stepStore S op = .ok S1 ∧ runStore S1 ops = .ok S' := by
  rw [runStore]
  cases stepStore S op with
  | error e => exact ⟨fun h => (by cases h), fun ⟨_, h, _⟩ => (by cases h)⟩
  | ok S1 => exact ⟨fun h => ⟨S1, rfl, h⟩, fun ⟨_, h1, h2⟩ => by cases h1; exact h2⟩

theorem runStore_append_ok {ops₁ ops₂ : List HOp} : ∀ {S S' : List Ctx},
    runStore S (ops₁ ++ ops₂) = .ok S' ↔ ∃ Smid, runStore S ops₁ = .ok Smid ∧ runStore Smid ops₂ = .ok S' := by
  induction ops₁ with
  | nil =>
    intro S S'
    exact ⟨fun h => ⟨S, rfl, h⟩, fun ⟨_, h1, h2⟩ => by cases h1; exact h2⟩
  | cons op ops ih =>
    intro S S'
    rw [List.cons_append, runStore_cons_ok]
    constructor
    · rintro ⟨S1, hs, h⟩
      obtain ⟨Smid, h1, h2⟩ := ih.mp h
      exact ⟨Smid, runStore_cons_ok.mpr ⟨S1, hs, h1⟩, h2⟩
    · rintro ⟨Smid, h1, h2⟩
      obtain ⟨S1, hs, h1'⟩ := runStore_cons_ok.mp h1
      exact ⟨S1, hs, ih.mpr ⟨Smid, h1', h2⟩⟩

theorem stepStore_frame {S S1 : List Ctx} {op : HOp} (h : stepStore S op = .ok S1) {j : Nat} {K : Ctx}
    (hK : S[j]? = some K) :
    ∃ K1, S1[j]? = some K1 ∧
      ∀ ops, applyMuts K (ownMuts j (op :: ops)) = applyMuts K1 (ownMuts j ops) := by
  have hj := (List.getElem?_eq_some_iff.mp hK).1
  cases op with
  | derive src d =>
    obtain ⟨_, D, _, _, rfl⟩ := stepStore_derive_ok h
    exact ⟨K, by rw [List.getElem?_append_left hj]; exact hK, fun _ => rfl⟩
  | fresh Kn =>
    cases h
    exact ⟨K, by rw [List.getElem?_append_left hj]; exact hK, fun _ => rfl⟩
  | set i x =>
    obtain ⟨Ki, K1, hi, hm, rfl⟩ := stepStore_set_ok h
    by_cases hij : i = j
    · subst hij
      rw [hK] at hi
      cases hi
      exact ⟨K1, List.getElem?_set_self hj, fun ops => by simp only [ownMuts, if_true, applyMuts, hm]⟩
    · exact ⟨K, by rw [List.getElem?_set_ne hij]; exact hK, fun ops => by simp only [ownMuts, if_neg hij]⟩

end Fca.Dual
