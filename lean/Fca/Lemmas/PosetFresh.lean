/-
  The index-level order induced by `leq` on an element list, and membership
  characterisations of the `Fresh` answers.
-/
import Fca.Lemmas.PosetBasic
import Fca.Lemmas.FinOrder
set_option linter.unusedSectionVars false
namespace Fca.Poset
open Fca.Poset.Fresh

section
variable {α : Type} [DecidableEq α] (leq : α → α → Bool)

/-- `leq` is a partial order on the universe `U` of elements -/
structure PO (U : α → Prop) : Prop where
  refl : ∀ a, U a → leq a a = true
  antisymm : ∀ a b, U a → U b → leq a b = true → leq b a = true → a = b
  trans : ∀ a b c, U a → U b → U c → leq a b = true → leq b c = true → leq a c = true

structure IdxPO (E : List α) : Prop where
  refl : ∀ i, i < E.length → rel leq E i i = true
  antisymm : ∀ i j, rel leq E i j = true → rel leq E j i = true → i = j
  trans : ∀ i j k, rel leq E i j = true → rel leq E j k = true → rel leq E i k = true

variable {leq}

theorem rel_lt_length {E : List α} {i j : Nat} (h : rel leq E i j = true) : i < E.length ∧ j < E.length := by
  unfold rel at h
  split at h
  · rename_i x y hx hy
    exact ⟨(List.getElem?_eq_some_iff.mp hx).1, (List.getElem?_eq_some_iff.mp hy).1⟩
  · cases h

theorem rel_eq {E : List α} {i j : Nat} (hi : i < E.length) (hj : j < E.length) :
    rel leq E i j = leq E[i] E[j] := by
  unfold rel
  simp [List.getElem?_eq_getElem hi, List.getElem?_eq_getElem hj]

theorem idxPO_of {U : α → Prop} (hpo : PO leq U) {E : List α} (hnd : E.Nodup) (hU : ∀ a ∈ E, U a) :
    IdxPO leq E := by
  refine ⟨?_, ?_, ?_⟩
  · intro i hi
    rw [rel_eq hi hi]; exact hpo.refl _ (hU _ (List.getElem_mem hi))
  · intro i j h1 h2
    obtain ⟨hi, hj⟩ := rel_lt_length h1
    rw [rel_eq hi hj] at h1; rw [rel_eq hj hi] at h2
    have := hpo.antisymm _ _ (hU _ (List.getElem_mem hi)) (hU _ (List.getElem_mem hj)) h1 h2
    exact (List.getElem_inj hnd).mp this
  · intro i j k h1 h2
    obtain ⟨hi, hj⟩ := rel_lt_length h1
    obtain ⟨_, hk⟩ := rel_lt_length h2
    rw [rel_eq hi hj] at h1; rw [rel_eq hj hk] at h2; rw [rel_eq hi hk]
    exact hpo.trans _ _ _ (hU _ (List.getElem_mem hi)) (hU _ (List.getElem_mem hj)) (hU _ (List.getElem_mem hk)) h1 h2

theorem relD_lt_length {d : Dir} {E : List α} {i j : Nat} (h : relD leq d E i j = true) :
    i < E.length ∧ j < E.length := by
  cases d <;> simp only [relD] at h
  · exact rel_lt_length h
  · exact (rel_lt_length h).symm

theorem relD_flip (d : Dir) (E : List α) (i j : Nat) : relD leq d.flip E i j = relD leq d E j i := by
  cases d <;> rfl

theorem ltD_flip (d : Dir) (E : List α) (i j : Nat) : ltD leq d.flip E i j = ltD leq d E j i := by
  unfold ltD
  rw [relD_flip, bne_comm]

@[simp] theorem Dir.flip_flip (d : Dir) : d.flip.flip = d := by cases d <;> rfl

theorem Dir.eq_of_ne_flip {d d' : Dir} (h : d' ≠ d.flip) : d' = d := by
  cases d <;> cases d' <;> first | rfl | exact absurd rfl h

theorem Dir.flip_ne (d : Dir) : d ≠ d.flip := by cases d <;> simp [Dir.flip]

variable {E : List α}

theorem ltD_iff {d : Dir} {i k : Nat} : ltD leq d E i k = true ↔ relD leq d E i k = true ∧ i ≠ k := by
  unfold ltD; simp

theorem ltD_of_ne {d : Dir} {i k : Nat} (h : i ≠ k) : ltD leq d E i k = relD leq d E i k := by
  unfold ltD; rw [bne_iff_ne.mpr h, Bool.and_true]

theorem ltD_lt_length {d : Dir} {i k : Nat} (h : ltD leq d E i k = true) : i < E.length ∧ k < E.length :=
  relD_lt_length (ltD_iff.mp h).1

theorem ltD_irrefl (d : Dir) (i : Nat) : ltD leq d E i i = false := by
  unfold ltD; simp

theorem mem_closed {d : Dir} {x k : Nat} : x ∈ closed leq d E k ↔ ltD leq d E x k = true := by
  unfold closed
  simp only [List.mem_filter, List.mem_range, and_iff_right_iff_imp]
  exact fun h => (ltD_lt_length h).1

theorem nodup_closed (d : Dir) (k : Nat) : (closed leq d E k).Nodup :=
  List.nodup_range.filter _

theorem isCover_iff {d : Dir} {x k : Nat} :
    isCover leq d E x k = true ↔
      ltD leq d E x k = true ∧ ∀ z, ltD leq d E x z = true → ltD leq d E z k = true → False := by
  unfold isCover
  simp only [Bool.and_eq_true, List.all_eq_true, List.mem_range, Bool.not_eq_true', Bool.and_eq_false_imp]
  constructor
  · rintro ⟨h1, h2⟩
    refine ⟨h1, fun z hz1 hz2 => ?_⟩
    have := h2 z (ltD_lt_length hz2).1 hz1
    rw [hz2] at this; cases this
  · rintro ⟨h1, h2⟩
    refine ⟨h1, fun z _ hz1 => ?_⟩
    cases h : ltD leq d E z k
    · rfl
    · exact (h2 z hz1 h).elim

theorem ltD_flip_eq (d : Dir) : ltD leq d.flip E = Ord.flipR (ltD leq d E) := by
  funext i j; exact ltD_flip d E i j

theorem isCover_iff_max {d : Dir} {x k : Nat} :
    isCover leq d E x k = true ↔
      ltD leq d E x k = true ∧ ∀ z, ltD leq d E z k = true → ltD leq d E x z = false :=
  isCover_iff.trans (and_congr_right' (forall_congr' fun _ =>
    ⟨fun h hz => Bool.eq_false_iff.mpr fun hx => h hx hz, fun h hx hz => Bool.eq_false_iff.mp (h hz) hx⟩))

theorem exists_between_of_not_cover {d : Dir} {x k : Nat} (h : ltD leq d E x k = true)
    (hc : ¬ isCover leq d E x k = true) :
    ∃ z, ltD leq d E x z = true ∧ ltD leq d E z k = true :=
  Classical.byContradiction fun hne => hc (isCover_iff.mpr ⟨h, fun z h1 h2 => hne ⟨z, h1, h2⟩⟩)

theorem isCover_iff_cover {d : Dir} {x k : Nat} :
    isCover leq d E x k = true ↔ Ord.Cover E.length (ltD leq d E) x k :=
  isCover_iff.trans (and_congr_right fun _ =>
    ⟨fun h z _ h1 h2 => h z h1 h2, fun h z h1 h2 => h z (ltD_lt_length h2).1 h1 h2⟩)

theorem isCover_iff_lower {d : Dir} {x k : Nat} :
    isCover leq d E x k = true ↔ x < E.length ∧ Ord.Cover E.length (ltD leq d E) x k :=
  isCover_iff_cover.trans ⟨fun h => ⟨(ltD_lt_length h.1).1, h⟩, And.right⟩

theorem isCover_flip {d : Dir} {x k : Nat} :
    isCover leq d.flip E x k = true ↔ isCover leq d E k x = true := by
  rw [isCover_iff_cover, isCover_iff_cover, ltD_flip_eq, Ord.cover_flip]

theorem mem_direct {d : Dir} {x k : Nat} : x ∈ direct leq d E k ↔ isCover leq d E x k = true := by
  unfold direct
  simp only [List.mem_filter, List.mem_range, and_iff_right_iff_imp]
  exact fun h => (ltD_lt_length (isCover_iff.mp h).1).1

theorem nodup_direct (d : Dir) (k : Nat) : (direct leq d E k).Nodup :=
  List.nodup_range.filter _

theorem mem_bounds {d : Dir} {S : List Nat} {x : Nat} (hS : S ≠ []) (hSr : ∀ y ∈ S, y < E.length) :
    x ∈ bounds leq d E S ↔ ∀ y ∈ S, x = y ∨ ltD leq d E x y = true := by
  unfold bounds
  simp only [List.mem_filter, List.mem_range, List.all_eq_true, Bool.or_eq_true, beq_iff_eq]
  constructor
  · exact fun h => h.2
  · intro h
    refine ⟨?_, h⟩
    obtain ⟨y, hy⟩ := List.exists_mem_of_ne_nil S hS
    rcases h y hy with e | e
    · subst e; exact hSr x hy
    · exact (ltD_lt_length e).1

variable (hpo : IdxPO leq E)
include hpo

theorem relD_refl (d : Dir) {i : Nat} (hi : i < E.length) : relD leq d E i i = true := by
  cases d <;> exact hpo.refl i hi

theorem relD_antisymm (d : Dir) {i j : Nat} (h1 : relD leq d E i j = true) (h2 : relD leq d E j i = true) :
    i = j := by
  cases d
  · exact hpo.antisymm i j h1 h2
  · exact hpo.antisymm i j h2 h1

theorem relD_trans (d : Dir) {i j k : Nat} (h1 : relD leq d E i j = true) (h2 : relD leq d E j k = true) :
    relD leq d E i k = true := by
  cases d
  · exact hpo.trans i j k h1 h2
  · exact hpo.trans k j i h2 h1

theorem IdxPO.strict (d : Dir) : Ord.Strict E.length (ltD leq d E) :=
  Ord.Strict.of_le (fun _ _ _ _ _ _ => relD_trans hpo d) (fun _ _ _ _ => relD_antisymm hpo d)

theorem ltD_trans (d : Dir) {i j k : Nat} (h1 : ltD leq d E i j = true) (h2 : ltD leq d E j k = true) :
    ltD leq d E i k = true :=
  (hpo.strict d).trans i j k (ltD_lt_length h1).1 (ltD_lt_length h2).1 (ltD_lt_length h2).2 h1 h2

theorem ltD_asymm (d : Dir) {i j : Nat} (h1 : ltD leq d E i j = true) (h2 : ltD leq d E j i = true) : False :=
  (hpo.strict d).asymm (ltD_lt_length h1).1 (ltD_lt_length h1).2 h1 h2

theorem ltD_of_relD_ltD (d : Dir) {i j k : Nat} (h1 : relD leq d E i j = true) (h2 : ltD leq d E j k = true) :
    ltD leq d E i k = true := by
  by_cases e : i = j
  · subst e; exact h2
  · exact ltD_trans hpo d (ltD_iff.mpr ⟨h1, e⟩) h2

theorem exists_cover_above (d : Dir) {x k : Nat} (h : ltD leq d E x k = true) :
    ∃ c, isCover leq d E c k = true ∧ relD leq d E x c = true :=
  let ⟨c, _, hc, hxc⟩ := (hpo.strict d).exists_lower_cover_ge (ltD_lt_length h).1 h
  ⟨c, isCover_iff_cover.mpr hc, hxc.elim (fun e => by rw [e]; exact relD_refl hpo d (ltD_lt_length h).1)
    fun h => (ltD_iff.mp h).1⟩

end
end Fca.Poset
