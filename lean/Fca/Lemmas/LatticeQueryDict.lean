/-
  Fca.Lemmas.LatticeQueryDict — the association-list dictionaries of `Fca.LC` (Python `dict` of `set`s):
  `dset`/`dget`, `_transpose_hierarchy`, and `from_context`'s re-indexing comprehension.  A dictionary is read
  through `dget`: whether `v` is a key is `(dget d v).isSome`, the set stored there is `(dget d v).getD []`.
-/
import Fca.Lemmas.LatticeQuery
import Fca.Lemmas.TransposeHierarchy
namespace Fca.LC

theorem dget_nil (k : Nat) : dget [] k = none := rfl

theorem dget_dset (d : Dict) (k : Nat) (v : List Nat) (j : Nat) :
    dget (dset d k v) j = if j = k then some v else dget d j :=
  ListAux.get_set (get := dget) (set := dset) (fun _ _ _ _ => ListAux.lookup_cons_ite ..) (fun _ _ => rfl)
    (fun _ _ _ _ _ => by rw [dset]; simp only [beq_iff_eq]) d k v j

theorem dget_dset_self (d : Dict) (k : Nat) (v : List Nat) : dget (dset d k v) k = some v :=
  (dget_dset d k v k).trans (if_pos rfl)

theorem dget_dset_ne (d : Dict) (k : Nat) (v : List Nat) (j : Nat) (h : j ≠ k) :
    dget (dset d k v) j = dget d j :=
  (dget_dset d k v j).trans (if_neg h)

theorem mem_dset (d : Dict) (k : Nat) (v : List Nat) (q : Nat × List Nat) (h : q ∈ dset d k v) :
    q.1 = k ∨ q ∈ d := by
  induction d with
  | nil => exact Or.inl (List.mem_singleton.mp h ▸ rfl)
  | cons p rest ih =>
    unfold dset at h
    split at h
    · rename_i e
      rcases List.mem_cons.mp h with rfl | h
      · exact Or.inl (beq_iff_eq.mp e)
      · exact Or.inr (List.mem_cons_of_mem _ h)
    · rcases List.mem_cons.mp h with rfl | h
      · exact Or.inr List.mem_cons_self
      · exact (ih h).imp_right (List.mem_cons_of_mem _)

theorem mem_addElem {s : List Nat} {x y : Nat} : y ∈ addElem s x ↔ y ∈ s ∨ y = x :=
  ListAux.mem_addNew List.contains_iff_mem

theorem addElem_nodup {s : List Nat} {x : Nat} (h : s.Nodup) : (addElem s x).Nodup :=
  ListAux.nodup_addNew List.contains_iff_mem h

theorem mem_unionInto (b a : List Nat) (y : Nat) : y ∈ unionInto a b ↔ y ∈ a ∨ y ∈ b :=
  (ListAux.foldl_iff (m := (y ∈ ·)) (q := (y = ·)) (fun _ _ => mem_addElem) b a).trans
    (or_congr_right exists_eq_right')

def KeysNodup (d : Dict) : Prop := (d.map (·.1)).Nodup

theorem mem_of_dget {d : Dict} {k : Nat} {vs : List Nat} (h : dget d k = some vs) : (k, vs) ∈ d := by
  obtain ⟨l₁, l₂, rfl, _⟩ := List.lookup_eq_some_iff.mp h
  exact List.mem_append_right _ List.mem_cons_self

theorem dget_of_mem {d : Dict} {k : Nat} {vs : List Nat} (hnd : KeysNodup d) (h : (k, vs) ∈ d) :
    dget d k = some vs :=
  ListAux.get_of_mem (get := dget) (fun _ _ _ _ => ListAux.lookup_cons_ite ..) hnd h

theorem dset_keysNodup {d : Dict} {k : Nat} {v : List Nat} (h : KeysNodup d) : KeysNodup (dset d k v) := by
  induction d with
  | nil => exact List.pairwise_singleton _ _
  | cons p rest ih =>
    have h' := List.nodup_cons.mp h
    unfold dset
    split
    · exact h
    · rename_i hk
      refine List.nodup_cons.mpr ⟨fun hm => ?_, ih h'.2⟩
      obtain ⟨q, hq, e⟩ := List.mem_map.mp hm
      rcases mem_dset rest k v q hq with hqk | hqr
      · exact hk (beq_iff_eq.mpr (e.symm.trans hqk))
      · exact h'.1 (e ▸ List.mem_map.mpr ⟨q, hqr, rfl⟩)

/-- the dictionary as `_transpose_hierarchy` uses it -/
def dictOps : TransposeH.Ops Dict := .ofGet dget dset addElem dget_dset fun _ _ _ => mem_addElem

theorem transposeInner_eq (k : Nat) : ∀ (vs : List Nat) (d : Dict),
    transposeInner k vs d = TransposeH.inner dictOps k d vs
  | [], _ => rfl
  | _ :: vs, _ => transposeInner_eq k vs _

theorem transposeLoop_eq : ∀ (h d : Dict), transposeLoop h d = TransposeH.run dictOps h d
  | [], _ => rfl
  | (k, vs) :: rest, d => by
    -- the model asks `isNone` and swaps the branches
    have he : (if (dget d k).isNone then dset d k [] else d) = TransposeH.ensure dictOps d k := by
      show _ = if (dget d k).isSome = true then d else dset d k []
      cases dget d k <;> rfl
    rw [transposeLoop, he, transposeInner_eq, transposeLoop_eq rest]
    rfl

theorem mem_transposeHierarchy (h : Dict) (v x : Nat) :
    x ∈ (dget (transposeHierarchy h) v).getD [] ↔ ∃ p ∈ h, v ∈ p.2 ∧ x = p.1 := by
  rw [transposeHierarchy, transposeLoop_eq]
  exact (TransposeH.mem_rd_run dictOps h [] v x).trans (or_iff_right List.not_mem_nil)

theorem isSome_transposeHierarchy (h : Dict) (v : Nat) :
    (dget (transposeHierarchy h) v).isSome = true ↔ ∃ p ∈ h, v = p.1 ∨ v ∈ p.2 := by
  rw [transposeHierarchy, transposeLoop_eq]
  exact (TransposeH.has_run dictOps h [] v).trans (or_iff_right Bool.false_ne_true)

def ValsNodup (d : Dict) : Prop := ∀ v, ((dget d v).getD []).Nodup

theorem transposeHierarchy_valsNodup (h : Dict) : ValsNodup (transposeHierarchy h) := by
  rw [transposeHierarchy, transposeLoop_eq]
  exact TransposeH.nodup_run dictOps (fun _ _ => addElem_nodup) h [] fun _ => List.nodup_nil

theorem transposeHierarchy_keysNodup (h : Dict) : KeysNodup (transposeHierarchy h) := by
  rw [transposeHierarchy, transposeLoop_eq]
  refine ListAux.foldl_inv (fun d p hd => ListAux.foldl_inv (fun _ _ => dset_keysNodup) _ _ ?_) h [] List.nodup_nil
  unfold TransposeH.ensure
  split
  · exact hd
  · exact dset_keysNodup hd

/-- what `Good` asks of every key below `n` -/
def Stores (d : Dict) (i : Nat) (S : List Nat) : Prop := ∃ l, dget d i = some l ∧ ∀ x, x ∈ l ↔ x ∈ S

theorem Stores.of_getD {d : Dict} {i : Nat} {S : List Nat} (hs : (dget d i).isSome = true)
    (hm : ∀ x, x ∈ (dget d i).getD [] ↔ x ∈ S) : Stores d i S :=
  let ⟨l, hl⟩ := Option.isSome_iff_exists.mp hs
  ⟨l, hl, by rwa [hl] at hm⟩

theorem Stores.congr {d : Dict} {i : Nat} {S S' : List Nat} (h : Stores d i S) (hS : ∀ x, x ∈ S ↔ x ∈ S') :
    Stores d i S' :=
  let ⟨l, hl, hm⟩ := h
  ⟨l, hl, fun x => (hm x).trans (hS x)⟩

def Good (d : Dict) (n : Nat) (R : Nat → List Nat) : Prop :=
  KeysNodup d ∧ (∀ p ∈ d, p.1 < n) ∧ ∀ i, i < n → ∃ l, dget d i = some l ∧ ∀ x, x ∈ l ↔ x ∈ R i

theorem Good.stores {d : Dict} {n : Nat} {R : Nat → List Nat} (g : Good d n R) {i : Nat} (hi : i < n) :
    Stores d i (R i) := g.2.2 i hi

theorem Good.congr {d : Dict} {n : Nat} {R R' : Nat → List Nat} (g : Good d n R)
    (h : ∀ i, i < n → ∀ x, x ∈ R i ↔ x ∈ R' i) : Good d n R' :=
  ⟨g.1, g.2.1, fun i hi => (g.stores hi).congr (h i hi)⟩

theorem Good.mem_of_mem {d : Dict} {n : Nat} {R : Nat → List Nat} (g : Good d n R) {p : Nat × List Nat}
    (hp : p ∈ d) (x : Nat) : x ∈ p.2 ↔ x ∈ R p.1 := by
  obtain ⟨l, hl, hm⟩ := g.stores (g.2.1 p hp)
  rw [dget_of_mem g.1 hp] at hl
  exact Option.some.inj hl ▸ hm x

theorem Good.transpose {h : Dict} {n : Nat} {R R' : Nat → List Nat} (g : Good h n R)
    (hR : ∀ i, i < n → ∀ x ∈ R i, x < n)
    (hR' : ∀ v, v < n → ∀ x, x ∈ R' v ↔ x < n ∧ v ∈ R x) : Good (transposeHierarchy h) n R' := by
  refine ⟨transposeHierarchy_keysNodup h, fun p hp => ?_, fun v hv => Stores.of_getD ?_ fun x => ?_⟩
  · have hkey : (dget (transposeHierarchy h) p.1).isSome = true := by
      rw [dget_of_mem (transposeHierarchy_keysNodup h) hp]; rfl
    obtain ⟨q, hq, e | hm⟩ := (isSome_transposeHierarchy h p.1).mp hkey
    · exact e ▸ g.2.1 q hq
    · exact hR q.1 (g.2.1 q hq) p.1 ((g.mem_of_mem hq p.1).mp hm)
  · obtain ⟨l, hl, _⟩ := g.stores hv
    exact (isSome_transposeHierarchy h v).mpr ⟨(v, l), mem_of_dget hl, Or.inl rfl⟩
  · rw [mem_transposeHierarchy, hR' v hv x]
    constructor
    · rintro ⟨q, hq, hm, rfl⟩
      exact ⟨g.2.1 q hq, (g.mem_of_mem hq v).mp hm⟩
    · rintro ⟨hx, hm⟩
      obtain ⟨l, hl, hlm⟩ := g.stores hx
      exact ⟨(x, l), mem_of_dget hl, (hlm v).mpr hm, rfl⟩

/-- `{m[r] for r in rels}` -/
def image (m : List Nat) (rels : List Nat) : List Nat :=
  rels.foldl (fun s r => addElem s (m.getD r 0)) []

theorem mem_image {m rels : List Nat} {y : Nat} : y ∈ image m rels ↔ ∃ r ∈ rels, y = m.getD r 0 :=
  (ListAux.foldl_iff (m := (y ∈ ·)) (q := fun r => y = m.getD r 0) (fun _ _ => mem_addElem) rels []).trans
    (or_iff_right List.not_mem_nil)

theorem dget_reindex_foldl_of_ne (m : List Nat) (d : Dict) (j : Nat) : ∀ (acc : Dict),
    (∀ p ∈ d, m.getD p.1 0 ≠ j) →
    dget (d.foldl (fun acc p => dset acc (m.getD p.1 0) (image m p.2)) acc) j = dget acc j := by
  induction d with
  | nil => exact fun _ _ => rfl
  | cons p rest ih =>
    intro acc h
    rw [List.foldl_cons, ih _ (fun q hq => h q (List.mem_cons_of_mem _ hq))]
    exact dget_dset_ne _ _ _ _ (fun e => h p List.mem_cons_self e.symm)

theorem dget_reindexDict (m : List Nat) (d : Dict) (hnd : KeysNodup d)
    (hinj : ∀ p ∈ d, ∀ q ∈ d, m.getD p.1 0 = m.getD q.1 0 → p.1 = q.1) {i : Nat} {vs : List Nat}
    (h : (i, vs) ∈ d) : ∀ (acc : Dict),
    dget (d.foldl (fun acc p => dset acc (m.getD p.1 0) (image m p.2)) acc) (m.getD i 0) = some (image m vs) := by
  induction d with
  | nil => exact nomatch h
  | cons p rest ih =>
    intro acc
    rw [List.foldl_cons]
    have hnd' := List.nodup_cons.mp hnd
    rcases List.mem_cons.mp h with rfl | h'
    · rw [dget_reindex_foldl_of_ne m rest _ _ fun q hq hmq => hnd'.1 (List.mem_map.mpr
        ⟨q, hq, hinj q (List.mem_cons_of_mem _ hq) _ List.mem_cons_self hmq⟩)]
      exact dget_dset_self _ _ _
    · exact ih hnd'.2
        (fun a ha b hb => hinj a (List.mem_cons_of_mem _ ha) b (List.mem_cons_of_mem _ hb)) h' _

end Fca.LC
