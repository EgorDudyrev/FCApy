/-
  The constructor with `children_dict`.  `_transpose_hierarchy` is the loop of Lemmas/TransposeHierarchy on the
  association list.  The work-list loop of `_closed_relation_cache_by_direct_cache` pops the first entry all of whose
  children are visited, computes its closed set, appends ALL its parents and marks it visited; so the work list holds
  duplicates, and an element is popped once per upward cover-path from a minimal element to it.  Here: one iteration
  in the terms of the model, and the order of Lemmas/ClosureWorklist that the loop runs on.
-/
import Fca.Lemmas.PosetFresh
import Fca.Lemmas.PosetAList
import Fca.Lemmas.TransposeHierarchy
import Fca.Lemmas.ClosureWorklist
namespace Fca.Poset
open Fca.Poset.Fresh

/-- the dictionary as `_transpose_hierarchy` uses it; `transposeHierarchy h` unfolds to `TransposeH.run cacheOps h []` -/
def cacheOps : TransposeH.Ops Cache :=
  .ofGet (fun d k => alookup k d) (fun d k s => ainsert k s d) (fun s k => setUnion s [k])
    (fun d k s v => alookup_ainsert v k s d) fun _ _ _ => mem_setUnion.trans (or_congr_right List.mem_singleton)

theorem mem_transposeHierarchy (h : Cache) (v x : Nat) :
    x ∈ (alookup v (transposeHierarchy h)).getD [] ↔ ∃ p ∈ h, v ∈ p.2 ∧ x = p.1 :=
  (TransposeH.mem_rd_run cacheOps h [] v x).trans (or_iff_right List.not_mem_nil)

theorem isSome_transposeHierarchy (h : Cache) (v : Nat) :
    (alookup v (transposeHierarchy h)).isSome = true ↔ ∃ p ∈ h, v = p.1 ∨ v ∈ p.2 :=
  (TransposeH.has_run cacheOps h [] v).trans (or_iff_right Bool.false_ne_true)

theorem nodup_transposeHierarchy (h : Cache) (v : Nat) : ((alookup v (transposeHierarchy h)).getD []).Nodup :=
  TransposeH.nodup_run cacheOps (fun _ _ hs => nodup_setUnion hs (List.pairwise_singleton _ _))
    h [] (fun _ => List.nodup_nil) v

theorem transpose_exact {n : Nat} {P : Nat → Nat → Bool} {c : Cache}
    (hc : ∀ kv ∈ c, kv.1 < n ∧ kv.2.Nodup ∧ ∀ x, x ∈ kv.2 ↔ P x kv.1 = true)
    (htot : ∀ k, k < n → ∃ vs, (k, vs) ∈ c) (hlt : ∀ x k, P x k = true → x < n ∧ k < n)
    {k : Nat} {v : List Nat} (h : alookup k (transposeHierarchy c) = some v) :
    k < n ∧ v.Nodup ∧ ∀ x, x ∈ v ↔ P k x = true := by
  have hm := mem_transposeHierarchy c k
  have hs := (isSome_transposeHierarchy c k).mp
  have hn := nodup_transposeHierarchy c k
  rw [h] at hm hs hn
  refine ⟨?_, hn, fun x => (hm x).trans ⟨fun ⟨p, hp, hk, e⟩ => e ▸ ((hc p hp).2.2 k).mp hk, fun hp =>
    (htot x (hlt k x hp).2).elim fun vs hvs => ⟨(x, vs), hvs, ((hc _ hvs).2.2 k).mpr hp, rfl⟩⟩⟩
  obtain ⟨p, hp, e | hk⟩ := hs rfl
  · exact e ▸ (hc p hp).1
  · exact (hlt k p.1 (((hc p hp).2.2 k).mp hk)).1

/-- `closed_cache[el] = direct_rels | ⋃ closed_cache[rel]` -/
theorem closureFold_spec {closed : Cache} (hc : ∀ r c, alookup r closed = some c → c.Nodup) (l a : List Nat)
    (ha : a.Nodup) (h : ∀ r ∈ l, (alookup r closed).isSome = true) :
    ∃ cl, l.foldl (fun acc r => match acc, alookup r closed with
        | some a, some c => some (setUnion a c)
        | _, _ => none) (some a) = some cl ∧ cl.Nodup ∧
      ∀ x, x ∈ cl ↔ (x ∈ a ∨ ∃ r ∈ l, x ∈ (alookup r closed).getD []) := by
  induction l generalizing a with
  | nil => exact ⟨a, rfl, ha, fun x => ⟨Or.inl, fun h => h.elim id fun ⟨_, hr, _⟩ => nomatch hr⟩⟩
  | cons r rs ih =>
    obtain ⟨c, hr⟩ := Option.isSome_iff_exists.mp (h r List.mem_cons_self)
    obtain ⟨cl, h1, h2, h3⟩ := ih (setUnion a c) (nodup_setUnion ha (hc r c hr))
      fun r' hr' => h r' (List.mem_cons_of_mem _ hr')
    refine ⟨cl, by rw [List.foldl_cons, hr]; exact h1, h2, fun x => ?_⟩
    rw [h3 x, mem_setUnion, or_assoc]
    simp only [List.mem_cons, exists_eq_or_imp, hr, Option.getD_some]

theorem closedByDirectLoop_step {direct trans : Cache} {fuel : Nat} {t : Nat} {ts vis : List Nat} {cl : Cache}
    {idx el : Nat} {dr tr cl1 : List Nat}
    (hfr : findReady direct vis (t :: ts) 0 = some idx) (hel : (t :: ts)[idx]? = some el)
    (hdr : alookup el direct = some dr) (htr : alookup el trans = some tr)
    (hfold : dr.foldl (fun acc r => match acc, alookup r cl with
        | some a, some c => some (setUnion a c)
        | _, _ => none) (some dr) = some cl1) :
    closedByDirectLoop direct trans (fuel + 1) (t :: ts) vis cl =
      closedByDirectLoop direct trans fuel ((t :: ts).eraseIdx idx ++ tr) (setInsert el vis)
        (ainsert el cl1 cl) := by
  rw [closedByDirectLoop]
  · simp only [hfr, hel, hdr, htr]
    split
    · rename_i h
      cases h.symm.trans hfold
    · rename_i c h
      cases h.symm.trans hfold
      rfl
  · exact nofun

section
variable {α : Type} {leq : α → α → Bool} {E : List α}

/-- the `children_dict` handed to the constructor is the lower-cover relation of `E` -/
structure CorrectCD (leq : α → α → Bool) (E : List α) (cd : Cache) : Prop where
  entry : ∀ kv ∈ cd, kv.1 < E.length ∧ kv.2.Nodup ∧ ∀ x, x ∈ kv.2 ↔ isCover leq .desc E x kv.1 = true
  total : ∀ k, k < E.length → ∃ vs, (k, vs) ∈ cd

theorem cd_lookup {cd : Cache} (hcd : CorrectCD leq E cd) {x : Nat} (hx : x < E.length) :
    ∃ dr, alookup x cd = some dr :=
  (hcd.total x hx).elim fun _ hvs => Option.isSome_iff_exists.mp (alookup_isSome_of_mem hvs)

theorem trans_lookup {cd : Cache} (hcd : CorrectCD leq E cd) {x : Nat} (hx : x < E.length) :
    ∃ tr, alookup x (transposeHierarchy cd) = some tr :=
  (hcd.total x hx).elim fun vs hvs =>
    Option.isSome_iff_exists.mp ((isSome_transposeHierarchy cd x).mpr ⟨(x, vs), hvs, Or.inl rfl⟩)

/-- over all entries of the association list, shadowed ones too -/
def RelIn (h : Cache) (k v : Nat) : Prop := ∃ vs, (k, vs) ∈ h ∧ v ∈ vs

/-- The work-list loop's state in the words of its dictionaries: every entry of `cl` is a strict down-set, every
    visited element has one, and the minimal elements and the parents of visited ones are visited or queued.  The
    loop is verified through `WL.Inv` on the lookups of `cl` (Lemmas/PosetInit), which asks less. -/
structure CInv (leq : α → α → Bool) (E : List α) (cd : Cache) (tv vis : List Nat) (cl : Cache) : Prop where
  clOk : ∀ kv ∈ cl, kv.1 < E.length ∧ kv.2.Nodup ∧ ∀ x, x ∈ kv.2 ↔ ltD leq .desc E x kv.1 = true
  visCl : ∀ k ∈ vis, (alookup k cl).isSome = true
  bottoms : ∀ b vs, (b, vs) ∈ cd → vs = [] → b ∈ vis ∨ b ∈ tv
  parents : ∀ x ∈ vis, ∀ p, RelIn cd p x → p ∈ vis ∨ p ∈ tv

/-- fuel that suffices for the work-list loop of the constructor on `n` elements -/
def fuelBound (n : Nat) : Nat := 2 ^ n

/-- Termination: the potential `wsum` of the work list drops with every iteration (`WL.wsum_step`; `wsum leq E` is
    `WL.wsum (closed leq .anc E)`). -/
def wt (leq : α → α → Bool) (E : List α) (x : Nat) : Nat := 2 ^ (closed leq .anc E x).length

def wsum (leq : α → α → Bool) (E : List α) (l : List Nat) : Nat := (l.map (wt leq E)).sum

def startWeight (leq : α → α → Bool) (E : List α) (cd : Cache) : Nat :=
  wsum leq E (cd.filterMap fun kv => if kv.2.isEmpty then some kv.1 else none)

/-- the keys that `closedByDirect` puts on the work list: those with no children -/
theorem mem_start {cd : Cache} {q : Nat} :
    q ∈ (cd.filterMap fun kv => if kv.2.isEmpty then some kv.1 else none) ↔ (q, []) ∈ cd := by
  rw [List.mem_filterMap]
  constructor
  · rintro ⟨kv, hkv, he⟩
    split at he
    · rename_i hem
      cases he
      rw [← List.isEmpty_iff.mp hem]
      exact hkv
    · cases he
  · exact fun h => ⟨(q, []), h, rfl⟩

/-- no entry of the association list is hidden behind an earlier one with the same key (`_transpose_hierarchy` and
    the `leq` filling walk the list, not the lookups), and the stored sets are duplicate free -/
def Tidy (c : Cache) : Prop := ∀ k v, (k, v) ∈ c → alookup k c = some v ∧ v.Nodup

theorem Tidy.ainsert {c : Cache} (h : Tidy c) (k : Nat) {v : List Nat} (hv : v.Nodup) : Tidy (ainsert k v c) := by
  intro k' v' hm
  rw [alookup_ainsert]
  rcases List.mem_cons.mp hm with e | hm
  · cases e
    exact ⟨if_pos rfl, hv⟩
  · obtain ⟨hm, hne⟩ := List.mem_filter.mp hm
    rw [if_neg (of_decide_eq_true hne)]
    exact h k' v' hm

variable [DecidableEq α]

/-! The order the work list of the constructor runs on: `ltD leq .desc E` on the indexes below `E.length`, the
  children and parents of `x` being its lower and upper covers, `closed leq .anc E x` its strict up-set. -/

theorem isCover_iff_upper {d : Dir} {x k : Nat} :
    isCover leq d E x k = true ↔ k < E.length ∧ Ord.Cover E.length (ltD leq d E) x k :=
  isCover_iff_cover.trans ⟨fun h => ⟨(ltD_lt_length h.1).2, h⟩, And.right⟩

theorem closed_anc_up (x : Nat) : (closed leq .anc E x).Nodup ∧
    ∀ a, a ∈ closed leq .anc E x ↔ a < E.length ∧ ltD leq .desc E x a = true :=
  ⟨nodup_closed .anc x, fun a => mem_closed.trans (by
    rw [show ltD leq .anc E a x = ltD leq .desc E x a from ltD_flip .desc E a x]
    exact ⟨fun h => ⟨(ltD_lt_length h).2, h⟩, And.right⟩)⟩

theorem cd_lookup_spec {cd : Cache} (hcd : CorrectCD leq E cd) {x : Nat} {dr : List Nat}
    (h : alookup x cd = some dr) :
    dr.Nodup ∧ ∀ c, c ∈ dr ↔ c < E.length ∧ Ord.Cover E.length (ltD leq .desc E) c x :=
  have he := hcd.entry _ (alookup_mem h)
  ⟨he.2.1, fun c => (he.2.2 c).trans isCover_iff_lower⟩

theorem trans_lookup_spec {cd : Cache} (hcd : CorrectCD leq E cd) {x : Nat} {tr : List Nat}
    (h : alookup x (transposeHierarchy cd) = some tr) :
    tr.Nodup ∧ ∀ p, p ∈ tr ↔ p < E.length ∧ Ord.Cover E.length (ltD leq .desc E) x p :=
  have ht := (transpose_exact hcd.entry hcd.total (fun _ _ hc => ltD_lt_length (isCover_iff.mp hc).1) h).2
  ⟨ht.1, fun p => (ht.2 p).trans isCover_iff_upper⟩

theorem inv_start {cd : Cache} (hcd : CorrectCD leq E cd) :
    WL.Inv E.length (ltD leq .desc E) (cd.filterMap fun kv => if kv.2.isEmpty then some kv.1 else none) []
      fun k => alookup k ([] : Cache) := by
  refine WL.Inv.start (fun x hx => (hcd.entry _ (mem_start.mp hx)).1) fun m hm hch => ?_
  obtain ⟨vs, hvs⟩ := hcd.total m hm
  obtain rfl : vs = [] := List.eq_nil_iff_forall_not_mem.mpr fun x hx =>
    have hc := isCover_iff_lower.mp (((hcd.entry _ hvs).2.2 x).mp hx)
    hch x hc.1 hc.2
  exact mem_start.mpr hvs

theorem startWeight_lt_pow (hpo : IdxPO leq E) {cd : Cache} (hcd : CorrectCD leq E cd)
    (hk : (cd.map Prod.fst).Nodup) : startWeight leq E cd < 2 ^ E.length := by
  refine WL.wsum_start_lt (hpo.strict .desc) closed_anc_up ?_ (inv_start hcd).tvLt
    fun q hq c hc hcov => nomatch ((hcd.entry _ (mem_start.mp hq)).2.2 c).mpr (isCover_iff_lower.mpr ⟨hc, hcov⟩)
  rw [show (cd.filterMap fun kv => if kv.2.isEmpty then some kv.1 else none)
      = (cd.filter fun kv => kv.2.isEmpty).map Prod.fst by rw [← List.filterMap_eq_map, List.filterMap_filter]; rfl]
  exact hk.sublist (List.filter_sublist.map _)

end
end Fca.Poset
