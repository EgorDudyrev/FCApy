/-
  `sortIntentsInclusion` (model of `caspailleur.order.sort_intents_inclusion`) on a duplicate-free,
  intersection-closed family listed in ascending topological order returns `lattice[i]` = the upper covers of
  `i` and `trans_lattice[i]` = all strict supersets of `i`.

  The argument is order-theoretic and is given first, free of bit arrays.  A family of `n` sets is given by
  `has k m` ("set number `k` contains `m`"); it lists a strict subset before its supersets, holds no set twice
  and contains the intersection of any two members (`Fam`).  For a member `i` the routine records as `children`
  every `k` that is, for some `m ∉ set i`, the FIRST listed member containing `set i ∪ {m}` (`Child`).  Closure
  under intersection makes that first member the least one, so every strict superset of `i` contains a child:
  the children and their strict supersets are all strict supersets, and the children that are not strict
  supersets of another child are the upper covers.
-/
import Fca.Lemmas.CaspBits
namespace Fca.Casp

structure Fam (n : Nat) (has : Nat → Nat → Prop) : Prop where
  antisymm : ∀ i j, i < n → j < n → (∀ m, has i m → has j m) → (∀ m, has j m → has i m) → i = j
  lt_of_ssub : ∀ i j, i < n → j < n → (∀ m, has i m → has j m) → ¬ (∀ m, has j m → has i m) → i < j
  inter : ∀ i j, i < n → j < n → ∃ k, k < n ∧ ∀ m, has k m ↔ (has i m ∧ has j m)

section
variable {n : Nat} {has : Nat → Nat → Prop}

def Le (has : Nat → Nat → Prop) (i j : Nat) : Prop := ∀ m, has i m → has j m
def SSub (has : Nat → Nat → Prop) (i j : Nat) : Prop := Le has i j ∧ ¬ Le has j i

def UpperCover (n : Nat) (has : Nat → Nat → Prop) (i j : Nat) : Prop :=
  SSub has i j ∧ ¬ ∃ k, k < n ∧ SSub has i k ∧ SSub has k j

def Above (n : Nat) (has : Nat → Nat → Prop) (i m k : Nat) : Prop := k < n ∧ Le has i k ∧ has k m

/-- `k` is recorded in `children` while member `i` is processed -/
def Child (n : Nat) (has : Nat → Nat → Prop) (i k : Nat) : Prop :=
  ∃ m, ¬ has i m ∧ Above n has i m k ∧ ∀ j, j < k → ¬ Above n has i m j

theorem Le.trans {i j k : Nat} (a : Le has i j) (b : Le has j k) : Le has i k := fun m h => b m (a m h)

theorem SSub.trans {i j k : Nat} (a : SSub has i j) (b : SSub has j k) : SSub has i k :=
  ⟨a.1.trans b.1, fun h => b.2 (h.trans a.1)⟩

theorem SSub.trans_le {i j k : Nat} (a : SSub has i j) (b : Le has j k) : SSub has i k :=
  ⟨a.1.trans b, fun h => a.2 (b.trans h)⟩

theorem Le.trans_ssub {i j k : Nat} (a : Le has i j) (b : SSub has j k) : SSub has i k :=
  ⟨a.trans b.1, fun h => b.2 (h.trans a)⟩

theorem Child.lt_and_ssub {i k : Nat} (c : Child n has i k) : k < n ∧ SSub has i k := by
  obtain ⟨m, hm, ⟨hk, hle, hkm⟩, _⟩ := c
  exact ⟨hk, hle, fun h => hm (h m hkm)⟩

/-- a child is listed later: this is what lets the main loop run from the last member down -/
theorem Child.lt (F : Fam n has) {i k : Nat} (hi : i < n) (c : Child n has i k) : i < k :=
  F.lt_of_ssub i k hi c.lt_and_ssub.1 c.lt_and_ssub.2.1 c.lt_and_ssub.2.2

theorem exists_child_le (F : Fam n has) {i j : Nat} (hj : j < n) (h : SSub has i j) :
    ∃ k, Child n has i k ∧ Le has k j := by
  have : ∃ m, has j m ∧ ¬ has i m := by
    false_or_by_contra
    rename_i hn
    exact h.2 fun m hm => Classical.byContradiction fun hc => hn ⟨m, hm, hc⟩
  obtain ⟨m, hjm, him⟩ := this
  obtain ⟨k, hk, hmin⟩ := ListAux.exists_min_measure id (P := Above n has i m) ⟨hj, h.1, hjm⟩
  have hmin : ∀ j', j' < k → ¬ Above n has i m j' := fun j' hlt hp => Nat.not_le.mpr hlt (hmin j' hp)
  refine ⟨k, ⟨m, him, hk, hmin⟩, ?_⟩
  obtain ⟨k', hk', hmeet⟩ := F.inter k j hk.1 hj
  have habove : Above n has i m k' :=
    ⟨hk', fun x hx => (hmeet x).mpr ⟨hk.2.1 x hx, h.1 x hx⟩, (hmeet m).mpr ⟨hk.2.2, hjm⟩⟩
  have hle' : Le has k' k := fun x hx => ((hmeet x).mp hx).1
  have hge : Le has k k' := by
    false_or_by_contra
    rename_i hn
    exact hmin k' (F.lt_of_ssub k' k hk' hk.1 hle' hn) habove
  exact fun x hx => ((hmeet x).mp (hge x hx)).2

/-- `trans_lattice[i] = children | trans_children` holds exactly the strict supersets -/
theorem trans_iff (F : Fam n has) {i j : Nat} :
    (Child n has i j ∨ ∃ c, Child n has i c ∧ (j < n ∧ SSub has c j)) ↔ (j < n ∧ SSub has i j) := by
  constructor
  · rintro (c | ⟨c, hc, hj, hs⟩)
    · exact c.lt_and_ssub
    · exact ⟨hj, hc.lt_and_ssub.2.trans hs⟩
  · rintro ⟨hj, hs⟩
    obtain ⟨k, hk, hle⟩ := exists_child_le F hj hs
    by_cases hjk : Le has j k
    · have : k = j := F.antisymm k j hk.lt_and_ssub.1 hj hle hjk
      exact .inl (this ▸ hk)
    · exact .inr ⟨k, hk, hj, hle, hjk⟩

/-- `lattice[i] = children & ~trans_children` holds exactly the upper covers -/
theorem cover_iff (F : Fam n has) {i j : Nat} :
    (Child n has i j ∧ ¬ ∃ c, Child n has i c ∧ (j < n ∧ SSub has c j)) ↔ (j < n ∧ UpperCover n has i j) := by
  constructor
  · rintro ⟨hc, hno⟩
    obtain ⟨hj, hs⟩ := hc.lt_and_ssub
    refine ⟨hj, hs, ?_⟩
    rintro ⟨k, hk, hik, hkj⟩
    obtain ⟨c, hcc, hle⟩ := exists_child_le F hk hik
    exact hno ⟨c, hcc, hj, hle.trans_ssub hkj⟩
  · rintro ⟨hj, hs, hno⟩
    obtain ⟨c, hcc, hle⟩ := exists_child_le F hj hs
    have hjc : Le has j c := by
      false_or_by_contra
      rename_i hn
      exact hno ⟨c, hcc.lt_and_ssub.1, hcc.lt_and_ssub.2, hle, hn⟩
    have : c = j := F.antisymm c j hcc.lt_and_ssub.1 hj hle hjc
    subst this
    refine ⟨hcc, ?_⟩
    rintro ⟨c', hc', _, hs'⟩
    exact hno ⟨c', hc'.lt_and_ssub.1, hc'.lt_and_ssub.2, hs'⟩

end

def hasOf (intents : List Bits) (k m : Nat) : Prop := bit (intents.getD k []) m = true

def Uniform (intents : List Bits) (nA : Nat) : Prop := ∀ it ∈ intents, it.length = nA

theorem Shape.uniform {t : List Bits} {R C : Nat} (h : Shape t R C) : Uniform t C := fun row hr => by
  obtain ⟨k, hk, rfl⟩ := List.getElem_of_mem hr
  exact ListAux.getD_eq_get _ _ [] hk ▸ h.2 k (h.1 ▸ hk)

theorem hasOf_lt {intents : List Bits} {k m : Nat} (h : hasOf intents k m) : k < intents.length :=
  lt_of_bit_getD h

theorem hasOf_lt_attr {intents : List Bits} {nA k m : Nat} (hu : Uniform intents nA) (h : hasOf intents k m) :
    m < nA :=
  hu _ (ListAux.getD_mem _ _ _ (hasOf_lt h)) ▸ lt_of_bit h

theorem checkTopologicallySorted_iff : ∀ {l : List Bits},
    checkTopologicallySorted true l = true ↔ l.Pairwise (fun a b => count1 a ≤ count1 b)
  | [] => by simp [checkTopologicallySorted]
  | [a] => by simp [checkTopologicallySorted]
  | a :: b :: r => by
    rw [checkTopologicallySorted, if_pos rfl, Bool.and_eq_true, decide_eq_true_eq,
      checkTopologicallySorted_iff (l := b :: r), List.pairwise_cons (a := a)]
    refine and_congr_left fun hp => ⟨fun h x hx => ?_, fun h => h b (List.mem_cons_self ..)⟩
    rcases List.mem_cons.mp hx with rfl | hx
    · exact h
    · exact Nat.le_trans h ((List.pairwise_cons.mp hp).1 x hx)

theorem bit_foldl_band (f : Nat → Bits) (l : List Nat) (init : Bits) (j : Nat) :
    bit (l.foldl (fun c m => band c (f m)) init) j = true ↔ bit init j = true ∧ ∀ m ∈ l, bit (f m) j = true := by
  induction l generalizing init with
  | nil => exact ⟨fun h => ⟨h, nofun⟩, fun h => h.1⟩
  | cons m l ih => rw [List.foldl_cons, ih, bit_band, Bool.and_eq_true, List.forall_mem_cons, and_assoc]

/-- the common shape of the `|=` loop of `transChildren` and the `children[meet_idx] = True` loop of
    `childrenOf` -/
theorem foldl_or_holds {n : Nat} {step : Bits → Nat → Bits} {Q : Nat → Nat → Prop} (l : List Nat)
    (hstep : ∀ m ∈ l, ∀ {c : Bits} {P : Nat → Prop}, Holds n c P →
      Holds n (step c m) fun j => P j ∨ Q m j) :
    ∀ {init : Bits} {P : Nat → Prop}, Holds n init P →
      Holds n (l.foldl step init) fun j => P j ∨ ∃ m ∈ l, Q m j := by
  induction l with
  | nil => exact fun h => h.congr fun j => by simp
  | cons m l ih =>
    intro init P h
    exact (ih (fun m' hm' => hstep m' (List.mem_cons_of_mem _ hm')) (hstep m (List.mem_cons_self ..) h)).congr
      fun j => by rw [or_assoc]; simp only [List.mem_cons, exists_eq_or_imp]

section
variable {intents : List Bits} {nA : Nat}

theorem commonDescendants_iff {ad : List Bits} (had : ∀ m j, bit (ad.getD m []) j = true ↔ hasOf intents j m)
    (i j : Nat) : bit (commonDescendants ad intents.length (intents.getD i [])) j = true ↔
      j < intents.length ∧ Le (hasOf intents) i j := by
  rw [commonDescendants, bit_foldl_band, bit_ones, decide_eq_true_eq]
  exact and_congr_right fun _ => forall_congr' fun m => imp_congr mem_search1 (had m j)

theorem childrenOf_holds (hu : Uniform intents nA) {ad : List Bits}
    (had : ∀ m j, bit (ad.getD m []) j = true ↔ hasOf intents j m) {i : Nat} (hi : i < intents.length)
    {common : Bits} (hc : ∀ j, bit common j = true ↔ j < intents.length ∧ Le (hasOf intents) i j) :
    Holds intents.length (childrenOf ad intents.length nA (intents.getD i []) common)
      (Child intents.length (hasOf intents) i) := by
  have habove : ∀ m j, bit (band common (ad.getD m [])) j = true ↔
      Above intents.length (hasOf intents) i m j := fun m j => by
    rw [bit_band, Bool.and_eq_true, hc, had]
    exact and_assoc
  have hmem := (holds_ones nA).band
    (Holds.bnot (P := hasOf intents i) ⟨hu _ (ListAux.getD_mem _ _ _ hi), fun _ => Iff.rfl⟩)
  refine (foldl_or_holds (Q := fun m k => find1 (band common (ad.getD m [])) = some k)
    (search1 (band (ones nA) (bnot (intents.getD i [])))) (fun m _ c P hcP => ?_) (holds_zeros _)).congr fun k => ?_
  · cases hf : find1 (band common (ad.getD m [])) with
    | none => exact hcP.congr fun j => (or_iff_left nofun).symm
    | some k =>
      exact (hcP.set ((habove m k).mp (find1_some.mp hf).1).1).congr fun j =>
        or_congr_right (by rw [Option.some.injEq, eq_comm])
  · simp only [false_or, mem_search1, hmem.iff, find1_some, habove, ← Bool.not_eq_true]
    exact exists_congr fun m => ⟨fun h => ⟨h.1.2.2, h.2⟩,
      fun h => ⟨⟨hasOf_lt_attr hu h.2.1.2.2, hasOf_lt_attr hu h.2.1.2.2, h.1⟩, h.2⟩⟩

theorem transChildren_holds {n : Nat} {trans : List Bits} {children : Bits} {C : Nat → Prop}
    {T : Nat → Nat → Prop} (hch : Holds n children C) (hrow : ∀ c, C c → Holds n (trans.getD c []) (T c)) :
    Holds n (transChildren trans n children) fun j => ∃ c, C c ∧ T c j :=
  (foldl_or_holds (Q := T) (search1 children)
    (fun c hc _ _ h => h.bor (hrow c ((hch.iff c).mp (mem_search1.mp hc)))) (holds_zeros n)).congr fun j => by
      simp only [false_or, mem_search1, hch.iff]

/-- the main loop writes row `k` when the rows after it are final -/
theorem rows_set {t : List Bits} {n k : Nat} {Q : Nat → Nat → Prop} {b : Bits} (hl : t.length = n)
    (hb : ∀ j, bit b j = true ↔ Q k j)
    (h : ∀ i, k + 1 ≤ i → i < n → ∀ j, bit (t.getD i []) j = true ↔ Q i j) :
    ∀ i, k ≤ i → i < n → ∀ j, bit ((t.set k b).getD i []) j = true ↔ Q i j := by
  intro i hle hi j
  rw [ListAux.getD_set]
  by_cases he : i = k
  · subst he
    rw [if_pos ⟨rfl, hl ▸ hi⟩]
    exact hb j
  · rw [if_neg (fun h => he h.1)]
    exact h i (Nat.lt_of_le_of_ne hle (Ne.symm he)) hi j

/-- invariant of the main loop of `sort_intents_inclusion`, which runs from the last member down: the rows from `k` on
    hold their final values in `lattice` (`st.1`) and `trans_lattice` (`st.2`) -/
structure Inv (intents : List Bits) (k : Nat) (st : List Bits × List Bits) : Prop where
  shape1 : Shape st.1 intents.length intents.length
  shape2 : Shape st.2 intents.length intents.length
  lat : ∀ i, k ≤ i → i < intents.length → ∀ j, bit (st.1.getD i []) j = true ↔
    (j < intents.length ∧ UpperCover intents.length (hasOf intents) i j)
  trans : ∀ i, k ≤ i → i < intents.length → ∀ j, bit (st.2.getD i []) j = true ↔
    (j < intents.length ∧ SSub (hasOf intents) i j)

theorem inv_step (hu : Uniform intents nA) (F : Fam intents.length (hasOf intents)) {ad : List Bits}
    (hs : Shape ad nA intents.length)
    (had : ∀ m j, bit (ad.getD m []) j = true ↔ hasOf intents j m)
    {i : Nat} (hi : i < intents.length) {st : List Bits × List Bits} (inv : Inv intents (i + 1) st) :
    Inv intents i (siStep intents ad intents.length nA st i) := by
  have ch := childrenOf_holds hu had hi (commonDescendants_iff had i)
  -- the rows that `trans_children` ORs together are those of children, all listed after `i`, where the
  -- invariant already holds
  have tc := transChildren_holds ch fun c hc =>
    (⟨inv.shape2.2 c hc.lt_and_ssub.1, inv.trans c (hc.lt F hi) hc.lt_and_ssub.1⟩ :
      Holds _ _ fun j => j < intents.length ∧ SSub (hasOf intents) c j)
  have lat := (ch.band tc.bnot).congr fun j =>
    (and_congr_right fun a => and_iff_right a.lt_and_ssub.1).trans (cover_iff F)
  have tr := (ch.bor tc).congr fun j => trans_iff F
  exact ⟨shape_set inv.shape1 i fun _ => lat.length, shape_set inv.shape2 i fun _ => tr.length,
    rows_set inv.shape1.1 lat.iff inv.lat, rows_set inv.shape2.1 tr.iff inv.trans⟩

theorem inv_fold (hu : Uniform intents nA) (F : Fam intents.length (hasOf intents)) {ad : List Bits}
    (hs : Shape ad nA intents.length)
    (had : ∀ m j, bit (ad.getD m []) j = true ↔ hasOf intents j m) :
    ∀ k, k ≤ intents.length → ∀ st, Inv intents k st →
      Inv intents 0 ((List.range k).reverse.foldl (siStep intents ad intents.length nA) st) := by
  intro k
  induction k with
  | zero => exact fun _ st h => h
  | succ k ih =>
    intro hk st h
    rw [List.range_succ, List.reverse_append, List.reverse_singleton, List.singleton_append, List.foldl_cons]
    exact ih (Nat.le_of_succ_le hk) _ (inv_step hu F hs had hk h)

theorem inv_init : Inv intents intents.length
    (List.replicate intents.length (zeros intents.length), List.replicate intents.length (zeros intents.length)) :=
  ⟨shape_replicate _ _, shape_replicate _ _, fun _ h1 h2 => absurd h2 (Nat.not_lt.mpr h1),
    fun _ h1 h2 => absurd h2 (Nat.not_lt.mpr h1)⟩

theorem sortIntentsInclusion_eq (hne : intents ≠ []) (hu : Uniform intents nA)
    (hsorted : checkTopologicallySorted true intents = true) :
    sortIntentsInclusion intents = .ok ((List.range intents.length).reverse.foldl
      (siStep intents (scatter intents 0 (List.replicate nA (zeros intents.length))) intents.length nA)
      (List.replicate intents.length (zeros intents.length),
        List.replicate intents.length (zeros intents.length))) := by
  have g1 : (intents.any fun it => (search1 it).any fun m => decide (nA ≤ m)) = false := by
    rw [List.any_eq_false]
    intro it hit
    rw [Bool.not_eq_true, List.any_eq_false]
    intro m hm
    rw [decide_eq_true_eq, Nat.not_le, ← hu it hit]
    exact lt_of_bit (mem_search1.mp hm)
  have g2 : (intents.any fun it => it.length != nA) = false := by
    rw [List.any_eq_false]
    intro it hit
    rw [hu it hit, bne_self_eq_false]
    exact Bool.false_ne_true
  cases intents with
  | nil => exact absurd rfl hne
  | cons i0 rest =>
    have h0 : i0.length = nA := hu i0 (List.mem_cons_self ..)
    simp only [sortIntentsInclusion, hsorted, h0, g1, g2, Bool.not_true, Bool.false_eq_true, if_false]

theorem sortIntentsInclusion_spec (hne : intents ≠ []) (hu : Uniform intents nA)
    (hsorted : checkTopologicallySorted true intents = true) (F : Fam intents.length (hasOf intents)) :
    ∃ st, sortIntentsInclusion intents = .ok st ∧ Inv intents 0 st :=
  -- `attrs_descendants` is the transpose of `intents`
  have ⟨ad1, had⟩ := scatter_zero (rows := intents) ⟨rfl, fun _ hr => hu _ (ListAux.getD_mem _ _ _ hr)⟩
  ⟨_, sortIntentsInclusion_eq hne hu hsorted, inv_fold hu F ad1 had intents.length (Nat.le_refl _) _ inv_init⟩

end

def Closed (intents : List Bits) : Prop := ∀ a ∈ intents, ∀ b ∈ intents, band a b ∈ intents

theorem fam_of_list {intents : List Bits} {nA : Nat} (hu : Uniform intents nA) (hnd : intents.Nodup)
    (hs : checkTopologicallySorted true intents = true) (hc : Closed intents) :
    Fam intents.length (hasOf intents) := by
  refine ⟨fun i j hi hj h1 h2 => ?_, fun i j hi hj h1 h2 => ?_, fun i j hi hj => ?_⟩
  · -- equal as sets, hence equal arrays, hence at one position
    have e := bits_ext ((hu _ (ListAux.getD_mem _ _ _ hi)).trans (hu _ (ListAux.getD_mem _ _ _ hj)).symm)
      fun m => ⟨h1 m, h2 m⟩
    rw [ListAux.getD_eq_get _ _ _ hi, ListAux.getD_eq_get _ _ _ hj] at e
    exact (List.getElem?_inj hi hnd).mp (by rw [List.getElem?_eq_getElem hi, List.getElem?_eq_getElem hj, e])
  · -- a strict subset has fewer elements, and the list is sorted by the number of elements
    have hlt : count1 (intents.getD i []) < count1 (intents.getD j []) := by
      rw [count1_eq, count1_eq]
      exact ListAux.length_lt_of_subset_of_not_subset (nodup_search1 _)
        (fun g hg => mem_search1.mpr (h1 g (mem_search1.mp hg)))
        fun h => h2 fun m hm => mem_search1.mp (h m (mem_search1.mpr hm))
    false_or_by_contra
    rename_i hn
    rcases Nat.lt_or_eq_of_le (Nat.le_of_not_lt hn) with hji | rfl
    · rw [ListAux.getD_eq_get _ _ _ hi, ListAux.getD_eq_get _ _ _ hj] at hlt
      exact Nat.not_le.mpr hlt (List.pairwise_iff_getElem.mp (checkTopologicallySorted_iff.mp hs) j i hj hi hji)
    · exact Nat.lt_irrefl _ hlt
  · obtain ⟨k, hk, e⟩ := List.getElem_of_mem (hc _ (ListAux.getD_mem _ _ _ hi) _ (ListAux.getD_mem _ _ _ hj))
    refine ⟨k, hk, fun m => ?_⟩
    unfold hasOf
    rw [ListAux.getD_eq_get _ _ _ hk, e, bit_band, Bool.and_eq_true]

end Fca.Casp
