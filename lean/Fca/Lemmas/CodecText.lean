/-
  Fca.Lemmas.CodecText — the two text formats of `Fca.Model.Codec`.  `.cxt`: the blank line `'\n\n'` occurs in the
  written text only where `write_cxt` puts it, because no name is empty or holds a newline.  `.csv`: the text is
  lines of `sep`-joined fields (`csvFields`), for a separator string none of whose characters occurs in a field.
-/
import Fca.Lemmas.Codec
namespace Fca.Codec

/-- a name the `.cxt` format can carry: non-empty, no newline -/
def NameOk (l : Str) : Prop := l ≠ [] ∧ nl ∉ l
instance (l : Str) : Decidable (NameOk l) := by unfold NameOk; infer_instance

abbrev nn : Str := [nl, nl]

theorem nn_prefix_nl (t : Str) (h : ∀ u, t ≠ nl :: u) : nn.isPrefixOf (nl :: t) = false := by
  cases t with
  | nil => simp [List.isPrefixOf]
  | cons x u =>
    have : (nl == x) = false := by
      simp only [beq_eq_false_iff_ne, ne_eq]
      intro e; exact h u (by rw [e])
    simp [List.isPrefixOf, this]

theorem noEarly_nn_of_noNl (T a : Str) (h : nl ∉ a) : noEarly nn a T = true :=
  noEarly_disj nl [nl] T a fun ch hch hm => h ((show ch = nl by simpa using hm) ▸ hch)

theorem head_ne_nl (d T : Str) (hne : d ≠ []) (h : nl ∉ d) : ∀ u, d ++ T ≠ nl :: u := by
  intro u e
  cases d with
  | nil => exact hne rfl
  | cons c d => exact h ((List.cons.inj e).1 ▸ List.mem_cons_self)

theorem noEarly_nn_line (l R T : Str) (hl : nl ∉ l) (hR : noEarly nn R T = true) (hR' : ∀ u, R ++ T ≠ nl :: u) :
    noEarly nn (l ++ nl :: R) T = true := by
  rw [noEarly_append, noEarly_nn_of_noNl _ l hl, noEarly, List.cons_append, nn_prefix_nl _ hR', hR]
  rfl

theorem unlines_head (ls : List Str) (h : ∀ l ∈ ls, NameOk l) : ∀ u, unlines ls ≠ nl :: u := by
  cases ls with
  | nil => intro u e; cases e
  | cons l ls => exact head_ne_nl l _ (h l (by simp)).1 (h l (by simp)).2

theorem noEarly_nn_unlines : ∀ ls : List Str, (∀ l ∈ ls, NameOk l) → noEarly nn (unlines ls) [] = true
  | [], _ => rfl
  | l :: ls, h => by
    have hls : ∀ l' ∈ ls, NameOk l' := fun l' hl' => h l' (List.mem_cons_of_mem _ hl')
    exact noEarly_nn_line l _ [] (h l (by simp)).2 (noEarly_nn_unlines ls hls)
      (by rw [List.append_nil]; exact unlines_head ls hls)

theorem rowStr_decode (r : List Bool) : (rowStr r).map (fun c => c == 'X') = r := by
  rw [rowStr, List.map_map]
  exact (List.map_congr_left fun b _ => by cases b <;> rfl).trans (List.map_id r)

theorem rows_decode (rows : List (List Bool)) :
    (rows.map rowStr).map (fun line => line.map fun c => c == 'X') = rows := by
  rw [List.map_map]
  exact (List.map_congr_left fun r _ => rowStr_decode r).trans (List.map_id rows)

theorem rowStr_ok (r : List Bool) (h : r ≠ []) : NameOk (rowStr r) := by
  refine ⟨by simpa [rowStr] using h, ?_⟩
  intro hm
  simp only [rowStr, List.mem_map] at hm
  obtain ⟨b, _, hb⟩ := hm
  cases b <;> simp [nl] at hb

theorem writeCxt_eq (K : Cxt) (ho : K.objs ≠ []) (ha : K.attrs ≠ []) (hr : K.rows ≠ []) :
    writeCxt K = ['B'] ++ (nn ++ ((natRepr K.nObjs ++ nl :: natRepr K.nAttrs) ++
      (nn ++ unlines (K.objs ++ K.attrs ++ K.rows.map rowStr)))) := by
  have h3 : K.rows.map rowStr ≠ [] := by simpa using hr
  simp only [writeCxt, join_nl_eq_unlines _ ho, join_nl_eq_unlines _ ha, join_nl_eq_unlines _ h3,
    unlines_append]
  simp only [List.append_assoc, List.cons_append, List.nil_append]

theorem splitOn_nn_writeCxt (K : Cxt) (ho : K.objs ≠ []) (ha : K.attrs ≠ []) (hr : K.rows ≠ [])
    (hlines : ∀ l ∈ K.objs ++ K.attrs ++ K.rows.map rowStr, NameOk l) :
    splitOn nn (writeCxt K) = [['B'], natRepr K.nObjs ++ nl :: natRepr K.nAttrs,
      unlines (K.objs ++ K.attrs ++ K.rows.map rowStr)] := by
  rw [writeCxt_eq K ho ha hr]
  unfold splitOn
  rw [splitGo_first nn (by simp) _ ['B'] (noEarly_nn_of_noNl _ _ (by simp [nl]))]
  rw [splitGo_first nn (by simp) _ _ (noEarly_nn_line _ _ _ (nl_not_mem_natRepr _)
    (noEarly_nn_of_noNl _ _ (nl_not_mem_natRepr _)) (head_ne_nl _ _ (natRepr_ne_nil _) (nl_not_mem_natRepr _)))]
  rw [splitGo_last nn _ (noEarly_nn_unlines _ hlines)]

theorem split_counts (n m : Nat) :
    mapME pyInt (splitOn [nl] (natRepr n ++ nl :: natRepr m)) = .ok [n, m] := by
  have := splitOn_unlines (natRepr m) (nl_not_mem_natRepr m) [natRepr n] (by simp [nl_not_mem_natRepr])
  simp only [unlines, List.append_assoc, List.cons_append, List.nil_append] at this
  simp only [this, mapME, pyInt_natRepr]

theorem lines_unlines (ls : List Str) (hne : ls ≠ []) (h : ∀ l ∈ ls, NameOk l) :
    splitOn [nl] (stripNl (unlines ls)) = ls := by
  rcases List.eq_nil_or_concat ls with e | ⟨init, x, e⟩
  · exact absurd e hne
  · rw [List.concat_eq_append] at e
    subst e
    have hx := h x (by simp)
    have hl : rstripNl (unlines [x]) = x := rstripNl_line x hx.2
    rw [stripNl, lstripNl_eq_self _ (unlines_head _ h), unlines_append,
      rstripNl_append _ _ (by rw [hl]; exact hx.1), hl]
    exact splitOn_unlines x hx.2 init fun l hl => (h l (by simp [hl])).2

/-- a field the csv format can carry with separator `c`: no separator, no newline, no carriage return -/
def FieldOk (c : Char) (l : Str) : Prop := c ∉ l ∧ nl ∉ l ∧ cr ∉ l
instance (c : Char) (l : Str) : Decidable (FieldOk c l) := by unfold FieldOk; infer_instance

/-- the same for a separator of several characters: none of them may occur in the field -/
def FieldOkS (sep l : Str) : Prop := Disj sep l ∧ nl ∉ l ∧ cr ∉ l
instance (sep l : Str) : Decidable (FieldOkS sep l) := by unfold FieldOkS; infer_instance

theorem fieldOk_iff {c : Char} {l : Str} : FieldOk c l ↔ FieldOkS [c] l :=
  and_congr_left' disj_singleton.symm

def word (wt wf : Str) (v : Bool) : Str := if v then wt else wf

/-- the fields of the lines of the csv file; the header line starts with an empty field -/
def csvFields (K : Cxt) (wt wf : Str) : List (List Str) :=
  ([] :: K.attrs) :: (K.objs.zip K.rows).map fun p => p.1 :: p.2.map (word wt wf)

theorem writeCsv_eq (K : Cxt) (sep wt wf : Str) (hm : K.attrs ≠ [])
    (hr : ∀ r ∈ K.rows, r ≠ []) :
    writeCsv K sep wt wf = unlines ((csvFields K wt wf).map (pyJoin sep)) := by
  rw [writeCsv, csvFields, ← unlines_eq_flatten, List.map_cons, List.map_cons, List.flatten_cons, List.map_map,
    List.map_map, pyJoin_cons sep [] hm]
  refine congrArg _ (congrArg _ (List.map_congr_left fun p hp => ?_))
  have hne : p.2.map (word wt wf) ≠ [] := fun e => hr p.2 (List.of_mem_zip hp).2 (List.map_eq_nil_iff.mp e)
  exact congrArg (· ++ [nl]) (pyJoin_cons sep p.1 hne).symm

theorem csvVals_words (wt wf : Str) (hne : wt ≠ wf) : ∀ r : List Bool,
    csvVals wt wf (r.map (word wt wf)) = .ok r
  | [] => rfl
  | v :: r => by
    simp only [List.map_cons, csvVals, csvVals_words wt wf hne r]
    cases v
    · have : (wf == wt) = false := by simpa using fun e => hne e.symm
      simp [word, this]
    · simp [word]

theorem csvLines_fields (sep : Str) (hsep : sep ≠ []) (wt wf : Str) (hne : wt ≠ wf)
    (hwt : Disj sep wt) (hwf : Disj sep wf) :
    ∀ ps : List (Str × List Bool), (∀ p ∈ ps, Disj sep p.1) →
    csvLines sep wt wf (ps.map fun p => pyJoin sep (p.1 :: p.2.map (word wt wf)))
      = .ok (ps.map (·.1), ps.map (·.2))
  | [], _ => rfl
  | p :: ps, h => by
    have hsplit : splitOn sep (pyJoin sep (p.1 :: p.2.map (word wt wf))) = p.1 :: p.2.map (word wt wf) := by
      apply splitOn_join_disj sep hsep _ (by simp)
      intro l hl
      rcases List.mem_cons.mp hl with rfl | hl
      · exact h p (by simp)
      · obtain ⟨v, _, rfl⟩ := List.mem_map.mp hl
        cases v
        · exact hwf
        · exact hwt
    simp only [List.map_cons, csvLines, hsplit, csvVals_words wt wf hne,
      csvLines_fields sep hsep wt wf hne hwt hwf ps (fun q hq => h q (List.mem_cons_of_mem _ hq))]

theorem line_ok {sep : Str} (hsep : sep ≠ [] ∧ nl ∉ sep ∧ cr ∉ sep) (a : Str) {r : List Str} (hr : r ≠ [])
    (ha : FieldOkS sep a) (h : ∀ f ∈ r, FieldOkS sep f) :
    NameOk (pyJoin sep (a :: r)) ∧ cr ∉ pyJoin sep (a :: r) := by
  rw [pyJoin_cons sep a hr]
  simp only [NameOk, List.mem_append, not_or]
  exact ⟨⟨fun e => hsep.1 (List.append_eq_nil_iff.mp (List.append_eq_nil_iff.mp e).1).2,
    ⟨ha.2.1, hsep.2.1⟩, not_mem_pyJoin _ _ hsep.2.1 _ fun f hf => (h f hf).2.1⟩,
    ⟨ha.2.2, hsep.2.2⟩, not_mem_pyJoin _ _ hsep.2.2 _ fun f hf => (h f hf).2.2⟩

end Fca.Codec
