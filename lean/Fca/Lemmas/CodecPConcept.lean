/-
  Fca.Lemmas.CodecPConcept — the dictionary `PatternConcept.to_dict(json_ready=True)` builds (`PConcept.dictKVs`)
  and what `from_dict(json_ready=True)` reads out of it.
-/
import Fca.Lemmas.CodecMVCxt
import Fca.Lemmas.ExceptEq
namespace Fca.Codec

/-- the class of pattern structure `k` of a concept (`AttributePS` when the lookup fails) -/
def tyInd (c : PConcept) (k : Nat) : PType :=
  match typeOfInd c.ptypes c.attrNames k with
  | .ok t => t
  | .error _ => .AttributePS

def tyName (c : PConcept) (nm : Str) : PType :=
  match typeOfName c.ptypes nm with
  | .ok t => t
  | .error _ => .AttributePS

/-- what `PatternConcept.to_dict(json_ready=True)` needs to give the concept back -/
structure PConceptOk (c : PConcept) : Prop where
  inds : ∀ kv ∈ c.intentI, typeOfInd c.ptypes c.attrNames kv.1 = .ok (tyInd c kv.1) ∧ Fits (tyInd c kv.1) kv.2
  names : ∀ kv ∈ c.intent, typeOfName c.ptypes kv.1 = .ok (tyName c kv.1) ∧ Fits (tyName c kv.1) kv.2
  ext_len : c.extentI.length = c.extent.length
  int_len : c.intentI.length = c.intent.length
  meas : ∀ kv ∈ c.measures, kv.1 ≠ "Ext".toList ∧ kv.1 ≠ "Int".toList

/-- the trusted text layer for the intent descriptions of `c` -/
structure PCodecOk (c : PConcept) : Prop where
  inds : ∀ kv ∈ c.intentI, loads (dumps (valTree (tyInd c kv.1) kv.2)) = some (valTree (tyInd c kv.1) kv.2)
  names : ∀ kv ∈ c.intent, loads (dumps (valTree (tyName c kv.1) kv.2)) = some (valTree (tyName c kv.1) kv.2)

instance (c : PConcept) : Decidable (PConceptOk c) :=
  decidable_of_iff
    ((∀ kv ∈ c.intentI, typeOfInd c.ptypes c.attrNames kv.1 = .ok (tyInd c kv.1) ∧ Fits (tyInd c kv.1) kv.2) ∧
      (∀ kv ∈ c.intent, typeOfName c.ptypes kv.1 = .ok (tyName c kv.1) ∧ Fits (tyName c kv.1) kv.2) ∧
      c.extentI.length = c.extent.length ∧ c.intentI.length = c.intent.length ∧
      ∀ kv ∈ c.measures, kv.1 ≠ "Ext".toList ∧ kv.1 ≠ "Int".toList)
    ⟨fun ⟨a, b, c, d, e⟩ => ⟨a, b, c, d, e⟩, fun h => ⟨h.inds, h.names, h.ext_len, h.int_len, h.meas⟩⟩

instance (c : PConcept) : Decidable (PCodecOk c) :=
  decidable_of_iff
    ((∀ kv ∈ c.intentI, loads (dumps (valTree (tyInd c kv.1) kv.2)) = some (valTree (tyInd c kv.1) kv.2)) ∧
      ∀ kv ∈ c.intent, loads (dumps (valTree (tyName c kv.1) kv.2)) = some (valTree (tyName c kv.1) kv.2))
    ⟨fun ⟨a, b⟩ => ⟨a, b⟩, fun h => ⟨h.inds, h.names⟩⟩

def indsJ (c : PConcept) : List (Str × JV) :=
  c.intentI.map fun kv => (natRepr kv.1, jStr (cellText (tyInd c kv.1) kv.2))

def namesJ (c : PConcept) : List (Str × JV) :=
  c.intent.map fun kv => (kv.1, jStr (cellText (tyName c kv.1) kv.2))

theorem encInd_ok (c : PConcept) (h : PConceptOk c) :
    mapME (encInd c.ptypes c.attrNames) c.intentI = .ok (indsJ c) := by
  apply mapME_ok
  intro kv hkv
  obtain ⟨h1, h2⟩ := h.inds kv hkv
  exact bind_of_ok h1 (bind_of_ok (toJsonText_fits _ _ h2) rfl)

theorem encName_ok (c : PConcept) (h : PConceptOk c) :
    mapME (encName c.ptypes) c.intent = .ok (namesJ c) := by
  apply mapME_ok
  intro kv hkv
  obtain ⟨h1, h2⟩ := h.names kv hkv
  exact bind_of_ok h1 (bind_of_ok (toJsonText_fits _ _ h2) rfl)

theorem decInd_ok (c : PConcept) (h : PConceptOk c) (hc : PCodecOk c) :
    mapME (decInd c.ptypes c.attrNames) (indsJ c) = .ok c.intentI := by
  apply mapME_map_inv
  intro kv hkv
  obtain ⟨h1, h2⟩ := h.inds kv hkv
  simp only [decInd, pyInt_natRepr, bind_ok, h1, fromJsonText_cellText _ _ h2 (hc.inds kv hkv)]

theorem decName_ok (c : PConcept) (h : PConceptOk c) (hc : PCodecOk c) :
    mapME (decName c.ptypes) (namesJ c) = .ok c.intent := by
  apply mapME_map_inv
  intro kv hkv
  obtain ⟨h1, h2⟩ := h.names kv hkv
  exact bind_of_ok h1 (bind_of_ok (fromJsonText_cellText _ _ h2 (hc.names kv hkv)) rfl)

theorem decPTypeEntry_ok (pt : List (Str × PType)) :
    mapME decPTypeEntry (pt.map fun p => (p.1, jStr p.2.name)) = .ok pt := by
  apply mapME_map_inv
  intro p _
  exact bind_of_ok (ofName_name _) rfl

theorem pIntFields_entry (c : PConcept) (h : PConceptOk c) (hc : PCodecOk c) :
    pIntFields (pIntEntry (indsJ c) (namesJ c) c.intentI.length c.ptypes c.attrNames)
      = .ok (c.intentI, c.intent, c.ptypes, c.attrNames) :=
  bind_of_ok (JV.getKey_of_lookup (v := .obj (c.ptypes.map fun p => (p.1, jStr p.2.name)))
      (by simp only [JV.lookup_lit_ne, String.reduceEq, not_false_eq_true, JV.lookup_cons_self])) <|
  bind_of_ok rfl <| bind_of_ok (decPTypeEntry_ok _) <|
  bind_of_ok (JV.getKey_of_lookup (JV.lookup_cons_self _ _ _)) <| bind_of_ok rfl <|
  bind_of_ok (JV.getKey_of_lookup (v := .arr (c.attrNames.map jStr))
      (by simp only [JV.lookup_lit_ne, String.reduceEq, not_false_eq_true, JV.lookup_cons_self])) <|
  bind_of_ok (mapME_map_inv asStrT jStr _ fun _ _ => rfl) <| bind_of_ok (decInd_ok c h hc) <|
  bind_of_ok (JV.getKey_of_lookup (v := .obj (namesJ c))
      (by simp only [JV.lookup_lit_ne, String.reduceEq, not_false_eq_true, JV.lookup_cons_self])) <|
  bind_of_ok rfl <| bind_of_ok (decName_ok c h hc) rfl

theorem pExtFields_entry (inds : List Int) (names : List Str) :
    pExtFields (pExtEntry inds names) = .ok (inds, names) :=
  bind_of_ok (JV.getKey_of_lookup (JV.lookup_cons_self _ _ _)) <|
  bind_of_ok ((JV.getOpt_obj _ _).trans (congrArg Except.ok
      (by simp only [JV.lookup_lit_ne, String.reduceEq, not_false_eq_true, JV.lookup_cons_self] :
        JV.lookup _ _ = some (.arr (names.map jStr))))) <|
  bind_of_ok (mapME_map_inv asIntA JV.int inds fun _ _ => rfl) <|
  bind_of_ok (mapME_map_inv asStrA jStr names fun _ _ => rfl) rfl

/-- the dict `to_dict(json_ready=True)` builds -/
def PConcept.dictKVs (c : PConcept) : List (Str × JV) :=
  JV.dictSet "Context_Hash".toList (jOptInt c.contextHash)
    (addMeasures c.measures
      [("Ext".toList, pExtEntry c.extentI c.extent),
       ("Int".toList, pIntEntry (indsJ c) (namesJ c) c.intentI.length c.ptypes c.attrNames),
       ("Supp".toList, jNat c.extentI.length)])

/-- what `from_dict` makes of it: the same concept, its measures extended by `Supp`, `Context_Hash` -/
def PConcept.readBack (c : PConcept) : PConcept :=
  ⟨c.extentI, c.extent, c.intentI, c.intent, c.ptypes, c.attrNames, measuresOf c.dictKVs, c.contextHash⟩

theorem pconcept_toDict (c : PConcept) (h : PConceptOk c) : c.toDict = .ok (.obj c.dictKVs) :=
  bind_of_ok (encInd_ok c h) <| bind_of_ok (encName_ok c h) rfl

theorem pconcept_lookup_int (c : PConcept) (hm : ∀ kv ∈ c.measures, kv.1 ≠ "Int".toList) :
    JV.lookup "Int".toList c.dictKVs
      = some (pIntEntry (indsJ c) (namesJ c) c.intentI.length c.ptypes c.attrNames) := by
  simp only [PConcept.dictKVs, lookup_dictSet_lit_ne, String.reduceEq, not_false_eq_true,
    lookup_addMeasures _ _ _ hm, JV.lookup_cons_self, JV.lookup_lit_ne]

theorem pconcept_fromDict (c : PConcept) (h : PConceptOk c) (hc : PCodecOk c) :
    PConcept.fromDict (.obj c.dictKVs) = .ok c.readBack := by
  have lExt : JV.lookup "Ext".toList c.dictKVs = some (pExtEntry c.extentI c.extent) := by
    simp only [PConcept.dictKVs, lookup_dictSet_lit_ne, String.reduceEq, not_false_eq_true,
      lookup_addMeasures _ _ _ (fun kv hkv => (h.meas kv hkv).1), JV.lookup_cons_self]
  have lHash : JV.lookup "Context_Hash".toList c.dictKVs = some (jOptInt c.contextHash) := by
    simp only [PConcept.dictKVs, lookup_dictSet_eq]
  rw [PConcept.fromDict, pconcept_lookup_int c fun kv hkv => (h.meas kv hkv).2]
  refine bind_of_ok (pIntFields_entry c h hc) ?_
  rw [lExt]
  refine bind_of_ok (pExtFields_entry _ _) ?_
  rw [if_neg (by simp [h.ext_len]), if_neg (by simp [h.int_len]), lHash]
  exact bind_of_ok (hashOf_jOptInt _) rfl

theorem pconcept_isPattern (c : PConcept) (hm : ∀ kv ∈ c.measures, kv.1 ≠ "Int".toList) :
    isPatternNode (.obj c.dictKVs) = .ok true := by
  rw [isPatternNode, JV.getKey_of_lookup (pconcept_lookup_int c hm)]
  simp only [pIntEntry, JV.lookup_lit_ne, String.reduceEq, not_false_eq_true, JV.lookup_cons_self,
    Option.isSome_some]

end Fca.Codec
