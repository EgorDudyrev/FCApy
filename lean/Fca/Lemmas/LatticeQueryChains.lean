/-
  Fca.Lemmas.LatticeQueryChains — `sort_concepts` and `ConceptLattice._get_chains`.  The sort key is a total
  preorder that refines "larger support first", and a strictly larger extent has a strictly larger support: in the
  sorted list the concept with all objects stands first and every parent before its children.  The dictionaries
  keyed by concept (`__hash__`/`__eq__`) return positions, so `map_isort_i` / `map_i_isort` are mutually inverse;
  the climb through the smallest parent index reaches the first sorted concept, and every round of the outer loop
  starts at an unvisited concept.
-/
import Fca.Lemmas.LatticeQueryConcept
import Fca.Lemmas.ChainWalk
namespace Fca.LQ
open Fca.Spec

theorem chainSteps_of_steps (exts : List (List Nat)) (ch : List Nat) :
    Steps (fun p c => c ∈ Spec.lowerCovers exts p) ch → Spec.chainSteps exts ch = true := by
  induction ch with
  | nil => exact fun _ => rfl
  | cons p rest ih =>
    intro hs
    cases rest with
    | nil => rfl
    | cons c rest =>
      rw [steps_cons_cons] at hs
      unfold Spec.chainSteps
      rw [Bool.and_eq_true, List.contains_iff_mem]
      exact ⟨hs.1, ih hs.2⟩

theorem keyLe_iff {a b : Concept} : keyLe a b = true ↔
    b.1.length < a.1.length ∨ (a.1.length = b.1.length ∧ extKey a.1 ≤ extKey b.1) := by
  simp only [keyLe, Bool.or_eq_true, decide_eq_true_eq, Bool.and_eq_true, beq_iff_eq, gt_iff_lt]

theorem keyLe_trans (a b c : Concept) (h₁ : keyLe a b = true) (h₂ : keyLe b c = true) : keyLe a c = true := by
  rw [keyLe_iff] at *
  rcases h₁ with h₁ | ⟨e₁, s₁⟩ <;> rcases h₂ with h₂ | ⟨e₂, s₂⟩
  · exact Or.inl (Nat.lt_trans h₂ h₁)
  · exact Or.inl (e₂ ▸ h₁)
  · exact Or.inl (e₁ ▸ h₂)
  · exact Or.inr ⟨e₁.trans e₂, String.le_trans s₁ s₂⟩

theorem keyLe_total (a b : Concept) : (keyLe a b || keyLe b a) = true := by
  rw [Bool.or_eq_true, keyLe_iff, keyLe_iff]
  rcases Nat.lt_trichotomy a.1.length b.1.length with h | h | h
  · exact Or.inr (Or.inl h)
  · exact (String.le_total (extKey a.1) (extKey b.1)).imp (fun s => Or.inr ⟨h, s⟩) (fun s => Or.inr ⟨h.symm, s⟩)
  · exact Or.inl (Or.inl h)

theorem keyLe_len {a b : Concept} (h : keyLe a b = true) : b.1.length ≤ a.1.length :=
  (keyLe_iff.mp h).elim Nat.le_of_lt fun h => Nat.le_of_eq h.1.symm

theorem sortConcepts_perm (cs : Lat) : (sortConcepts cs).Perm cs := List.mergeSort_perm cs keyLe

theorem sortConcepts_length (cs : Lat) : (sortConcepts cs).length = cs.length := (sortConcepts_perm cs).length_eq

theorem sortConcepts_pairwise (cs : Lat) : (sortConcepts cs).Pairwise (fun a b => keyLe a b = true) :=
  List.pairwise_mergeSort keyLe_trans keyLe_total cs

theorem sortConcepts_supports (cs : Lat) :
    (sortConcepts cs).Pairwise (fun a b => b.1.length ≤ a.1.length) :=
  List.Pairwise.imp keyLe_len (sortConcepts_pairwise cs)

theorem IsConceptList.sort {t : Table} {cs : Lat} (H : IsConceptList t cs) :
    IsConceptList t (sortConcepts cs) := (sortConcepts_perm cs).trans H

theorem IsConceptSub.sort {t : Table} {cs : Lat} (H : IsConceptSub t cs) : IsConceptSub t (sortConcepts cs) :=
  ⟨(sortConcepts_perm cs).nodup_iff.mpr H.1, fun c hc => H.2 c ((sortConcepts_perm cs).mem_iff.mp hc)⟩

theorem supportsNonIncreasing_of_pairwise {l : Lat}
    (hp : l.Pairwise (fun a b => b.1.length ≤ a.1.length)) : Spec.supportsNonIncreasing l = true := by
  induction l with
  | nil => rfl
  | cons a rest ih =>
    rw [List.pairwise_cons] at hp
    cases rest with
    | nil => rfl
    | cons b rest =>
      unfold Spec.supportsNonIncreasing
      rw [Bool.and_eq_true, decide_eq_true_eq]
      exact ⟨hp.1 b List.mem_cons_self, ih hp.2⟩

theorem head?_eq_conc {l : Lat} (h : 0 < l.length) : l.head? = some (conc l 0) := by
  rw [List.head?_eq_getElem?, List.getElem?_eq_getElem h, conc_eq_getElem h]

theorem getLast?_eq_conc {l : Lat} (h : 0 < l.length) : l.getLast? = some (conc l (l.length - 1)) := by
  have hl : l.length - 1 < l.length := Nat.sub_one_lt (Nat.ne_of_gt h)
  rw [List.getLast?_eq_getElem?, List.getElem?_eq_getElem hl, conc_eq_getElem hl]

theorem lt_of_support_lt {l : Lat} (hp : l.Pairwise (fun a b => b.1.length ≤ a.1.length)) {a b : Nat}
    (ha : a < l.length) (hb : b < l.length) (h : (extOf l a).length < (extOf l b).length) : b < a := by
  refine Nat.lt_of_not_le fun hab => Nat.lt_irrefl _ (Nat.lt_of_lt_of_le h ?_)
  unfold extOf
  rw [conc_eq_getElem ha, conc_eq_getElem hb]
  exact (Nat.eq_or_lt_of_le hab).elim (fun e => by subst e; exact Nat.le_refl _)
    (List.pairwise_iff_getElem.mp hp a b ha hb)

theorem IsConceptSub.top_of_sorted {t : Table} {l : Lat} (H : IsConceptSub t l)
    (hmem : (extAll t [], closureAttr t []) ∈ l) (hp : l.Pairwise (fun a b => b.1.length ≤ a.1.length)) :
    0 < l.length ∧ top l = .ok 0 ∧ extOf l 0 = List.range t.height := by
  obtain ⟨k, hk, htop, he⟩ := H.exists_top hmem
  have h0 : 0 < l.length := Nat.zero_lt_of_lt hk
  obtain rfl : k = 0 := Classical.not_not.mp fun hne => Nat.not_lt_zero k <|
    lt_of_support_lt hp h0 hk (H.ext_len_lt h0 hk (H.leq_of_ext_eq_range he h0) (Ne.symm hne))
  exact ⟨hk, htop, he⟩

theorem IsConceptSub.bottom_of_sorted {t : Table} {l : Lat} (H : IsConceptSub t l)
    (hmem : (extAll t (List.range t.width), closureAttr t (List.range t.width)) ∈ l)
    (hp : l.Pairwise (fun a b => b.1.length ≤ a.1.length)) :
    bottom l = .ok (l.length - 1) ∧ extOf l (l.length - 1) = extAll t (List.range t.width) := by
  obtain ⟨k, hk, hbot, he⟩ := H.exists_bottom hmem
  have hl : l.length - 1 < l.length := Nat.sub_one_lt (Nat.ne_zero_of_lt hk)
  obtain rfl : k = l.length - 1 := Classical.not_not.mp fun hne => Nat.lt_irrefl k <|
    Nat.lt_of_le_of_lt (Nat.le_sub_one_of_lt hk) <|
      lt_of_support_lt hp hk hl (H.ext_len_lt hk hl (H.leq_of_ext_eq_extAll hk he hl) hne)
  exact ⟨hbot, he⟩

/-- `sort_concepts` on a pruned list that keeps the two extreme concepts -/
theorem IsConceptSub.listing_sorted {t : Table} {cs : Lat} (H : IsConceptSub t cs)
    (htop : (extAll t [], closureAttr t []) ∈ cs)
    (hbot : (extAll t (List.range t.width), closureAttr t (List.range t.width)) ∈ cs) :
    (sortConcepts cs).Pairwise (fun a b => b.1.length ≤ a.1.length) ∧
    (sortConcepts cs).head?.map (·.1) = some (List.range t.height) ∧
    (sortConcepts cs).getLast?.map (·.1) = some (extAll t (List.range t.width)) ∧
    top (sortConcepts cs) = .ok 0 ∧
    bottom (sortConcepts cs) = .ok ((sortConcepts cs).length - 1) ∧
    Spec.listingOk t (sortConcepts cs) = true := by
  have hp := sortConcepts_supports cs
  have hperm := sortConcepts_perm cs
  obtain ⟨hpos, htop, h0⟩ := H.sort.top_of_sorted (hperm.mem_iff.mpr htop) hp
  obtain ⟨hbot, hl⟩ := H.sort.bottom_of_sorted (hperm.mem_iff.mpr hbot) hp
  refine ⟨hp, ?_, ?_, htop, hbot, ?_⟩
  · rw [head?_eq_conc hpos]
    exact congrArg some h0
  · rw [getLast?_eq_conc hpos]
    exact congrArg some hl
  · unfold Spec.listingOk
    rw [supportsNonIncreasing_of_pairwise hp, head?_eq_conc hpos, getLast?_eq_conc hpos]
    show (true && extOf _ 0 == _ && extOf _ _ == _) = true
    rw [h0, hl, beq_self_eq_true, beq_self_eq_true]
    rfl

/-- `FormalConcept.__eq__` on concepts of one table is equality -/
theorem conceptEq_iff {t : Table} {a b : Concept} (ha : isConcept t a.1 a.2 = true)
    (hb : isConcept t b.1 b.2 = true) : conceptEq a b = true ↔ a = b := by
  unfold conceptEq
  constructor
  · intro h
    split at h
    · cases h
    · rename_i hlen
      have hlen' : a.1.length = b.1.length := Decidable.of_not_not fun hne => hlen (bne_iff_ne.mpr hne)
      have hsub : ∀ g ∈ a.1, g ∈ b.1 := fun g hg => List.contains_iff_mem.mp (List.all_eq_true.mp h g hg)
      exact Classical.not_not.mp fun hne => Nat.lt_irrefl _ (hlen' ▸ support_lt ha hb hsub hne)
  · rintro rfl
    rw [bne_self_eq_false, if_neg Bool.false_ne_true]
    exact List.all_eq_true.mpr fun g hg => List.contains_iff_mem.mpr hg

theorem dictIdxFrom_none {t : Table} {c : Concept} (hc : isConcept t c.1 c.2 = true) : ∀ (l : Lat) (off : Nat),
    (∀ d ∈ l, isConcept t d.1 d.2 = true) → c ∉ l → dictIdxFrom l off c = none := by
  intro l
  induction l with
  | nil => exact fun _ _ _ => rfl
  | cons y ys ih =>
    intro off hl hn
    unfold dictIdxFrom
    rw [ih (off + 1) (fun d hd => hl d (List.mem_cons_of_mem _ hd)) (fun h => hn (List.mem_cons_of_mem _ h))]
    exact if_neg fun e => hn ((conceptEq_iff (hl y List.mem_cons_self) hc).mp e ▸ List.mem_cons_self)

theorem dictIdxFrom_getElem {t : Table} : ∀ (l : Lat) (off : Nat),
    (∀ d ∈ l, isConcept t d.1 d.2 = true) → l.Nodup →
    ∀ k (hk : k < l.length), dictIdxFrom l off l[k] = some (off + k) := by
  intro l
  induction l with
  | nil => exact fun _ _ _ k hk => absurd hk (Nat.not_lt_zero k)
  | cons y ys ih =>
    intro off hl hnd k hk
    rw [List.nodup_cons] at hnd
    have hys : ∀ d ∈ ys, isConcept t d.1 d.2 = true := fun d hd => hl d (List.mem_cons_of_mem _ hd)
    have hy := hl y List.mem_cons_self
    unfold dictIdxFrom
    cases k with
    | zero =>
      rw [List.getElem_cons_zero, dictIdxFrom_none hy ys (off + 1) hys hnd.1]
      exact if_pos ((conceptEq_iff hy hy).mpr rfl)
    | succ k' =>
      rw [List.getElem_cons_succ, ih (off + 1) hys hnd.2 k' (Nat.lt_of_succ_lt_succ hk),
        Nat.add_assoc, Nat.add_comm 1 k']

theorem dictIdx_spec {t : Table} {l : Lat} (H : IsConceptSub t l) {c : Concept} (hc : c ∈ l) :
    ∃ j, dictIdx l c = some j ∧ j < l.length ∧ conc l j = c := by
  obtain ⟨k, hk, e⟩ := List.mem_iff_getElem.mp hc
  refine ⟨k, ?_, hk, (conc_eq_getElem hk).trans e⟩
  rw [← e, dictIdx, dictIdxFrom_getElem l 0 H.2 H.1 k hk, Nat.zero_add]

theorem mapM_dictIdx {t : Table} {l l' : Lat} (H' : IsConceptSub t l') (hsub : ∀ c ∈ l, c ∈ l') :
    ∃ m, (l.mapM fun c => dictIdx l' c) = some m ∧
      ∀ i, i < l.length → m.getD i 0 < l'.length ∧ conc l' (m.getD i 0) = conc l i := by
  have key : ∀ c ∈ l, ∃ j, dictIdx l' c = some j ∧ j < l'.length ∧ conc l' j = c :=
    fun c hc => dictIdx_spec H' (hsub c hc)
  refine ⟨l.map fun c => (dictIdx l' c).getD 0, ListAux.mapM_eq_pure_map l fun c hc => ?_, fun i hi => ?_⟩
  · obtain ⟨j, hj, _⟩ := key c hc
    rw [hj]; rfl
  · obtain ⟨j, hj, hjl, hjc⟩ := key l[i] (List.getElem_mem hi)
    have : (l.map fun c => (dictIdx l' c).getD 0).getD i 0 = j := by
      rw [List.getD_eq_getElem?_getD, List.getElem?_map, List.getElem?_eq_getElem hi, Option.map_some, hj]; rfl
    rw [this, conc_eq_getElem hi]
    exact ⟨hjl, hjc⟩

theorem chainMaps_ok {t : Table} {cs : Lat} (H : IsConceptSub t cs) :
    ∃ isortI iIsort, chainMaps cs = .ok (isortI, iIsort) ∧
      (∀ s, s < cs.length → isortI.getD s 0 < cs.length ∧
        conc cs (isortI.getD s 0) = conc (sortConcepts cs) s) ∧
      (∀ i, i < cs.length → iIsort.getD i 0 < cs.length ∧
        conc (sortConcepts cs) (iIsort.getD i 0) = conc cs i) := by
  have hlen := sortConcepts_length cs
  obtain ⟨a, ha, hga⟩ := mapM_dictIdx (l := sortConcepts cs) H fun c hc => (sortConcepts_perm cs).mem_iff.mp hc
  obtain ⟨b, hb, hgb⟩ := mapM_dictIdx (l := cs) H.sort fun c hc => (sortConcepts_perm cs).mem_iff.mpr hc
  rw [hlen] at hga hgb
  refine ⟨a, b, ?_, hga, hgb⟩
  unfold chainMaps
  simp only [ha, hb]

/-- the model's `sorted(s)[0]` is core's `List.min?` -/
theorem minOf_eq_min? (l : List Nat) : minOf l = l.min? := by
  induction l with
  | nil => rfl
  | cons x xs ih =>
    rw [minOf, ih, List.min?_cons]
    cases xs.min? with
    | none => rfl
    | some m => rfl

section loops
variable (P : Nat → List Nat) (iIsort : List Nat) (n topIdx : Nat)

/-- what the inner loop needs from the index map `map_i_isort` and the parents relation -/
structure ChainSetup : Prop where
  parent : ∀ i, i < n → iIsort.getD i 0 ≠ 0 →
    ∀ p, p ∈ P i → p < n ∧ iIsort.getD p 0 < iIsort.getD i 0
  hasParent : ∀ i, i < n → iIsort.getD i 0 ≠ 0 → P i ≠ []
  first : ∀ i, i < n → iIsort.getD i 0 = 0 → i = topIdx
  rng : ∀ i, i < n → iIsort.getD i 0 < n

variable {P iIsort n topIdx}

theorem chainClimb_step (fuel : Nat) {ci csi p : Nat} (chain : List Nat) (h0 : csi ≠ 0)
    (hp : minOf (P ci) = some p) :
    chainClimb P iIsort (fuel + 1) ci csi chain = chainClimb P iIsort fuel p (iIsort.getD p 0) (chain ++ [ci]) := by
  rw [chainClimb, if_neg (fun h => h0 (beq_iff_eq.mp h)), hp]

theorem climb_ok (S : ChainSetup P iIsort n topIdx) : ∀ fuel ci, ci < n → iIsort.getD ci 0 < fuel →
    ∃ l, (∀ chain, chainClimb P iIsort fuel ci (iIsort.getD ci 0) chain = .ok (chain ++ l)) ∧ l.head? = some ci ∧
      Chain.Good (fun p c => p ∈ P c) n topIdx l.reverse :=
  Chain.walk_ok (W := fun f c l => ∀ chain, chainClimb P iIsort f c (iIsort.getD c 0) chain = .ok (chain ++ l))
    (stop := fun c => iIsort.getD c 0 = 0) (μ := fun c => iIsort.getD c 0)
    (fun f c hc h0 => ⟨S.first c hc h0, fun chain => by rw [chainClimb, if_pos (beq_iff_eq.mpr h0)]⟩)
    fun f c hc h0 => by
      obtain ⟨p, hp⟩ := Option.isSome_iff_exists.mp (minOf_eq_min? _ ▸ List.isSome_min?_of_ne_nil (S.hasParent c hc h0))
      have hpP := List.min?_mem (minOf_eq_min? _ ▸ hp)
      obtain ⟨hpn, hlt⟩ := S.parent c hc h0 p hpP
      exact ⟨p, hpn, hpP, hlt, fun l hl chain => by rw [chainClimb_step f chain h0 hp, hl, List.append_assoc]; rfl⟩

structure LoopSetup (P : Nat → List Nat) (isortI iIsort : List Nat) (n topIdx : Nat) : Prop where
  climb : ChainSetup P iIsort n topIdx
  isortI_iIsort : ∀ i, i < n → isortI.getD (iIsort.getD i 0) 0 = i
  iIsort_isortI : ∀ s, s < n → iIsort.getD (isortI.getD s 0) 0 = s
  rngS : ∀ s, s < n → isortI.getD s 0 < n

variable {isortI : List Nat}

/-- `for x in chain: visited.add(x)` -/
theorem mem_foldl_withSelf (chain v : List Nat) (x : Nat) :
    x ∈ chain.foldl PQ.withSelf v ↔ x ∈ v ∨ x ∈ chain :=
  (ListAux.foldl_iff (m := (x ∈ ·)) (q := (x = ·)) (fun _ _ => PQ.mem_withSelf.trans or_comm) chain v).trans
    (or_congr_right exists_eq_right')

theorem foldl_withSelf_nodup (chain v : List Nat) (h : v.Nodup) : (chain.foldl PQ.withSelf v).Nodup :=
  ListAux.foldl_inv (fun _ _ => PQ.withSelf_nodup) chain v h

theorem chainsLoop_done (fuel : Nat) {visited : List Nat} (chains : List (List Nat)) (h : ¬ visited.length < n) :
    chainsLoop P isortI iIsort n (fuel + 1) visited chains = .ok chains := by
  rw [chainsLoop, if_neg h]

theorem chainsLoop_step (fuel : Nat) {visited : List Nat} (chains : List (List Nat)) (h : visited.length < n)
    {ci csi : Nat} (hs : chainStart isortI visited n = .ok (ci, csi)) {path : List Nat}
    (hc : chainClimb P iIsort (n + 1) ci csi [] = .ok path) :
    chainsLoop P isortI iIsort n (fuel + 1) visited chains =
      chainsLoop P isortI iIsort n fuel (path.foldl PQ.withSelf visited) (chains ++ [path.reverse]) := by
  rw [chainsLoop, if_pos h, hs]
  simp only [hc]
  rfl

/-- one round of the outer loop, as `Chain.loop_ok` asks for it -/
theorem chainsLoop_round (S : LoopSetup P isortI iIsort n topIdx) (fuel : Nat) (vis : List Nat)
    (chs : List (List Nat)) (hnd : vis.Nodup) (hv : vis.length < n) (hex : ∃ i, i < n ∧ i ∉ vis) :
    ∃ (c : Nat) (l vis' : List Nat), c ∉ vis ∧ c ∈ l ∧ Chain.Good (fun p c => p ∈ P c) n topIdx l.reverse ∧
      vis'.Nodup ∧ (∀ x, x ∈ vis' ↔ x ∈ vis ∨ x ∈ l) ∧
      chainsLoop P isortI iIsort n (fuel + 1) vis chs = chainsLoop P isortI iIsort n fuel vis' (chs ++ [l.reverse]) := by
  obtain ⟨i, hi, hiv⟩ := hex
  obtain ⟨s, hs, hok, hnv⟩ := Chain.scan_ok (scan := chainStart isortI vis)
    (ret := fun k => .ok (isortI.getD k 0, k)) (fun _ => rfl) n
    ⟨iIsort.getD i 0, S.climb.rng i hi, by rw [S.isortI_iIsort i hi]; exact hiv⟩
  have hcin := S.rngS s hs
  obtain ⟨l, hclimb, hhead, hg⟩ := climb_ok S.climb (n + 1) _ hcin (Nat.lt_succ_of_lt (S.climb.rng _ hcin))
  have hclimb := hclimb []
  rw [S.iIsort_isortI s hs, List.nil_append] at hclimb
  exact ⟨_, l, _, hnv, List.mem_of_mem_head? hhead, hg, foldl_withSelf_nodup l vis hnd, mem_foldl_withSelf l vis,
    chainsLoop_step fuel chs hv hok hclimb⟩

end loops

theorem chainSetup_of {t : Table} {cs : Lat} (H : IsConceptSub t cs)
    (htop : (extAll t [], closureAttr t []) ∈ cs) {ord : List Nat → List Nat}
    (ho : PQ.IsOrder ord) {iIsort : List Nat}
    (hpos : ∀ i, i < cs.length → iIsort.getD i 0 < cs.length ∧
      conc (sortConcepts cs) (iIsort.getD i 0) = conc cs i)
    {k : Nat} (hk : k < cs.length) (hek : extOf cs k = List.range t.height) :
    ChainSetup (parents cs ord) iIsort cs.length k := by
  have hp := sortConcepts_supports cs
  have hlen := sortConcepts_length cs
  obtain ⟨hpos0, _, h0⟩ := H.sort.top_of_sorted ((sortConcepts_perm cs).mem_iff.mpr htop) hp
  have hext : ∀ i, i < cs.length → extOf (sortConcepts cs) (iIsort.getD i 0) = extOf cs i :=
    fun i hi => congrArg Prod.fst (hpos i hi).2
  have hin : ∀ i, i < cs.length → iIsort.getD i 0 < (sortConcepts cs).length :=
    fun i hi => hlen ▸ (hpos i hi).1
  refine ⟨?_, ?_, ?_, fun i hi => (hpos i hi).1⟩
  · intro i hi _ p hpP
    obtain ⟨hpn, hle, hne⟩ := parents_lt hpP
    refine ⟨hpn, ?_⟩
    -- the parent has the larger support, so it cannot stand later in the support-sorted list
    have hlt := H.ext_len_lt hi hpn hle (Ne.symm hne)
    rw [← hext i hi, ← hext p hpn] at hlt
    exact lt_of_support_lt hp (hin i hi) (hin p hpn) hlt
  · intro i hi hne hnil
    have hik : i ≠ k := fun e => hne <|
      H.sort.ext_inj (hin i hi) hpos0 (by rw [hext i hi, e, hek, h0])
    have hka : k ∈ ancestors cs i :=
      PQ.mem_ancestors.mpr ⟨hk, H.leq_of_ext_eq_range hek hi, Ne.symm hik⟩
    obtain ⟨j, hj, _⟩ := PQ.exists_parent_below H.isPO ho hka
    exact List.not_mem_nil (hnil ▸ hj : j ∈ [])
  · intro i hi hz
    apply H.ext_inj hi hk
    rw [← hext i hi, hz, h0, hek]

/-- `get_chains()` needs of a pruned list only that it keeps the concept with all objects -/
theorem IsConceptSub.chains_correct {t : Table} {cs : Lat} (H : IsConceptSub t cs)
    (hmem : (extAll t [], closureAttr t []) ∈ cs) {ord : List Nat → List Nat} (ho : PQ.IsOrder ord) :
    ∃ chs k, top cs = .ok k ∧ chains cs ord = .ok chs ∧
      (∀ ch ∈ chs, ch.head? = some k ∧ Steps (fun p c => c ∈ children cs ord p) ch) ∧
      (∀ i, i < cs.length → ∃ ch ∈ chs, i ∈ ch) ∧
      Spec.chainsOk (cs.map (·.1)) (List.range t.height) chs = true := by
  obtain ⟨k, hk, htop, hek⟩ := H.exists_top hmem
  obtain ⟨isortI, iIsort, hmaps, hS, hI⟩ := chainMaps_ok H
  have hlen := sortConcepts_length cs
  have S : LoopSetup (parents cs ord) isortI iIsort cs.length k := by
    refine ⟨chainSetup_of H hmem ho hI hk hek, ?_, ?_, fun s hs => (hS s hs).1⟩
    · intro i hi
      have h1 := hI i hi
      have h2 := hS _ h1.1
      exact (List.getD_inj h2.1 hi H.1).mp (h2.2.trans h1.2)
    · intro s hs
      have h1 := hS s hs
      have h2 := hI _ h1.1
      exact (List.getD_inj (hlen ▸ h2.1) (hlen ▸ hs) H.sort.1).mp (h2.2.trans h1.2)
  obtain ⟨chs, hok, hcov, hgood⟩ := Chain.loop_ok (fun f _ chs => chainsLoop_done f chs) (chainsLoop_round S)
    (cs.length + 1) [] [] List.nodup_nil nofun nofun nofun (Nat.lt_succ_self _)
  have hok : chains cs ord = .ok chs := by
    unfold chains getChains
    rw [hmaps]
    exact hok
  have conv : ∀ ch ∈ chs, Steps (fun p c => c ∈ children cs ord p) ch := fun ch hch =>
    steps_imp_mem ch (fun p hp c hc hpc => (PQ.mem_children_iff_mem_parents H.isPO ho ho
      ((hgood ch hch).lt c hc) ((hgood ch hch).lt p hp)).mpr hpc) (hgood ch hch).steps
  refine ⟨chs, k, htop, hok, fun ch hch => ⟨(hgood ch hch).head, conv ch hch⟩, hcov, ?_⟩
  unfold Spec.chainsOk
  rw [Bool.and_eq_true, List.all_eq_true, List.all_eq_true]
  constructor
  · intro ch hch
    rw [Bool.and_eq_true]
    refine ⟨?_, chainSteps_of_steps _ ch (steps_imp_mem ch (fun p hp c _ hpc => ?_) (conv ch hch))⟩
    · rw [(hgood ch hch).head]
      simp only [List.length_map, Bool.and_eq_true, decide_eq_true_eq, beq_iff_eq]
      exact ⟨hk, by rw [exts_getD, hek]⟩
    · rw [← H.children_eq ho p ((hgood ch hch).lt p hp)]
      exact hpc
  · intro i hi
    rw [List.length_map] at hi
    obtain ⟨ch, hch, hic⟩ := hcov i (List.mem_range.mp hi)
    exact List.any_eq_true.mpr ⟨ch, hch, List.contains_iff_mem.mpr hic⟩

end Fca.LQ
