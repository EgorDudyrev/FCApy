/-
  The last loop of `construct_lattice_from_spanning_tree(_parallel)`: given complete `all_superconcepts` sets and
  candidate sets that are sound and contain every upper cover, the in-place reduction keeps exactly the upper covers
  and the inversion yields the lower covers.
-/
import Fca.Lemmas.ConstructBasic
namespace Fca.Construct
open Fca.Spec

variable {n : Nat} {lt : Nat → Nat → Bool} {rk : Nat → Nat}

/-- what the chain sweep has to establish for the final loop -/
structure SweepPost (n : Nat) (lt : Nat → Nat → Bool) (sw : Sweep) : Prop where
  allSup : ∀ c, c < n → ∀ x, x ∈ sw.allSup.getD c [] ↔ (x < n ∧ lt c x = true)
  supSound : ∀ c, c < n → ∀ x ∈ sw.supD.getD c [], x < n ∧ lt c x = true
  supCov : ∀ c, c < n → ∀ x ∈ upperCoversBy n lt c, x ∈ sw.supD.getD c []
  supNodup : ∀ c, c < n → (sw.supD.getD c []).Nodup

/-- state of the reduction loop: `pre` has been confirmed, `suf` is still to be visited -/
structure RedInv (n : Nat) (lt : Nat → Nat → Bool) (pos : Nat → Nat) (allSup : List (List Nat)) (c : Nat)
    (pre suf : List Nat) : Prop where
  nodup : (pre ++ suf).Nodup
  sound : ∀ x ∈ pre ++ suf, x < n ∧ lt c x = true
  cov : ∀ x ∈ upperCoversBy n lt c, x ∈ pre ++ suf
  preCov : ∀ x ∈ pre, x ∈ upperCoversBy n lt c
  desc : (pre ++ suf).Pairwise (fun a b => pos b ≤ pos a)
  filtered : ∀ p ∈ pre, ∀ x ∈ suf, x ∉ allSup.getD p []

section
variable {pos : Nat → Nat} {allSup : List (List Nat)} {c sc : Nat} {pre rest : List Nat}

/-- the next candidate is an upper cover: an upper cover `p` strictly below it would be a confirmed one (but
    those have filtered their superconcepts out), or a later candidate (but those are listed no later) -/
theorem RedInv.head_cover (h : StrictOrd lt rk)
    (hpos : ∀ a b, a < n → b < n → lt a b = true → pos b < pos a)
    (hall : ∀ c, c < n → ∀ x, x ∈ allSup.getD c [] ↔ (x < n ∧ lt c x = true))
    (inv : RedInv n lt pos allSup c pre (sc :: rest)) : sc ∈ upperCoversBy n lt c := by
  have hscS := inv.sound sc (List.mem_append_right _ (List.mem_cons_self ..))
  refine mem_upperCoversBy.mpr ⟨hscS.1, hscS.2, fun m hm hcm hmsc => ?_⟩
  obtain ⟨p, hp, hpm⟩ := exists_upper_cover_le h m hm hcm
  have hpsc : lt p sc = true := hpm.elim (fun e => e ▸ hmsc) (fun hpm => h.trans _ _ _ hpm hmsc)
  have hpn := (mem_upperCoversBy.mp hp).1
  rcases List.mem_append.mp (inv.cov p hp) with hpre | hsuf
  · exact inv.filtered p hpre sc (List.mem_cons_self ..) ((hall p hpn sc).mpr ⟨hscS.1, hpsc⟩)
  · rcases List.mem_cons.mp hsuf with e | hrest
    · exact h.irrefl sc (e ▸ hpsc)
    · exact Nat.not_le_of_lt (hpos p sc hpn hscS.1 hpsc)
        (List.rel_of_pairwise_cons (List.pairwise_append.mp inv.desc).2.1 hrest)

/-- one round: the filter by `all_superconcepts[sc]` leaves the confirmed candidates and `sc` alone -/
theorem RedInv.step (h : StrictOrd lt rk)
    (hpos : ∀ a b, a < n → b < n → lt a b = true → pos b < pos a)
    (hall : ∀ c, c < n → ∀ x, x ∈ allSup.getD c [] ↔ (x < n ∧ lt c x = true))
    (inv : RedInv n lt pos allSup c pre (sc :: rest)) :
    (pre ++ sc :: rest).filter (fun i => !(allSup.getD sc []).contains i)
      = (pre ++ [sc]) ++ rest.filter (fun i => !(allSup.getD sc []).contains i) ∧
    RedInv n lt pos allSup c (pre ++ [sc]) (rest.filter fun i => !(allSup.getD sc []).contains i) := by
  have hscS := inv.sound sc (List.mem_append_right _ (List.mem_cons_self ..))
  have hscCov := inv.head_cover h hpos hall
  have hflt : ∀ x, (!(allSup.getD sc []).contains x) = true ↔ ¬ (x < n ∧ lt sc x = true) := fun x => by
    rw [Bool.not_eq_true', List.contains_eq_mem, decide_eq_false_iff_not, hall sc hscS.1 x]
  have hcovKeep : ∀ x ∈ upperCoversBy n lt c, (!(allSup.getD sc []).contains x) = true := fun x hx =>
    (hflt x).mpr fun hxs => (mem_upperCoversBy.mp hx).2.2 sc hscS.1 hscS.2 hxs.2
  have hkeep : ∀ x ∈ pre ++ [sc], (!(allSup.getD sc []).contains x) = true := fun x hx =>
    (List.mem_append.mp hx).elim (fun hx => hcovKeep x (inv.preCov x hx))
      (fun hx => hcovKeep x (List.mem_singleton.mp hx ▸ hscCov))
  have e : pre ++ sc :: rest = (pre ++ [sc]) ++ rest := List.append_cons ..
  have hsl : ((pre ++ [sc]) ++ rest.filter fun i => !(allSup.getD sc []).contains i).Sublist
      (pre ++ sc :: rest) := e ▸ List.Sublist.append_left List.filter_sublist _
  refine ⟨by rw [e, List.filter_append, List.filter_eq_self.mpr hkeep], inv.nodup.sublist hsl,
    fun x hx => inv.sound x (hsl.subset hx), fun x hx => ?_, fun x hx => ?_, inv.desc.sublist hsl,
    fun p hp x hx => ?_⟩
  · rw [List.mem_append, List.mem_filter]
    have := inv.cov x hx
    rw [e, List.mem_append] at this
    exact this.imp id fun hm => ⟨hm, hcovKeep x hx⟩
  · exact (List.mem_append.mp hx).elim (inv.preCov x) (fun hx => List.mem_singleton.mp hx ▸ hscCov)
  · have hx' := List.mem_filter.mp hx
    rcases List.mem_append.mp hp with hp | hp
    · exact inv.filtered p hp x (List.mem_cons_of_mem _ hx'.1)
    · rw [List.mem_singleton.mp hp, hall sc hscS.1 x]
      exact (hflt x).mp hx'.2

end

/-- the literal loop of the code (re-filtering the whole list, index moving on by one) -/
theorem reduceLoop_ok (h : StrictOrd lt rk) (pos : Nat → Nat)
    (hpos : ∀ a b, a < n → b < n → lt a b = true → pos b < pos a) (allSup : List (List Nat))
    (hall : ∀ c, c < n → ∀ x, x ∈ allSup.getD c [] ↔ (x < n ∧ lt c x = true)) {c : Nat} :
    ∀ (k : Nat) (suf pre : List Nat), suf.length ≤ k → RedInv n lt pos allSup c pre suf →
      (reduceLoop allSup k pre.length (pre ++ suf)).Nodup ∧
      SameSetC (reduceLoop allSup k pre.length (pre ++ suf)) (upperCoversBy n lt c) := by
  -- when the candidates are used up the confirmed ones are all the upper covers
  have hstop : ∀ pre, RedInv n lt pos allSup c pre [] →
      (pre ++ []).Nodup ∧ SameSetC (pre ++ []) (upperCoversBy n lt c) := fun pre inv =>
    ⟨inv.nodup, fun x => ⟨fun hx => inv.preCov x (List.append_nil pre ▸ hx), inv.cov x⟩⟩
  intro k
  induction k with
  | zero =>
    intro suf pre hk inv
    cases List.eq_nil_of_length_eq_zero (Nat.le_zero.mp hk)
    exact hstop pre inv
  | succ k ih =>
    intro suf pre hk inv
    unfold reduceLoop
    cases suf with
    | nil => rw [if_pos (by rw [List.append_nil]; exact Nat.le_refl _)]; exact hstop pre inv
    | cons sc rest =>
      obtain ⟨hfilter, inv'⟩ := inv.step h hpos hall
      have hlen : (pre ++ [sc]).length = pre.length + 1 := List.length_append
      have hlt : ¬ pre.length ≥ (pre ++ sc :: rest).length := by
        rw [List.length_append, List.length_cons]
        exact Nat.not_le_of_lt (Nat.lt_add_of_pos_right (Nat.succ_pos _))
      rw [if_neg hlt, ListAux.getD_append_length, hfilter, ← hlen]
      refine ih _ _ ?_ inv'
      exact Nat.le_trans (List.length_filter_le _ rest) (Nat.le_of_succ_le_succ hk)

theorem reducedSuperconcepts_ok (h : StrictOrd lt rk) (pos : Nat → Nat)
    (hpos : ∀ a b, a < n → b < n → lt a b = true → pos b < pos a) (ord : List Nat → List Nat)
    (hord : OrdOK ord) {sw : Sweep} (post : SweepPost n lt sw) {c : Nat} (hc : c < n) :
    (reducedSuperconcepts pos ord sw c).Nodup ∧
    SameSetC (reducedSuperconcepts pos ord sw c) (upperCoversBy n lt c) := by
  have hmem : ∀ x, x ∈ sortBy (fun a b => decide (pos b ≤ pos a)) (ord (sw.supD.getD c [])) ↔
      x ∈ sw.supD.getD c [] := fun x => by rw [mem_sortBy, hord.mem_iff]
  have inv : RedInv n lt pos sw.allSup c []
      (sortBy (fun a b => decide (pos b ≤ pos a)) (ord (sw.supD.getD c []))) :=
    ⟨nodup_sortBy ((hord _).nodup_iff.mpr (post.supNodup c hc)),
      fun x hx => post.supSound c hc x ((hmem x).mp hx), fun x hx => (hmem x).mpr (post.supCov c hc x hx),
      nofun, pairwise_sortBy_decide (fun x y => Nat.le_total (pos y) (pos x))
        (fun _ _ _ h1 h2 => Nat.le_trans h2 h1) _, nofun⟩
  exact reduceLoop_ok h pos hpos sw.allSup post.allSup _ _ [] (Nat.le_refl _) inv

theorem finalize_children (R : Nat → List Nat) (hR : ∀ c, c < n → (R c).Nodup ∧ ∀ s ∈ R c, s < n) :
    ∀ k, k ≤ n → ∀ F, (List.range k).foldl (fun subD c => (R c).foldl
        (fun subD s => subD.set s (addSet (subD.getD s []) c)) subD) (List.replicate n []) = F →
      F.length = n ∧
      ∀ s, s < n → (F.getD s []).Nodup ∧ ∀ c, c ∈ F.getD s [] ↔ (c < k ∧ s ∈ R c) := by
  intro k
  induction k with
  | zero =>
    intro _ F e
    subst e
    refine ⟨List.length_replicate, fun s _ => ?_⟩
    rw [List.range_zero, List.foldl_nil, ListAux.getD_replicate_self _ _ _]
    exact ⟨List.nodup_nil, fun c => ⟨nofun, fun h => absurd h.1 (Nat.not_lt_zero c)⟩⟩
  | succ k ih =>
    intro hk F e
    rw [List.range_succ, List.foldl_append, List.foldl_cons, List.foldl_nil] at e
    obtain ⟨l1, l2⟩ := ih (Nat.le_of_succ_le hk) _ rfl
    obtain ⟨r1, r2⟩ := hR k hk
    obtain ⟨i1, i2⟩ := ListAux.foldl_update_getD (fun x => addSet x k) [] (R k) _ r1 (fun s hs => l1 ▸ r2 s hs)
    rw [e] at i1 i2
    refine ⟨i1.trans l1, fun s hs => ?_⟩
    obtain ⟨m1, m2⟩ := l2 s hs
    rw [i2 s]
    by_cases hm : s ∈ R k
    · rw [if_pos hm]
      refine ⟨nodup_addSet m1, fun c => ?_⟩
      rw [mem_addSet, m2 c, Nat.lt_succ_iff_lt_or_eq, or_and_right,
        and_iff_left_of_imp (fun e : c = k => e ▸ hm)]
    · rw [if_neg hm]
      refine ⟨m1, fun c => ?_⟩
      rw [m2 c, Nat.lt_succ_iff_lt_or_eq, or_and_right]
      exact (or_iff_left fun (h : c = k ∧ s ∈ R c) => hm (h.1 ▸ h.2)).symm

theorem finalize_ok (h : StrictOrd lt rk) (pos : Nat → Nat)
    (hpos : ∀ a b, a < n → b < n → lt a b = true → pos b < pos a) (ord : List Nat → List Nat)
    (hord : OrdOK ord) {sw : Sweep} (post : SweepPost n lt sw) :
    CoverDictBy n lt (finalize n pos ord sw) := by
  have hR := fun c hc => reducedSuperconcepts_ok h pos hpos ord hord post (c := c) hc
  obtain ⟨f1, f2⟩ := finalize_children (reducedSuperconcepts pos ord sw)
    (fun c hc => ⟨(hR c hc).1, fun s hs => (mem_upperCoversBy.mp (((hR c hc).2 s).mp hs)).1⟩)
    n (Nat.le_refl _) (finalize n pos ord sw) rfl
  refine ⟨f1, fun s hs => ⟨(f2 s hs).1, fun c => ?_⟩⟩
  rw [(f2 s hs).2 c]
  constructor
  · rintro ⟨hc, hm⟩
    exact (mem_upperCoversBy_comm hc hs).mp (((hR c hc).2 s).mp hm)
  · intro hm
    have hc := (mem_coversBy.mp hm).1
    exact ⟨hc, ((hR c hc).2 s).mpr ((mem_upperCoversBy_comm hc hs).mpr hm)⟩

end Fca.Construct
