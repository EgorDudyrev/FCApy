/-
  Strict inclusion orders the positions of any list of extents strictly (`Ord.Strict`), so every listed extent
  strictly below another lies at or below one of its lower covers.
-/
import Fca.Spec.Concepts
import Fca.Lemmas.ConstructOrder
import Fca.Lemmas.ListAux
import Fca.Lemmas.FinOrder
namespace Fca.Trace

/-! `Spec/Concepts` and `Spec/Covers` each name inclusion, strict inclusion and the covers of a listed extent:
  `subset`/`sub`, `ssubset`/`ssub`, `lowerCovers`/`covers`, `upperCovers`/`upperCoversC`.  The pairs agree by
  unfolding (the covers are `Spec.coversBy`, `Spec.upperCoversBy` for `Spec.ssubAt exts`), so a lemma about one of a
  pair is stated here and used for both. -/

theorem ssubset_eq_ssub : Spec.ssubset = Spec.ssub := rfl

theorem lowerCovers_eq_covers : Spec.lowerCovers = Spec.covers := rfl

theorem upperCovers_eq_upperCoversC : Spec.upperCovers = Spec.upperCoversC := rfl

theorem subset_iff {a b : List Nat} : Spec.subset a b = true ↔ ∀ x ∈ a, x ∈ b := by
  simp only [Spec.subset, List.all_eq_true, List.contains_eq_mem, decide_eq_true_eq]

theorem ssubset_iff {a b : List Nat} :
    Spec.ssubset a b = true ↔ (∀ x ∈ a, x ∈ b) ∧ ¬ (∀ x ∈ b, x ∈ a) := by
  rw [show Spec.ssubset a b = (Spec.subset a b && !Spec.subset b a) from rfl, Bool.and_eq_true, Bool.not_eq_true',
    ← Bool.not_eq_true, subset_iff, subset_iff]

theorem ssubset_of_subset_of_ssubset {a b c : List Nat} (h1 : ∀ x ∈ a, x ∈ b)
    (h2 : Spec.ssubset b c = true) : Spec.ssubset a c = true := by
  rw [ssubset_iff] at *
  exact ⟨fun x hx => h2.1 x (h1 x hx), fun h => h2.2 fun x hx => h1 x (h x hx)⟩

theorem ssubset_trans {a b c : List Nat} (h1 : Spec.ssubset a b = true) (h2 : Spec.ssubset b c = true) :
    Spec.ssubset a c = true :=
  ssubset_of_subset_of_ssubset (ssubset_iff.mp h1).1 h2

theorem mem_lowerCovers {exts : List (List Nat)} {i j : Nat} :
    j ∈ Spec.lowerCovers exts i ↔
      j < exts.length ∧ Spec.ssubset (exts.getD j []) (exts.getD i []) = true ∧
      ∀ k, k < exts.length → Spec.ssubset (exts.getD j []) (exts.getD k []) = true →
        ¬ Spec.ssubset (exts.getD k []) (exts.getD i []) = true :=
  lowerCovers_eq_covers ▸ Construct.mem_coversBy (lt := Spec.ssubAt exts)

theorem lowerCovers_nodup (exts : List (List Nat)) (i : Nat) : (Spec.lowerCovers exts i).Nodup :=
  lowerCovers_eq_covers ▸ Construct.nodup_coversBy (lt := Spec.ssubAt exts)

theorem strict_ssubAt (exts : List (List Nat)) : Ord.Strict exts.length (Spec.ssubAt exts) :=
  ⟨fun _ _ h => (ssubset_iff.mp h).2 (ssubset_iff.mp h).1, fun _ _ _ _ _ _ => ssubset_trans⟩

theorem exists_cover_above {exts : List (List Nat)}
    {d i : Nat} (hd : d < exts.length) (hdi : Spec.ssubset (exts.getD d []) (exts.getD i []) = true) :
    ∃ j ∈ Spec.lowerCovers exts i, ∀ x ∈ exts.getD d [], x ∈ exts.getD j [] :=
  let ⟨b, hb, hc, hkb⟩ := (strict_ssubAt exts).exists_lower_cover_ge hd hdi
  ⟨b, mem_lowerCovers.mpr ⟨hb, hc⟩, hkb.elim (fun e => e ▸ fun _ hx => hx) fun h => (ssubset_iff.mp h).1⟩

end Fca.Trace
