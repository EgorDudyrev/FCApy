/-
  Python's `{x: i for i, x in enumerate(l)}` read at a key gives the LAST position of the key.  `Poset.dictIdx?` is that
  reading for any key type and has the lemmas; a model that counts the positions from a start (`nameIdx`, `Codec.idxOf`,
  `Casp.lastIdx?`) is it by `Poset.dictIdx?_from` and its own two equations.  `namesToIdx` looks up a list of names and
  fails at an unknown one.
-/
import Fca.Model.Basic
import Fca.Model.PosetAlgebra
namespace Fca

namespace Poset
variable {α : Type} [DecidableEq α]

theorem dictIdx?_cons (e x : α) (xs : List α) :
    dictIdx? e (x :: xs) = match dictIdx? e xs with
      | some i => some (i + 1)
      | none => if e = x then some 0 else none := rfl

theorem dictIdx?_some {e : α} {l : List α} {i : Nat} (h : dictIdx? e l = some i) : l[i]? = some e := by
  induction l generalizing i with
  | nil => cases h
  | cons x xs ih =>
    rw [dictIdx?_cons] at h
    cases hxs : dictIdx? e xs with
    | some j =>
      rw [hxs] at h
      cases h
      exact ih hxs
    | none =>
      rw [hxs] at h
      by_cases he : e = x
      · rw [if_pos he] at h
        cases h
        rw [he]
        rfl
      · rw [if_neg he] at h
        cases h

theorem dictIdx?_of_mem {e : α} {l : List α} (h : e ∈ l) : ∃ i, dictIdx? e l = some i := by
  induction l with
  | nil => cases h
  | cons x xs ih =>
    rw [dictIdx?_cons]
    cases hxs : dictIdx? e xs with
    | some j => exact ⟨j + 1, rfl⟩
    | none =>
      rcases List.mem_cons.mp h with rfl | h'
      · exact ⟨0, if_pos rfl⟩
      · obtain ⟨i, hi⟩ := ih h'
        rw [hxs] at hi
        cases hi

theorem dictIdx?_mem {e : α} {l : List α} {i : Nat} (h : dictIdx? e l = some i) : e ∈ l :=
  List.mem_of_getElem? (dictIdx?_some h)

theorem dictIdx?_of_getElem? {l : List α} (hnd : l.Nodup) {i : Nat} {e : α} (h : l[i]? = some e) :
    dictIdx? e l = some i := by
  obtain ⟨j, hj⟩ := dictIdx?_of_mem (List.mem_of_getElem? h)
  rw [hj, (List.getElem?_inj (List.getElem?_eq_some_iff.mp h).1 hnd).mp (h.trans (dictIdx?_some hj).symm)]

theorem dictIdx?_eq_none {e : α} {l : List α} : dictIdx? e l = none ↔ e ∉ l :=
  ⟨fun h hx => (dictIdx?_of_mem hx).elim (fun _ hi => nomatch h.symm.trans hi),
    fun h => Option.eq_none_iff_forall_ne_some.mpr fun _ hi => h (dictIdx?_mem hi)⟩

/-- a dictionary that counts the positions from `k` on — any `F` with the two equations of `nameIdxFrom`, `Codec.idxFrom`,
    `Casp.lastIdxFrom` — is `dictIdx?` shifted by `k` -/
theorem dictIdx?_from {F : List α → Nat → α → Option Nat} (hnil : ∀ k x, F [] k x = none)
    (hcons : ∀ y ys k x, F (y :: ys) k x = match F ys (k + 1) x with
      | some i => some i
      | none => if y = x then some k else none)
    (l : List α) (k : Nat) (x : α) : F l k x = (dictIdx? x l).map (· + k) := by
  induction l generalizing k with
  | nil => exact hnil k x
  | cons y ys ih =>
    rw [hcons, ih, dictIdx?_cons]
    cases dictIdx? x ys with
    | some i => exact congrArg some (Nat.add_right_comm i k 1)
    | none =>
      by_cases hyx : y = x
      · rw [if_pos hyx.symm]; exact (if_pos hyx).trans (congrArg some (Nat.zero_add k).symm)
      · rw [if_neg (Ne.symm hyx)]; exact if_neg hyx

end Poset

theorem nameIdx_eq (names : List String) (x : String) : nameIdx names x = Poset.dictIdx? x names :=
  (Poset.dictIdx?_from (fun _ _ => rfl) (fun _ _ _ _ => by rw [nameIdxFrom]; rfl) names 0 x).trans Option.map_id'

theorem nameIdx_get {names : List String} {x : String} {i : Nat} (h : nameIdx names x = some i) :
    names[i]? = some x :=
  Poset.dictIdx?_some ((nameIdx_eq names x).symm.trans h)

theorem nameIdx_lt {names : List String} {x : String} {i : Nat} (h : nameIdx names x = some i) :
    i < names.length :=
  (List.getElem?_eq_some_iff.mp (nameIdx_get h)).1

theorem nameIdx_none {names : List String} {x : String} : nameIdx names x = none ↔ x ∉ names :=
  nameIdx_eq names x ▸ Poset.dictIdx?_eq_none

theorem nameIdx_of_get {names : List String} (hnd : names.Nodup) {x : String} {i : Nat}
    (h : names[i]? = some x) : nameIdx names x = some i :=
  (nameIdx_eq names x).trans (Poset.dictIdx?_of_getElem? hnd h)

theorem namesToIdx_ok {names xs : List String} {is : List Nat} (h : namesToIdx names xs = .ok is) :
    (∀ i ∈ is, i < names.length) ∧ is.map (fun i => names.getD i "") = xs := by
  induction xs generalizing is with
  | nil => cases h; exact ⟨fun _ hi => (nomatch hi), rfl⟩
  | cons x xs ih =>
    rw [namesToIdx] at h
    split at h
    · cases h
    · rename_i i hi
      split at h
      · cases h
      · rename_i js hjs
        cases h
        obtain ⟨h2, h3⟩ := ih hjs
        refine ⟨fun k hk => ?_, ?_⟩
        · rcases List.mem_cons.mp hk with rfl | hk
          · exact nameIdx_lt hi
          · exact h2 k hk
        · rw [List.map_cons, h3, List.getD_eq_getElem?_getD, nameIdx_get hi, Option.getD_some]

theorem namesToIdx_error {names xs : List String} (h : ∃ x ∈ xs, x ∉ names) :
    namesToIdx names xs = .error .KeyError := by
  induction xs with
  | nil => obtain ⟨_, hx, _⟩ := h; cases hx
  | cons y ys ih =>
    rw [namesToIdx]
    cases hy : nameIdx names y with
    | none => rfl
    | some i =>
      obtain ⟨x, hx, hn⟩ := h
      rcases List.mem_cons.mp hx with rfl | hx
      · exact absurd (List.mem_of_getElem? (nameIdx_get hy)) hn
      · simp only [ih ⟨x, hx, hn⟩]

theorem namesToIdx_ok_of_mem {names xs : List String} (h : ∀ x ∈ xs, x ∈ names) :
    ∃ is, namesToIdx names xs = .ok is := by
  induction xs with
  | nil => exact ⟨[], rfl⟩
  | cons x xs ih =>
    obtain ⟨is, his⟩ := ih fun y hy => h y (List.mem_cons_of_mem _ hy)
    cases hx : nameIdx names x with
    | none => exact absurd (h x List.mem_cons_self) (nameIdx_none.mp hx)
    | some i => exact ⟨i :: is, by simp only [namesToIdx, hx, his]⟩

/-- all that the by-name methods need of distinct names: they filter by membership of a name where the `_i` methods
    filter by membership of its index -/
theorem getD_mem_names_iff {names : List String} (hnd : names.Nodup) {I : List Nat}
    (hI : ∀ j ∈ I, j < names.length) {i : Nat} (hi : i < names.length) :
    names.getD i "" ∈ I.map (fun j => names.getD j "") ↔ i ∈ I :=
  ⟨fun h => let ⟨j, hj, e⟩ := List.mem_map.mp h; (List.getD_inj (hI j hj) hi hnd).mp e ▸ hj,
    fun h => List.mem_map.mpr ⟨i, h, rfl⟩⟩

end Fca
