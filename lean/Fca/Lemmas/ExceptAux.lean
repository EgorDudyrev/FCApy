/-
  From the value of a computation to what its parts did: a conditional with a known value took the branch that has
  it; an `Except` computation that returns a value under a guard, a `bind` or a `map` passed the guard, and its parts
  returned values too.  And the way forward, as rules applied to a body as it unfolds: a computation whose first part
  returned `a` goes on with `a`; a conditional whose branches return values returns the conditional of the values.
-/
namespace Fca

theorem ite_eq_cases {α : Sort _} {c : Prop} [Decidable c] {a b r : α} (h : (if c then a else b) = r) :
    c ∧ a = r ∨ ¬ c ∧ b = r := by
  by_cases hc : c
  · exact .inl ⟨hc, (if_pos hc).symm.trans h⟩
  · exact .inr ⟨hc, (if_neg hc).symm.trans h⟩

/-- a conditional whose branches return values, against a conditional of the values whose test may be spelt
    differently (`hc`) -/
theorem ite_eq_ok {ε α} {c c' : Prop} [Decidable c] [Decidable c'] {x y : Except ε α} {a b : α}
    (hc : c ↔ c') (hx : x = .ok a) (hy : y = .ok b) : (if c then x else y) = .ok (if c' then a else b) :=
  (ite_congr (propext hc) (fun _ => hx) fun _ => hy).trans (apply_ite Except.ok c' a b).symm

theorem guard_eq_ok_iff {ε α : Type} {c : Prop} [Decidable c] {r : Except ε α} {e : ε} {v : α} :
    (if c then r else .error e) = .ok v ↔ c ∧ r = .ok v := by
  by_cases h : c
  · rw [if_pos h, and_iff_right h]
  · rw [if_neg h]
    exact ⟨nofun, fun h' => absurd h'.1 h⟩

theorem bind_eq_ok {ε α β : Type} {x : Except ε α} {f : α → Except ε β} {b : β} (h : x.bind f = .ok b) :
    ∃ a, x = .ok a ∧ f a = .ok b := by
  cases x with
  | error e => cases h
  | ok a => exact ⟨a, rfl, h⟩

theorem bind_of_ok {ε α β : Type} {x : Except ε α} {a : α} {f : α → Except ε β} {r : Except ε β}
    (hx : x = .ok a) (hf : f a = r) : x.bind f = r :=
  hx ▸ hf

theorem map_eq_ok {ε α β} {f : α → β} {r : Except ε α} {b : β} (h : r.map f = .ok b) :
    ∃ a, r = .ok a ∧ b = f a := by
  cases r with
  | error e => cases h
  | ok a => cases h; exact ⟨a, rfl, rfl⟩

end Fca
