/-
  Binarisation of a many-valued context (C14).  The key fact is `Col.bin_closure`: an object has every binary attribute
  of a column that all of `A` have iff the column's description of `A` covers it; hence the binarised table closes
  object sets as the context does (`closure_binTable_of`).
-/
import Fca.Model.MVHist
import Fca.Lemmas.MVContext
import Fca.Lemmas.Galois
namespace Fca.MV

/-- the model sorts with `Col.isort` by the Boolean test of a decidable relation only -/
theorem isInsertionSort_isort {α : Type} (r : α → α → Prop) [DecidableRel r] :
    ListAux.IsInsertionSort r (Col.insertBy fun a b => decide (r a b)) (Col.isort fun a b => decide (r a b)) where
  ins_nil _ := rfl
  ins_cons x y ys := by simp only [Col.insertBy, decide_eq_true_eq]
  srt_nil := rfl
  srt_cons _ _ := rfl

theorem mem_isort {α : Type} (r : α → α → Prop) [DecidableRel r] (l : List α) (y : α) :
    y ∈ Col.isort (fun a b => decide (r a b)) l ↔ y ∈ l := (isInsertionSort_isort r).mem_iff l y

theorem length_isort {α : Type} (r : α → α → Prop) [DecidableRel r] (l : List α) :
    (Col.isort (fun a b => decide (r a b)) l).length = l.length := (isInsertionSort_isort r).length_eq l

theorem pairwise_isort {α : Type} (r : α → α → Prop) [DecidableRel r] (total : ∀ a b, r a b ∨ r b a)
    (trans : ∀ {a b c}, r a b → r b c → r a c) (l : List α) : (Col.isort (fun a b => decide (r a b)) l).Pairwise r :=
  (isInsertionSort_isort r).sorted (fun a b h => (total a b).resolve_left h) (fun _ _ _ => trans) l

/-- in a list sorted by a reflexive `r` the head is below every member: to show `r lo x` for two members one may
    assume that `lo` is not the head -/
theorem rel_of_mem_tail_imp {α} {r : α → α → Prop} (refl : ∀ a, r a a) {s : List α} (hs : s.Pairwise r) {lo x : α}
    (hlo : lo ∈ s) (hx : x ∈ s) (H : lo ∈ s.tail → r lo x) : r lo x := by
  cases s with
  | nil => cases hlo
  | cons h t =>
    rcases List.mem_cons.mp hlo with rfl | hlt
    · rcases List.mem_cons.mp hx with rfl | hxt
      · exact refl _
      · exact (List.pairwise_cons.mp hs).1 x hxt
    · exact H hlt

theorem isCombs_combs : ListAux.IsCombs Col.combs :=
  ⟨fun l => by cases l <;> rfl, fun _ => rfl, fun _ _ _ => rfl⟩

theorem mem_uniqVals (data : List (List Nat)) (x : Nat) :
    x ∈ Col.uniqVals data ↔ ∃ row ∈ data, x ∈ row := by
  unfold Col.uniqVals
  rw [show List.foldl Col.unionL [] data = data.foldl (fun acc row => Col.unionL acc (id row)) [] from rfl,
    ListAux.mem_foldl_union Col.unionL (fun _ _ _ => mem_unionL)]
  simp only [List.not_mem_nil, false_or, id]

theorem mem_ivBinExtents (data : List (Int × Int)) (E : List Bool) :
    E ∈ Col.ivBinExtents data ↔
      E = data.map (fun _ => true) ∨
      (∃ lb ∈ (Col.isort (fun a b => decide (a ≤ b)) (data.map (·.1)).eraseDups).tail,
        (data.map fun v => decide (lb ≤ v.1)) = E) ∨
      (∃ rb ∈ (Col.isort (fun a b => decide (b ≤ a)) (data.map (·.2)).eraseDups).tail,
        (data.map fun v => decide (v.2 ≤ rb)) = E) ∨
      E = data.map (fun _ => false) := by
  simp only [Col.ivBinExtents, List.mem_append, List.mem_map, List.mem_cons, List.not_mem_nil, or_false, or_assoc]

theorem mem_setBinExtents (data : List (List Nat)) (E : List Bool) :
    E ∈ Col.setBinExtents data ↔
      ∃ k, k ≤ (Col.uniqVals data).length ∧
        ∃ comb ∈ Col.combs (Col.isort (fun a b => decide (a ≤ b)) (Col.uniqVals data)) k,
          E = data.map fun row => Col.setLeq row comb := by
  simp only [Col.setBinExtents, List.mem_flatMap, List.mem_reverse, List.mem_range, List.mem_map,
    length_isort, Nat.lt_succ_iff, eq_comm (a := E)]

theorem Col.binAttrExtents_length_each (c : Col) : ∀ E ∈ c.binAttrExtents, E.length = c.len := by
  intro E hE
  cases c with
  | interval data =>
    rcases (mem_ivBinExtents data E).mp hE with rfl | ⟨_, _, rfl⟩ | ⟨_, _, rfl⟩ | rfl <;> exact List.length_map _
  | set data =>
    obtain ⟨_, _, _, _, rfl⟩ := (mem_setBinExtents data E).mp hE
    exact List.length_map _
  | attr data => cases List.mem_singleton.mp hE; rfl

theorem Col.nBinAttrs_eq (c : Col) (h : 1 ≤ c.len) : c.nBinAttrs = c.binAttrExtents.length := by
  cases c with
  | interval data =>
    have hne : data ≠ [] := fun h0 => by rw [h0] at h; exact absurd h (by decide)
    have h1 := ListAux.eraseDups_length_pos.mpr (mt List.map_eq_nil_iff.mp hne : data.map (·.1) ≠ [])
    have h2 := ListAux.eraseDups_length_pos.mpr (mt List.map_eq_nil_iff.mp hne : data.map (·.2) ≠ [])
    simp only [Col.nBinAttrs, Col.binAttrExtents, Col.ivBinExtents, List.length_append, List.length_map,
      List.length_tail, length_isort, List.length_cons, List.length_nil, Nat.zero_add]
    exact interval_bin_count h1 h2
  | set data =>
    simp only [Col.nBinAttrs, Col.binAttrExtents, Col.setBinExtents, List.length_flatMap, List.map_reverse,
      List.sum_reverse_nat, List.length_map]
    rw [isCombs_combs.count _ _ (Nat.le_refl _), length_isort]
  | attr data => rfl

/-- The attributes "left end ≥ lb" (`lb` a left end other than the least) and "right end ≤ rb" (`rb` other than
    the greatest) cut out the hull of `A`: the hull's own ends are among the bounds unless they are the extreme ones,
    which every object meets. -/
theorem Col.bin_closure_interval (data : List (Int × Int)) (A : List Nat) (hA : A ≠ [])
    (hr : ∀ x ∈ A, x < data.length) (g : Nat) (hg : g < data.length) :
    (∀ E ∈ Col.ivBinExtents data, (∀ x ∈ A, E.getD x false = true) → E.getD g false = true) ↔
      (Col.interval data).covers ((Col.interval data).intentionI A) g = true := by
  obtain ⟨a, as, rfl⟩ := List.exists_cons_of_ne_nil hA
  obtain ⟨⟨lo, hi⟩, hint, hall, ⟨xl, hxl, hlo⟩, ⟨xh, hxh, hhi⟩⟩ := ivIntention_isHull data a as
  rw [Col.intentionI, hint, Col.covers_ival, PS.ivCovers_some]
  have flag : ∀ (P : Int × Int → Prop) [DecidablePred P] (x : Nat), x < data.length →
      ((data.map fun v => decide (P v)).getD x false = true ↔ P (data.getD x (0, 0))) := fun P _ x hx => by
    rw [ListAux.getD_map _ data x (0, 0) false hx, decide_eq_true_eq]
  have end_mem : ∀ (f : Int × Int → Int) x, x < data.length → f (data.getD x (0, 0)) ∈ (data.map f).eraseDups :=
    fun f x hx => List.mem_eraseDups.mpr (List.mem_map_of_mem (ListAux.getD_mem data x (0, 0) hx))
  simp only at hall hlo hhi
  constructor
  · intro H
    constructor
    · refine rel_of_mem_tail_imp Int.le_refl (pairwise_isort (· ≤ ·) Int.le_total Int.le_trans _)
        ((mem_isort _ _ _).mpr (hlo ▸ end_mem (·.1) xl (hr xl hxl))) ((mem_isort _ _ _).mpr (end_mem (·.1) g hg))
        fun hlt => ?_
      exact (flag (lo ≤ ·.1) g hg).mp (H _ ((mem_ivBinExtents data _).mpr (Or.inr (Or.inl ⟨lo, hlt, rfl⟩)))
        fun x hx => (flag _ x (hr x hx)).mpr (hall x hx).1)
    · refine rel_of_mem_tail_imp (r := fun a b => b ≤ a) Int.le_refl
        (pairwise_isort _ (fun a b => Int.le_total b a) (fun h h' => Int.le_trans h' h) _)
        ((mem_isort _ _ _).mpr (hhi ▸ end_mem (·.2) xh (hr xh hxh))) ((mem_isort _ _ _).mpr (end_mem (·.2) g hg))
        fun hlt => ?_
      exact (flag (·.2 ≤ hi) g hg).mp (H _ ((mem_ivBinExtents data _).mpr (Or.inr (Or.inr (Or.inl ⟨hi, hlt, rfl⟩))))
        fun x hx => (flag _ x (hr x hx)).mpr (hall x hx).2)
  · rintro ⟨hl, hh⟩ E hE hEA
    rcases (mem_ivBinExtents data E).mp hE with rfl | ⟨lb, _, rfl⟩ | ⟨rb, _, rfl⟩ | rfl
    · exact ListAux.getD_map _ data g (0, 0) false hg
    · exact (flag _ g hg).mpr (Int.le_trans (hlo ▸ (flag (lb ≤ ·.1) xl (hr xl hxl)).mp (hEA xl hxl)) hl)
    · exact (flag _ g hg).mpr (Int.le_trans hh (hhi ▸ (flag (·.2 ≤ rb) xh (hr xh hxh)).mp (hEA xh hxh)))
    · have := hEA a List.mem_cons_self
      rw [ListAux.getD_map _ data a (0, 0) false (hr a List.mem_cons_self)] at this
      cases this

/-- the combination of the values occurring in `A` is one of the attributes, and the one that decides -/
theorem Col.bin_closure_set (data : List (List Nat)) (A : List Nat)
    (hr : ∀ x ∈ A, x < data.length) (g : Nat) (hg : g < data.length) :
    (∀ E ∈ Col.setBinExtents data, (∀ x ∈ A, E.getD x false = true) → E.getD g false = true) ↔
      (Col.set data).covers ((Col.set data).intentionI A) g = true := by
  rw [Col.intentionI, Col.covers_set]
  have flag : ∀ (comb : List Nat) x, x < data.length →
      ((data.map fun row => Col.setLeq row comb).getD x false = true ↔ ∀ v ∈ data.getD x [], v ∈ comb) := by
    intro comb x hx
    rw [ListAux.getD_map _ data x [] false hx, setLeq_eq_all, List.all_eq_true]
    simp only [List.contains_eq_mem, decide_eq_true_eq]
  constructor
  · intro H y hy
    let uniq := Col.isort (fun a b => decide (a ≤ b)) (Col.uniqVals data)
    let comb := uniq.filter fun v => decide (v ∈ Col.setIntention data A)
    have hlen : comb.length ≤ (Col.uniqVals data).length :=
      length_isort (· ≤ ·) (Col.uniqVals data) ▸ List.length_filter_le _ uniq
    have hE := (mem_setBinExtents data _).mpr ⟨comb.length, hlen, comb, isCombs_combs.mem.mpr ⟨List.filter_sublist, rfl⟩, rfl⟩
    have := (flag comb g hg).mp (H _ hE fun x hx => (flag comb x (hr x hx)).mpr fun v hv =>
      List.mem_filter.mpr ⟨(mem_isort (· ≤ ·) _ _).mpr ((mem_uniqVals data v).mpr ⟨_, ListAux.getD_mem data x [] (hr x hx), hv⟩),
        decide_eq_true ((mem_setIntention data A v).mpr ⟨x, hx, hv⟩)⟩) y hy
    exact of_decide_eq_true (List.mem_filter.mp this).2
  · intro H E hE hEA
    obtain ⟨k, _, comb, _, rfl⟩ := (mem_setBinExtents data E).mp hE
    refine (flag comb g hg).mpr fun y hy => ?_
    obtain ⟨x, hx, hyx⟩ := (mem_setIntention data A y).mp (H y hy)
    exact (flag comb x (hr x hx)).mp (hEA x hx) y hyx

theorem Col.bin_closure (c : Col) (A : List Nat) (hA : A ≠ []) (hr : ∀ x ∈ A, x < c.len) (g : Nat)
    (hg : g < c.len) :
    (∀ E ∈ c.binAttrExtents, (∀ x ∈ A, E.getD x false = true) → E.getD g false = true) ↔
      c.covers (c.intentionI A) g = true := by
  cases c with
  | interval data => exact Col.bin_closure_interval data A hA hr g hg
  | set data => exact Col.bin_closure_set data A hr g hg
  | attr data =>
    obtain ⟨a, as, rfl⟩ := List.exists_cons_of_ne_nil hA
    rw [Col.intentionI, attrIntention_cons, Col.covers_bval]
    simp only [Col.binAttrExtents, List.mem_singleton, forall_eq]
    rcases Bool.eq_false_or_eq_true ((a :: as).all fun g => data.getD g false) with hall | hall <;> rw [hall]
    · exact ⟨fun H => H (List.all_eq_true.mp hall), fun h _ => h⟩
    · exact ⟨fun _ => rfl, fun _ h => absurd (hall.symm.trans (List.all_eq_true.mpr h)) Bool.false_ne_true⟩

theorem Col.bin_bottom (c : Col) (g : Nat) (hg : g < c.len) :
    (∀ E ∈ c.binAttrExtents, E.getD g false = true) ↔ c.covers c.bottom g = true := by
  cases c with
  | interval data =>
    refine ⟨fun H => ?_, fun h => by cases h⟩
    have := H _ ((mem_ivBinExtents data _).mpr (Or.inr (Or.inr (Or.inr rfl))))
    rw [ListAux.getD_map _ data g (0, 0) false hg] at this
    cases this
  | set data =>
    have h0 := Col.bin_closure_set data [] (fun x hx => by cases hx) g hg
    simp only [List.not_mem_nil, false_imp_iff, implies_true, forall_const] at h0
    exact h0
  | attr data => simp only [Col.binAttrExtents, List.mem_singleton, forall_eq]; rfl

theorem Col.binAttrExtents_ne_nil (c : Col) : c.binAttrExtents ≠ [] := by
  cases c with
  | interval data => exact List.ne_nil_of_mem ((mem_ivBinExtents data _).mpr (Or.inl rfl))
  | set data =>
    exact List.ne_nil_of_mem
      ((mem_setBinExtents data _).mpr ⟨0, Nat.zero_le _, [], isCombs_combs.mem.mpr ⟨List.nil_sublist _, rfl⟩, rfl⟩)
  | attr data => exact List.cons_ne_nil _ _

theorem MVCtx.mem_binAttrExtents (K : MVCtx) (E : List Bool) :
    E ∈ K.binAttrExtents ↔ ∃ c ∈ K.cols, E ∈ c.binAttrExtents :=
  List.mem_flatMap

theorem MVCtx.binAttrExtents_length_each (K : MVCtx) (hwf : K.WF) :
    ∀ E ∈ K.binAttrExtents, E.length = K.nObjects := by
  intro E hE
  obtain ⟨c, hc, hEc⟩ := (K.mem_binAttrExtents E).mp hE
  rw [c.binAttrExtents_length_each E hEc, hwf c hc]

theorem MVCtx.binAttrExtents_ne_nil (K : MVCtx) (hc : K.cols ≠ []) : K.binAttrExtents ≠ [] := by
  obtain ⟨c, hcm⟩ := List.exists_mem_of_ne_nil _ hc
  obtain ⟨E, hE⟩ := List.exists_mem_of_ne_nil _ c.binAttrExtents_ne_nil
  exact List.ne_nil_of_mem ((K.mem_binAttrExtents E).mpr ⟨c, hcm, hE⟩)

theorem MVCtx.nBinAttrs_eq (K : MVCtx) (hwf : K.WF) (hn : 1 ≤ K.nObjects) :
    K.nBinAttrs = K.binAttrExtents.length := by
  unfold MVCtx.nBinAttrs MVCtx.binAttrExtents
  rw [List.length_flatMap]
  exact congrArg List.sum (List.map_congr_left fun c hc => c.nBinAttrs_eq (hwf c hc ▸ hn))

theorem MVCtx.ofRows_binAttrExtents_width (K : MVCtx) (hwf : K.WF) (hc : K.cols ≠ []) :
    (Table.ofRows K.binAttrExtents).width = K.nObjects :=
  congrArg Table.width (Table.ofRows_eq_mk (List.length_pos_iff.mpr (K.binAttrExtents_ne_nil hc))
    (K.binAttrExtents_length_each hwf))

/-- the table `binarize()` builds: a row per object, a column per produced binary attribute -/
def MVCtx.binTable (K : MVCtx) : Table := Spec.transpose (Table.ofRows K.binAttrExtents)

theorem MVCtx.tr_eq_transpose (t : Table) : MVCtx.tr t = Spec.transpose t := rfl

theorem MVCtx.binarize_eq (K : MVCtx) (hc : K.cols ≠ []) : K.binarize = .ok ⟨K.binTable, K.objNames⟩ := by
  unfold MVCtx.binarize
  simp only [List.isEmpty_eq_false_iff.mpr (K.binAttrExtents_ne_nil hc), Bool.false_eq_true, ↓reduceIte]
  rfl

theorem MVCtx.binTable_height (K : MVCtx) (hwf : K.WF) (hc : K.cols ≠ []) : K.binTable.height = K.nObjects := by
  unfold MVCtx.binTable
  rw [Spec.transpose_height, K.ofRows_binAttrExtents_width hwf hc]

theorem MVCtx.binTable_width (K : MVCtx) : K.binTable.width = K.binAttrExtents.length := rfl

theorem MVCtx.binTable_get (K : MVCtx) (hwf : K.WF) (hc : K.cols ≠ []) (g a : Nat) (hg : g < K.nObjects) :
    K.binTable.get g a = (K.binAttrExtents.getD a []).getD g false := by
  unfold MVCtx.binTable
  rw [Spec.transpose_get_of_lt_width _ (by rw [K.ofRows_binAttrExtents_width hwf hc]; exact hg)]
  rfl

/-- For any description `f`, so that `A ≠ []` (`f = (·.intentionI A)`) and `A = []` (`f = Col.bottom`) are both
    instances. -/
theorem MVCtx.closure_binTable_of (K : MVCtx) (hwf : K.WF) (hc : K.cols ≠ []) (A : List Nat)
    (hr : ∀ x ∈ A, x < K.nObjects) (f : Col → DVal)
    (hf : ∀ c ∈ K.cols, ∀ g < K.nObjects,
      (∀ E ∈ c.binAttrExtents, (∀ x ∈ A, E.getD x false = true) → E.getD g false = true) ↔ c.covers (f c) g = true) :
    Spec.closure K.binTable A = K.extSpec (K.colDesc f) (List.range K.nObjects) := by
  unfold Spec.closure Spec.extAll Spec.ext
  rw [K.binTable_height hwf hc]
  refine ListAux.filter_eq_of_same_mem fun g => ?_
  rw [List.mem_filter, List.mem_filter, List.mem_range, K.coversAll_colDesc, List.all_eq_true]
  refine and_congr_right fun hg => ?_
  -- the binary attributes are the columns `a` of the table, `E = binAttrExtents[a]`
  have col : ∀ a (ha : a < K.binAttrExtents.length) x, x < K.nObjects →
      K.binTable.get x a = (K.binAttrExtents[a]).getD x false := fun a ha x hx => by
    rw [K.binTable_get hwf hc x a hx, List.getD_eq_getElem?_getD (l := K.binAttrExtents),
      List.getElem?_eq_getElem ha]
    rfl
  constructor
  · intro H c hcm
    refine (hf c hcm g hg).mp fun E hE hEA => ?_
    obtain ⟨a, ha, rfl⟩ := List.mem_iff_getElem.mp ((K.mem_binAttrExtents E).mpr ⟨c, hcm, hE⟩)
    rw [← col a ha g hg]
    exact H a ((Spec.mem_intAll _).mpr ⟨ha, fun x hx => (col a ha x (hr x hx)).trans (hEA x hx)⟩)
  · intro H a ha
    obtain ⟨ha, hA⟩ := (Spec.mem_intAll _).mp ha
    obtain ⟨c, hcm, hE⟩ := (K.mem_binAttrExtents _).mp (List.getElem_mem ha)
    rw [col a ha g hg]
    exact (hf c hcm g hg).mpr (H c hcm) _ hE fun x hx => (col a ha x (hr x hx)).symm.trans (hA x hx)

theorem MVCtx.closure_binTable (K : MVCtx) (hwf : K.WF) (hc : K.cols ≠ []) (A : List Nat) (hA : A ≠ [])
    (hr : ∀ x ∈ A, x < K.nObjects) : Spec.closure K.binTable A = K.clSpec A :=
  K.closure_binTable_of hwf hc A hr (·.intentionI A) fun c hcm g hg =>
    c.bin_closure A hA (hwf c hcm ▸ hr) g (hwf c hcm ▸ hg)

theorem MVCtx.closure_binTable_nil (K : MVCtx) (hwf : K.WF) (hc : K.cols ≠ []) :
    Spec.closure K.binTable [] = K.extBottom :=
  K.closure_binTable_of hwf hc [] (fun _ h => by cases h) Col.bottom fun c hcm g hg => by
    simpa only [List.not_mem_nil, false_imp_iff, implies_true, forall_const] using c.bin_bottom g (hwf c hcm ▸ hg)

/-- under `BottomOK` the empty set is no exception -/
theorem MVCtx.closure_binTable_all (K : MVCtx) (hwf : K.WF) (hc : K.cols ≠ []) (hb : K.BottomOK) (A : List Nat)
    (hr : ∀ x ∈ A, x < K.nObjects) : Spec.closure K.binTable A = K.clSpec A := by
  cases A with
  | nil => exact (K.closure_binTable_nil hwf hc).trans (K.bottomOK_iff.mp hb).symm
  | cons a as => exact K.closure_binTable hwf hc _ (List.cons_ne_nil _ _) hr

theorem Col.setCell_len (c : Col) (i : Nat) (v : Cell) : (c.setCell i v).len = c.len := by
  cases c <;> cases v <;> simp [Col.setCell, Col.len]

namespace MVCtx

theorem binAttrNamed_map_snd (K : MVCtx) (nm : Nat → Nat → String) :
    (K.binAttrNamed nm).map (·.2) = K.binAttrExtents := by
  have inner : ∀ cj : Col × Nat,
      (cj.1.binAttrExtents.zipIdx.map fun ek => (nm cj.2 ek.2, ek.1)).map (·.2) = cj.1.binAttrExtents :=
    fun cj => (List.map_map ..).trans (List.zipIdx_map_fst 0 _)
  rw [binAttrNamed, List.map_flatMap, funext inner, ← List.flatMap_map Prod.fst, List.zipIdx_map_fst]
  rfl

theorem step_nObjects (K : MVCtx) (s : Step) : (K.step s).nObjects = K.nObjects := by
  cases s <;> rfl

theorem step_wf (K : MVCtx) (s : Step) (hwf : K.WF) (hv : s.Valid K) : (K.step s).WF := by
  cases s with
  | query q => exact hwf
  | setData j c =>
    intro c' hc'
    rcases List.mem_or_eq_of_mem_set hc' with h | h
    · exact hwf c' h
    · subst h; exact hv
  | setCell j i v =>
    intro c' hc'
    obtain ⟨k, hk, rfl⟩ := List.mem_iff_getElem.mp (show c' ∈ K.cols.modify j _ from hc')
    rw [List.getElem_modify]
    rw [List.length_modify] at hk
    split
    · rw [Col.setCell_len]; exact hwf _ (List.getElem_mem _)
    · exact hwf _ (List.getElem_mem _)
  | setPS cols => exact hv.2
  | setObjNames ns => exact hwf

theorem step_cols_ne_nil (K : MVCtx) (s : Step) (hc : K.cols ≠ []) (hv : s.Valid K) : (K.step s).cols ≠ [] := by
  cases s with
  | query q => exact hc
  | setData j c => exact mt (List.set_eq_nil_iff j c).mp hc
  | setCell j i v => exact mt List.modify_eq_nil_iff.mp hc
  | setPS cols => exact hv.1
  | setObjNames ns => exact hc

theorem run_invariants (K : MVCtx) (steps : List Step) (hwf : K.WF) (hc : K.cols ≠ []) (hv : K.HistValid steps) :
    (K.run steps).WF ∧ (K.run steps).cols ≠ [] ∧ (K.run steps).nObjects = K.nObjects := by
  induction steps generalizing K with
  | nil => exact ⟨hwf, hc, rfl⟩
  | cons s rest ih =>
    obtain ⟨h1, h2, h3⟩ := ih (K.step s) (K.step_wf s hwf hv.1) (K.step_cols_ne_nil s hc hv.1) hv.2
    exact ⟨h1, h2, h3.trans (K.step_nObjects s)⟩

end MVCtx
end Fca.MV
