/-
  The loop `for el_i in range(el_i_new)` of `add(e, fill_up_cache=True)` turns caches that are
  right for `E`, with the four entries of the new element at key `E.length`, into caches right for `E ++ [e]`.
  It reads `_cache_ancestors[el_i]` / `_cache_descendants[el_i]` only of the elements strictly below / above the
  new one: `Weak.PatchInv` asks for the presence of just those entries (all a semilattice, whose `trace_element`
  does not scan, can promise), and the loop is verified under it; both `add` proofs (`Lemmas/PosetAdd`,
  `Lemmas/SemiLatticeAdd`) go through `Weak.*`.  `PatchInv` asks for the presence of all closed entries, which the
  scan of `POSet.tops / bottoms` leaves; `PatchInv.ofWeak` says what it adds to the weak one, and
  `SemiLattice.posetAddFillSL_spec` states its result with it.
-/
import Fca.Lemmas.PosetQuery
import Fca.Lemmas.PosetExtend
namespace Fca.Poset
open Fca.Poset.Fresh

section entry
variable {n i : Nat} {Po Pn : Nat → Nat → Bool} {pre : List Nat} {ca ca' : Cache}

/-- a relation cache during the patching loop: entries keyed by an index in `pre` (already visited) or by the
    new index `n` are right for the new relation `Pn`, the others still for the old relation `Po` -/
def PatchEntry (n : Nat) (Po Pn : Nat → Nat → Bool) (pre : List Nat) (ca : Cache) : Prop :=
  ∀ k v, alookup k ca = some v → k ≤ n ∧ v.Nodup ∧
    ((k = n ∨ k ∈ pre) → ∀ x, x ∈ v ↔ Pn x k = true) ∧
    (k < n → k ∉ pre → ∀ x, x ∈ v ↔ Po x k = true)

/-- how the iteration for the index `i` may change a relation cache -/
structure EntryUpd (i : Nat) (Pn : Nat → Nat → Bool) (ca ca' : Cache) : Prop where
  other : ∀ k, k ≠ i → alookup k ca' = alookup k ca
  new : ∀ v, alookup i ca' = some v → v.Nodup ∧ ∀ x, x ∈ v ↔ Pn x i = true
  pres : (alookup i ca).isSome = true → (alookup i ca').isSome = true

theorem EntryUpd.refl (h : ∀ v, alookup i ca = some v → v.Nodup ∧ ∀ x, x ∈ v ↔ Pn x i = true) :
    EntryUpd i Pn ca ca :=
  ⟨fun _ _ => rfl, h, id⟩

theorem EntryUpd.of_ainsert {v : List Nat} (hv : v.Nodup) (hx : ∀ x, x ∈ v ↔ Pn x i = true) :
    EntryUpd i Pn ca (ainsert i v ca) := by
  refine ⟨fun k hk => by rw [alookup_ainsert, if_neg hk], fun w hw => ?_, fun _ => ?_⟩
  · rw [alookup_ainsert, if_pos rfl] at hw
    cases hw
    exact ⟨hv, hx⟩
  · rw [alookup_ainsert, if_pos rfl]; rfl

theorem EntryUpd.isSome (u : EntryUpd i Pn ca ca') {k : Nat} (h : (alookup k ca).isSome = true) :
    (alookup k ca').isSome = true := by
  by_cases hk : k = i
  · subst hk; exact u.pres h
  · rw [u.other k hk]; exact h

theorem PatchEntry.update (h : PatchEntry n Po Pn pre ca) (hi : i < n) (u : EntryUpd i Pn ca ca') :
    PatchEntry n Po Pn (pre ++ [i]) ca' := by
  intro k v hl
  by_cases hk : k = i
  · subst hk
    obtain ⟨h1, h2⟩ := u.new v hl
    exact ⟨Nat.le_of_lt hi, h1, fun _ => h2,
      fun _ hn => absurd (List.mem_append_right _ (List.mem_singleton_self _)) hn⟩
  · rw [u.other k hk] at hl
    obtain ⟨h1, h2, h3, h4⟩ := h k v hl
    refine ⟨h1, h2, fun hh => h3 ?_, fun hk1 hk2 => h4 hk1 (fun hp => hk2 (List.mem_append_left _ hp))⟩
    rcases hh with hh | hh
    · exact Or.inl hh
    · rcases List.mem_append.mp hh with hh | hh
      · exact Or.inr hh
      · exact absurd (List.mem_singleton.mp hh) hk

theorem PatchEntry.init {X : Nat → Option (List Nat)} {Pr : Nat → Prop} {w : List Nat}
    (h : EntryOK (· < n) (Lists Po) X Pr ca) (hX : ∀ k, X k = if k = n then some w else none)
    (hw : w.Nodup ∧ ∀ x, x ∈ w ↔ Pn x n = true) : PatchEntry n Po Pn [] ca := by
  intro k v hl
  by_cases hk : k < n
  · obtain ⟨h1, h2⟩ := h.exact k v hk hl
    refine ⟨Nat.le_of_lt hk, h1, fun hh => ?_, fun _ _ => h2⟩
    rcases hh with hh | hh
    · exact absurd hh (Nat.ne_of_lt hk)
    · cases hh
  · have := h.frame k hk
    rw [hl, hX] at this
    split at this
    · rename_i hkn
      cases this
      subst hkn
      exact ⟨Nat.le_refl _, hw.1, fun _ => hw.2, fun hh => absurd hh hk⟩
    · cases this

theorem PatchEntry.final (h : PatchEntry n Po Pn (List.range n) ca) : Exact (n + 1) Pn ca := by
  intro k v hl
  obtain ⟨h1, h2, h3, _⟩ := h k v hl
  refine ⟨Nat.lt_succ_of_le h1, h2, h3 ?_⟩
  by_cases hk : k = n
  · exact Or.inl hk
  · exact Or.inr (List.mem_range.mpr (Nat.lt_of_le_of_ne h1 hk))

end entry

section
variable {α : Type} {leq : α → α → Bool}

/-- caches during the patching loop: entries keyed by an index in `pre` (already visited) or by the new index are
    right for `E ++ [e]`, the others still for `E`; `cl`/`dr` are the closed/direct entries of the new element -/
structure PatchInv (leq : α → α → Bool) (E : List α) (e : α) (cl dr : Dir → List Nat) (pre : List Nat)
    (s : St α) : Prop where
  elems : s.elems = E
  flag : s.useCache = true
  leqOk : ∀ a b r, alookup (a, b) s.leqC = some r →
    a ≤ E.length ∧ b ≤ E.length ∧ r = rel leq (E ++ [e]) a b
  closedOk : ∀ d k v, alookup k (s.closed d) = some v → k ≤ E.length ∧ v.Nodup ∧
    ((k = E.length ∨ k ∈ pre) → ∀ x, x ∈ v ↔ ltD leq d (E ++ [e]) x k = true) ∧
    (k < E.length → k ∉ pre → ∀ x, x ∈ v ↔ ltD leq d E x k = true)
  directOk : ∀ d k v, alookup k (s.direct d) = some v → k ≤ E.length ∧ v.Nodup ∧
    ((k = E.length ∨ k ∈ pre) → ∀ x, x ∈ v ↔ isCover leq d (E ++ [e]) x k = true) ∧
    (k < E.length → k ∉ pre → ∀ x, x ∈ v ↔ isCover leq d E x k = true)
  closedPres : ∀ d k, k < E.length → (alookup k (s.closed d)).isSome = true
  directPres : ∀ d k, k ∈ dr d → (alookup k (s.direct d.flip)).isSome = true
  closedNew : ∀ d, alookup E.length (s.closed d) = some (cl d)
  directNew : ∀ d, alookup E.length (s.direct d) = some (dr d)

namespace Weak

/-- `PatchInv` with the closed relation known to be cached only for the elements the loop patches on that
    side: those strictly on the `d` side of the new element, whose `d.flip` entry gets the new element -/
structure PatchInv (leq : α → α → Bool) (E : List α) (e : α) (cl dr : Dir → List Nat) (pre : List Nat)
    (s : St α) : Prop where
  elems : s.elems = E
  flag : s.useCache = true
  leqOk : ∀ a b r, alookup (a, b) s.leqC = some r →
    a ≤ E.length ∧ b ≤ E.length ∧ r = rel leq (E ++ [e]) a b
  closedOk : ∀ d, PatchEntry E.length (ltD leq d E) (ltD leq d (E ++ [e])) pre (s.closed d)
  directOk : ∀ d, PatchEntry E.length (isCover leq d E) (isCover leq d (E ++ [e])) pre (s.direct d)
  closedPres : ∀ d k, k ∈ cl d → (alookup k (s.closed d.flip)).isSome = true
  directPres : ∀ d k, k ∈ dr d → (alookup k (s.direct d.flip)).isSome = true
  closedNew : ∀ d, alookup E.length (s.closed d) = some (cl d)
  directNew : ∀ d, alookup E.length (s.direct d) = some (dr d)

variable {E : List α} {e : α} {cl dr : Dir → List Nat}

structure PatchUpd (leq : α → α → Bool) (E : List α) (e : α) (i : Nat) (s s' : St α) : Prop where
  elems : s'.elems = s.elems
  flag : s'.useCache = s.useCache
  leqU : ∀ a b r, alookup (a, b) s'.leqC = some r → alookup (a, b) s.leqC = some r ∨
    (a ≤ E.length ∧ b ≤ E.length ∧ r = rel leq (E ++ [e]) a b)
  closed : ∀ d, EntryUpd i (ltD leq d (E ++ [e])) (s.closed d) (s'.closed d)
  direct : ∀ d, EntryUpd i (isCover leq d (E ++ [e])) (s.direct d) (s'.direct d)

theorem patchInv_update {pre : List Nat} {i : Nat} {s s' : St α} (hi : i < E.length)
    (h : PatchInv leq E e cl dr pre s) (u : PatchUpd leq E e i s s') :
    PatchInv leq E e cl dr (pre ++ [i]) s' :=
  ⟨u.elems.trans h.elems, u.flag.trans h.flag, fun a b r hl => (u.leqU a b r hl).elim (h.leqOk a b r) id,
    fun d => (h.closedOk d).update hi (u.closed d), fun d => (h.directOk d).update hi (u.direct d),
    fun d k hk => (u.closed d.flip).isSome (h.closedPres d k hk),
    fun d k hk => (u.direct d.flip).isSome (h.directPres d k hk),
    fun d => ((u.closed d).other _ (Nat.ne_of_gt hi)).trans (h.closedNew d),
    fun d => ((u.direct d).other _ (Nat.ne_of_gt hi)).trans (h.directNew d)⟩

variable [DecidableEq α]

theorem patchInv_final {s : St α} (h : PatchInv leq E e cl dr (List.range E.length) s) :
    InvB leq (E ++ [e]) Ghost.none true { s with elems := s.elems ++ [e] } := by
  have hlen : (E ++ [e]).length = E.length + 1 := by rw [List.length_append, List.length_singleton]
  refine InvB.ofOk (by rw [h.elems]) h.flag (fun _ => ?_) (fun _ => ?_) (fun _ => ?_)
  · intro a b r hl
    obtain ⟨h1, h2, h3⟩ := h.leqOk a b r hl
    rw [hlen]; exact ⟨Nat.lt_succ_of_le h1, Nat.lt_succ_of_le h2, h3⟩
  · intro d
    rw [hlen]
    exact (h.closedOk d).final
  · intro d
    rw [hlen]
    exact (h.directOk d).final

theorem patchInv_init {G : Ghost} {s : St α} (hpo' : IdxPO leq (E ++ [e])) (h : InvB leq E G true s)
    (hcl : ∀ d, (cl d).Nodup ∧ ∀ x, x ∈ cl d ↔ ltD leq d (E ++ [e]) x E.length = true)
    (hdr : ∀ d, (dr d).Nodup ∧ ∀ x, x ∈ dr d ↔ isCover leq d (E ++ [e]) x E.length = true)
    (hGl : ∀ p, G.leqX p = if p = (E.length, E.length) then some true else none)
    (hGc : ∀ d k, G.closedX d k = if k = E.length then some (cl d) else none)
    (hGd : ∀ d k, G.directX d k = if k = E.length then some (dr d) else none)
    (hcp : ∀ d k, k ∈ cl d → (alookup k (s.closed d.flip)).isSome = true)
    (hdp : ∀ d k, k ∈ cl d → (alookup k (s.direct d.flip)).isSome = true) :
    PatchInv leq E e cl dr [] s := by
  refine ⟨h.elems, h.flag, fun a b r hl => ?_, fun d => PatchEntry.init (h.closedEntry rfl d) (hGc d) (hcl d),
    fun d => PatchEntry.init (h.directEntry rfl d) (hGd d) (hdr d),
    hcp, fun d k hk => ?_, fun d => ?_, fun d => ?_⟩
  · by_cases hin : a < E.length ∧ b < E.length
    · refine ⟨Nat.le_of_lt hin.1, Nat.le_of_lt hin.2, ?_⟩
      rw [rel_append_left hin.1 hin.2]
      exact h.leqIn rfl a b r hin.1 hin.2 hl
    · have := h.leqOut rfl a b hin
      rw [hl, hGl] at this
      split at this
      · rename_i hab
        cases hab
        cases this
        refine ⟨Nat.le_refl _, Nat.le_refl _, ?_⟩
        exact (hpo'.refl E.length (by simp)).symm
      · cases this
  · exact hdp d k (((hcl d).2 k).mpr (isCover_iff.mp (((hdr d).2 k).mp hk)).1)
  · rw [h.closedOut rfl d E.length (Nat.lt_irrefl _), hGc, if_pos rfl]
  · rw [h.directOut rfl d E.length (Nat.lt_irrefl _), hGd, if_pos rfl]

end Weak
end

namespace Weak
section
variable {α : Type} {leq : α → α → Bool} {ord : List Nat → List Nat}
variable {E : List α} {e : α} {cl dr : Dir → List Nat}

/-- the two comparisons with the new element that an iteration stores -/
theorem leqU_pair {i : Nat} (hi : i < E.length) {r1 r2 : Bool} (h1 : r1 = rel leq (E ++ [e]) i E.length)
    (h2 : r2 = rel leq (E ++ [e]) E.length i) (l : List ((Nat × Nat) × Bool)) (a b : Nat) (r : Bool)
    (hl : alookup (a, b) (ainsert (E.length, i) r2 (ainsert (i, E.length) r1 l)) = some r) :
    alookup (a, b) l = some r ∨ (a ≤ E.length ∧ b ≤ E.length ∧ r = rel leq (E ++ [e]) a b) := by
  rw [alookup_ainsert] at hl
  split at hl
  · rename_i hab; cases hab; cases hl
    exact Or.inr ⟨Nat.le_refl _, Nat.le_of_lt hi, h2⟩
  · rw [alookup_ainsert] at hl
    split at hl
    · rename_i hab; cases hab; cases hl
      exact Or.inr ⟨Nat.le_of_lt hi, Nat.le_refl _, h1⟩
    · exact Or.inl hl

variable [DecidableEq α]

theorem unpatched_closed {pre : List Nat} {s : St α} (h : PatchInv leq E e cl dr pre s) {i : Nat}
    (hi : i < E.length) (hip : i ∉ pre) {d : Dir} {v : List Nat} (hl : alookup i (s.closed d) = some v)
    (hn : ltD leq d (E ++ [e]) E.length i = false) :
    v.Nodup ∧ ∀ x, x ∈ v ↔ ltD leq d (E ++ [e]) x i = true := by
  obtain ⟨_, h2, _, h4⟩ := h.closedOk d i v hl
  exact ⟨h2, closed_ext_old hi (h4 hi hip) hn⟩

variable (hpo' : IdxPO leq (E ++ [e]))
include hpo'

theorem unpatched_direct {pre : List Nat} {s : St α} (h : PatchInv leq E e cl dr pre s) {i : Nat}
    (hi : i < E.length) (hip : i ∉ pre) {d : Dir} {v : List Nat} (hl : alookup i (s.direct d) = some v)
    (hn : ltD leq d (E ++ [e]) E.length i = false) :
    v.Nodup ∧ ∀ x, x ∈ v ↔ isCover leq d (E ++ [e]) x i = true := by
  obtain ⟨_, h2, _, h4⟩ := h.directOk d i v hl
  refine ⟨h2, direct_ext_old hpo' hi (h4 hi hip) ?_⟩
  cases hc : isCover leq d.flip (E ++ [e]) i E.length
  · rfl
  · have := (isCover_iff.mp hc).1
    rw [ltD_flip, hn] at this; cases this

variable (hcl : ∀ d, (cl d).Nodup ∧ ∀ x, x ∈ cl d ↔ ltD leq d (E ++ [e]) x E.length = true)
variable (hdr : ∀ d, (dr d).Nodup ∧ ∀ x, x ∈ dr d ↔ isCover leq d (E ++ [e]) x E.length = true)
include hcl hdr

theorem addPatchSide_spec {pre : List Nat} {s : St α} (h : PatchInv leq E e cl dr pre s) {i : Nat}
    (hi : i < E.length) (hip : i ∉ pre) (d : Dir) (hA : ltD leq d (E ++ [e]) i E.length = true) :
    Sat (addPatchSide d E.length i) s (fun s' _ => PatchUpd leq E e i s s') := by
  have hni : E.length ≠ i := Nat.ne_of_gt hi
  have hflip : ltD leq d.flip (E ++ [e]) E.length i = true := by rw [ltD_flip]; exact hA
  have hnot : ltD leq d (E ++ [e]) E.length i = false := by
    cases hh : ltD leq d (E ++ [e]) E.length i
    · rfl
    · exact (ltD_asymm hpo' d hA hh).elim
  obtain ⟨cur, hcur⟩ := Option.isSome_iff_exists.mp (h.closedPres d i (((hcl d).2 i).mpr hA))
  obtain ⟨_, hcurn, _, hcurE⟩ := h.closedOk d.flip i cur hcur
  obtain ⟨hb1, hb2⟩ := rel_new_of_side hpo' hA
  -- the write to the closed cache, the same in both outcomes
  have hclosed : ∀ d', EntryUpd i (ltD leq d' (E ++ [e])) (s.closed d')
      (if d' = d.flip then ainsert i (setUnion cur [E.length]) (s.closed d.flip) else s.closed d') := by
    intro d'
    split
    · rename_i hd; subst hd
      exact .of_ainsert (nodup_setUnion hcurn (by simp))
        (closed_ext_new hi (hcurE hi hip) hflip)
    · rename_i hd
      have := Dir.eq_of_ne_flip hd; subst this
      exact .refl fun v hl => unpatched_closed h hi hip hl hnot
  unfold addPatchSide
  apply sat_bind; apply sat_get
  apply sat_bind; apply sat_lookup hcur
  apply sat_bind; apply sat_modify
  apply sat_bind; apply sat_modify
  apply sat_bind; apply sat_modify
  apply sat_bind; apply sat_get
  apply sat_bind
  apply sat_lookup (v := dr d) (by simp only [direct_withLeq, direct_setClosed]; exact h.directNew d)
  by_cases hid : i ∈ dr d
  · rw [if_pos hid]
    obtain ⟨curDir, hcurDir⟩ := Option.isSome_iff_exists.mp (h.directPres d i hid)
    obtain ⟨_, hcdn, _, hcdE⟩ := h.directOk d.flip i curDir hcurDir
    have hcdE := hcdE hi hip
    apply sat_bind
    apply sat_lookup (v := curDir) (by simp only [direct_withLeq, direct_setClosed]; exact hcurDir)
    apply sat_bind
    apply sat_lookup (v := cl d.flip) (by
      simp only [closed_withLeq, closed_setClosed, alookup_ainsert, if_neg hni]
      exact h.closedNew d.flip)
    apply sat_modify
    refine ⟨by simp only [elems_setDirect, elems_setClosed], by simp only [flag_setDirect, flag_setClosed],
      fun a b r hl => ?_, fun d' => ?_, fun d' => ?_⟩
    · simp only [leqC_setDirect, leqC_setClosed] at hl
      exact leqU_pair hi hb1 hb2 _ a b r hl
    · simp only [closed_setDirect, closed_withLeq, closed_setClosed_any]
      exact hclosed d'
    · simp only [direct_setDirect_any, direct_withLeq, direct_setClosed]
      split
      · rename_i hd; subst hd
        exact .of_ainsert
          (nodup_setUnion (List.pairwise_singleton _ _) (nodup_setDiff hcdn))
          (direct_ext_new hi hcdE (hcl d.flip).2 hflip
            (by rw [Dir.flip_flip]; exact ((hdr d).2 i).mp hid))
      · rename_i hd
        have := Dir.eq_of_ne_flip hd; subst this
        exact .refl fun v hl => unpatched_direct hpo' h hi hip hl hnot
  · rw [if_neg hid]
    apply sat_pure
    have hnc : isCover leq d (E ++ [e]) i E.length = false := by
      cases hh : isCover leq d (E ++ [e]) i E.length
      · rfl
      · exact (hid (((hdr d).2 i).mpr hh)).elim
    refine ⟨by simp only [elems_setClosed], by simp only [flag_setClosed],
      fun a b r hl => ?_, fun d' => ?_, fun d' => ?_⟩
    · simp only [leqC_setClosed] at hl
      exact leqU_pair hi hb1 hb2 _ a b r hl
    · simp only [closed_withLeq, closed_setClosed_any]
      exact hclosed d'
    · simp only [direct_withLeq, direct_setClosed]
      refine .refl fun v hl => ?_
      by_cases hd : d' = d.flip
      · subst hd
        obtain ⟨_, hvn, _, hvE⟩ := h.directOk d.flip i v hl
        exact ⟨hvn, direct_ext_old hpo' hi (hvE hi hip) (by rw [Dir.flip_flip]; exact hnc)⟩
      · have := Dir.eq_of_ne_flip hd; subst this
        exact unpatched_direct hpo' h hi hip hl hnot

theorem addPatch_spec {pre : List Nat} {s : St α} (h : PatchInv leq E e cl dr pre s) {i : Nat}
    (hi : i < E.length) (hip : i ∉ pre) :
    Sat (addPatch E.length i) s (fun s' _ => PatchUpd leq E e i s s') := by
  unfold addPatch
  apply sat_bind; apply sat_get
  apply sat_bind
  apply sat_lookup (v := cl .desc) (h.closedNew .desc)
  by_cases h1 : i ∈ cl .desc
  · rw [if_pos h1]
    exact addPatchSide_spec hpo' hcl hdr h hi hip .desc (((hcl .desc).2 i).mp h1)
  · rw [if_neg h1]
    apply sat_bind
    apply sat_lookup (v := cl .anc) (h.closedNew .anc)
    by_cases h2 : i ∈ cl .anc
    · rw [if_pos h2]
      exact addPatchSide_spec hpo' hcl hdr h hi hip .anc (((hcl .anc).2 i).mp h2)
    · rw [if_neg h2]
      have hd : ltD leq .desc (E ++ [e]) i E.length = false := by
        cases hh : ltD leq .desc (E ++ [e]) i E.length
        · rfl
        · exact (h1 (((hcl .desc).2 i).mpr hh)).elim
      have ha : ltD leq .anc (E ++ [e]) i E.length = false := by
        cases hh : ltD leq .anc (E ++ [e]) i E.length
        · rfl
        · exact (h2 (((hcl .anc).2 i).mpr hh)).elim
      obtain ⟨hb1, hb2⟩ := rel_new_of_neither hi hd ha
      have hside : ∀ d, ltD leq d (E ++ [e]) E.length i = false := by
        intro d
        cases d
        · exact (ltD_flip (leq := leq) .anc (E ++ [e]) E.length i).trans ha
        · exact (ltD_flip (leq := leq) .desc (E ++ [e]) E.length i).trans hd
      apply sat_bind; apply sat_modify
      apply sat_modify
      refine ⟨rfl, rfl, fun a b r hl => ?_, fun d => ?_, fun d => ?_⟩
      · exact leqU_pair hi hb1 hb2 _ a b r hl
      · simp only [closed_withLeq]
        exact .refl fun v hl => unpatched_closed h hi hip hl (hside d)
      · simp only [direct_withLeq]
        exact .refl fun v hl => unpatched_direct hpo' h hi hip hl (hside d)

theorem addPatchLoop_spec {s : St α} (h : PatchInv leq E e cl dr [] s) :
    Sat (M.forM (addPatch E.length) (List.range E.length)) s
      (fun s' _ => PatchInv leq E e cl dr (List.range E.length) s') := by
  apply sat_forM_split (fun pre s' => PatchInv leq E e cl dr pre s') _ _ ?_ s h
  intro pre i post s1 hsplit h1
  have hi : i < E.length := List.mem_range.mp (by rw [hsplit]; simp)
  have hip : i ∉ pre := by
    have hn : (List.range E.length).Nodup := List.nodup_range
    rw [hsplit] at hn
    exact fun hp => (List.nodup_append.mp hn).2.2 i hp i List.mem_cons_self rfl
  exact sat_mono (addPatch_spec hpo' hcl hdr h1 hi hip) fun s' _ u => patchInv_update hi h1 u

end
end Weak

section
variable {α : Type} {leq : α → α → Bool} {E : List α} {e : α} {cl dr : Dir → List Nat}

theorem PatchInv.ofWeak {pre : List Nat} {s : St α} (h : Weak.PatchInv leq E e cl dr pre s)
    (hp : ∀ d k, k < E.length → (alookup k (s.closed d)).isSome = true) : PatchInv leq E e cl dr pre s :=
  ⟨h.elems, h.flag, h.leqOk, h.closedOk, h.directOk, hp, h.directPres, h.closedNew, h.directNew⟩

end
end Fca.Poset
