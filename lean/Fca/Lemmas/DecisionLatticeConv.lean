/-
  `from_decision_tree` (`fromDecisionTree`): a node's concept has the rows through the node as extent (`EF`), so the
  root is the only top and the appended empty concept the only bottom, and the conversion of a well-formed tree
  fitted on the context does not raise.
-/
import Fca.Lemmas.DecisionLatticeParse
import Fca.Lemmas.SharedLoops
namespace Fca.DL

theorem extensionI_single (X : Rows) (m : Nat) (f : Int) (d : Descr) (base : List Nat)
    (h0 : 0 ≤ f) (h1 : f < (m : Int)) :
    extensionI X m [(f, d)] (some base) = .ok (base.filter fun g => d.sat (cell X g f.toNat)) := by
  cases base with
  | nil => rfl
  | cons b bs =>
    simp only [extensionI, extLoop, pyIdx_ok h0 h1, extPS]
    exact ite_self _

theorem extLoop_spec (X : Rows) (m : Nat) (P : Prem) (e : List Nat) (hok : ∀ jd ∈ P, entryOK m jd) :
    extLoop X m P e = .ok (e.filter fun g => premSat P (X.getD g [])) :=
  narrowLoop_eq (fun jd g => jd.2.sat (cell X g jd.1.toNat)) .ok (extLoop X m) (fun _ => rfl) P
    (fun ⟨j, d⟩ hjd rest ext => by
      simp only [extLoop, pyIdx_ok (hok _ hjd).1 (hok _ hjd).2, List.isEmpty_iff_length_eq_zero, extPS]) e

theorem extLoop_sublist (X : Rows) (m : Nat) :
    ∀ (p : Prem) (e e' : List Nat), extLoop X m p e = .ok e' → e'.Sublist e
  | [], e, e', h => by cases h; exact List.Sublist.refl _
  | (j, d) :: rest, e, e', h => by
    simp only [extLoop] at h
    split at h
    · cases h
    · rename_i jj _
      have hs : (extPS X jj d e).Sublist e := List.filter_sublist
      split at h
      · cases h; exact hs
      · exact (extLoop_sublist X m rest _ _ h).trans hs

theorem conceptFromDescr_sublist {X : Rows} {m : Nat} {p : Prem} {c : Concept}
    (h : conceptFromDescr X m p = .ok c) : c.extent.Sublist (List.range (nObjects X)) := by
  unfold conceptFromDescr at h
  split at h
  · cases h
  · rename_i ext hext
    cases h
    exact extLoop_sublist X m p _ _ hext

theorem conceptFromDescr_nil {X : Rows} {m : Nat} {c : Concept}
    (h : conceptFromDescr X m [] = .ok c) : c.extent = List.range (nObjects X) := by
  cases h
  rfl

theorem conceptsFrom_cons {X : Rows} {m : Nat} {p : Prem} {ps : List Prem} {cs : List Concept}
    (h : conceptsFrom X m (p :: ps) = .ok cs) :
    ∃ c cs', cs = c :: cs' ∧ conceptFromDescr X m p = .ok c ∧ conceptsFrom X m ps = .ok cs' := by
  simp only [conceptsFrom] at h
  split at h
  · cases h
  · rename_i c hc
    split at h
    · cases h
    · rename_i cs' hcs'
      cases h
      exact ⟨c, cs', rfl, hc, hcs'⟩

theorem conceptsFrom_inv (X : Rows) (m : Nat) :
    ∀ (ps : List Prem) (cs : List Concept), conceptsFrom X m ps = .ok cs →
      cs.length = ps.length ∧ ∀ c ∈ cs, c.extent.Sublist (List.range (nObjects X))
  | [], cs, h => by cases h; exact ⟨rfl, fun _ h => (List.not_mem_nil h).elim⟩
  | p :: ps, cs, h => by
    obtain ⟨c, cs', rfl, hc, hcs'⟩ := conceptsFrom_cons h
    obtain ⟨e1, e2⟩ := conceptsFrom_inv X m ps cs' hcs'
    refine ⟨congrArg (· + 1) e1, fun c' hc' => ?_⟩
    rcases List.mem_cons.mp hc' with rfl | hc'
    · exact conceptFromDescr_sublist hc
    · exact e2 c' hc'

def extOfPrem (X : Rows) (P : Prem) : List Nat :=
  (List.range (nObjects X)).filter fun g => premSat P (X.getD g [])

def conceptOfPrem (X : Rows) (m : Nat) (P : Prem) : Concept :=
  ⟨extOfPrem X P, intentionI X m (extOfPrem X P)⟩

theorem conceptsFrom_ok (X : Rows) (m : Nat) : ∀ ps : List Prem, (∀ P ∈ ps, ∀ jd ∈ P, entryOK m jd) →
    conceptsFrom X m ps = .ok (ps.map (conceptOfPrem X m))
  | [], _ => rfl
  | P :: ps, h => by
    simp only [conceptsFrom, conceptFromDescr, extensionI, extLoop_spec X m P _ (h P List.mem_cons_self),
      conceptsFrom_ok X m ps fun P' hP' => h P' (List.mem_cons_of_mem _ hP')]
    rfl

def EF (t : Tree) (X : Rows) (k : Nat) : List Nat :=
  (List.range (nObjects X)).filter fun g => (pathFrom t (X.getD g []) t.n 0).contains k

section
variable {t : Tree} {X : Rows} {m : Nat} {nxt : Rat → Rat}

theorem mem_EF {k g : Nat} : g ∈ EF t X k ↔ g < nObjects X ∧ k ∈ pathFrom t (X.getD g []) t.n 0 := by
  simp [EF]

theorem EF_zero (t : Tree) (X : Rows) : EF t X 0 = List.range (nObjects X) :=
  List.filter_eq_self.mpr fun _ _ => List.contains_iff_mem.mpr (self_mem_pathFrom t _ t.n 0)

theorem EF_step (hwf : wellFormed t X m nxt = true) {k p : Nat} (hp : parentOf t k = some p) :
    EF t X k = (EF t X p).filter fun g => child t (X.getD g []) p == some k := by
  rw [EF, EF, List.filter_filter]
  exact List.filter_congr fun _ _ => path_contains_step hwf hp _

/-- a non-root node has a sibling, and the rows that reach the sibling do not reach the node -/
theorem EF_strict (hwf : wellFormed t X m nxt = true) (hfit : fitted t X = true) {j : Nat} (hj0 : 0 < j)
    (hjn : j < t.n) : (EF t X j).length < nObjects X := by
  obtain ⟨p, hp⟩ := parents_exist hwf hj0 hjn
  obtain ⟨l, r, f, thr, h, hkc⟩ := node_of_parent hwf hp
  obtain ⟨s, hs, hsn, hsj⟩ : ∃ s, parentOf t s = some p ∧ s < t.n ∧ s ≠ j := by
    rcases hkc with rfl | rfl
    · exact ⟨r.toNat, h.parent_right, h.right_lt, h.ne.symm⟩
    · exact ⟨l.toNat, h.parent_left, h.left_lt, h.ne⟩
  obtain ⟨g, hg, hgs⟩ := fitted_witness hfit hsn
  have hgs' : g ∈ EF t X s := mem_EF.mpr ⟨hg, hgs⟩
  rw [EF_step hwf hs, List.mem_filter, beq_iff_eq] at hgs'
  have hlt : (EF t X j).length < (List.range (nObjects X)).length := by
    rw [EF, List.length_filter_lt_length_iff_exists]
    refine ⟨g, List.mem_range.mpr hg, fun hc => ?_⟩
    have hgj : g ∈ EF t X j := mem_EF.mpr ⟨hg, List.contains_iff_mem.mp hc⟩
    rw [EF_step hwf hp, List.mem_filter, beq_iff_eq] at hgj
    exact hsj (Option.some.inj (hgs'.2.symm.trans hgj.2))
  rwa [List.length_range] at hlt

end

theorem Concept.le_eq_false {a b : Concept} (h : b.support < a.support) : a.le b = false := by
  rw [Concept.le, decide_eq_true h]
  rfl

theorem Concept.le_of_sublist {a b : Concept} (h : a.extent.Sublist b.extent) : a.le b = true := by
  simp only [Concept.le, Concept.support, Bool.and_eq_true, Bool.not_eq_true', List.all_eq_true,
    List.contains_eq_mem, decide_eq_true_eq]
  exact ⟨decide_eq_false (Nat.not_lt.mpr h.length_le), fun g hg => h.subset hg⟩

theorem top_eq_zero {cs : List Concept} {nObj i : Nat} (h0 : (cs.getD 0 default).extent = List.range nObj)
    (hsub : ∀ c ∈ cs, c.extent.Sublist (List.range nObj)) (hi : i ∈ topsByLeq cs) : i = 0 := by
  obtain ⟨hlt, hall⟩ := List.mem_filter.mp hi
  rw [List.mem_range] at hlt
  have h1 := List.all_eq_true.mp hall 0 (List.mem_range.mpr (Nat.zero_lt_of_lt hlt))
  rw [Concept.le_of_sublist (h0.symm ▸ hsub _ (ListAux.getD_mem _ _ _ hlt)), Bool.not_true, Bool.or_false,
    beq_iff_eq] at h1
  exact h1.symm

theorem topsByLeq_eq {c0 : Concept} {rest : List Concept} {nObj : Nat} (h0 : c0.extent = List.range nObj)
    (hrest : ∀ c ∈ rest, c.extent.Sublist (List.range nObj) ∧ c.extent.length < nObj) :
    topsByLeq (c0 :: rest) = [0] := by
  refine ListAux.eq_singleton_of_nodup (List.nodup_range.filter _) fun i =>
    ⟨top_eq_zero (cs := c0 :: rest) h0 fun c hc => ?_, ?_⟩
  · rcases List.mem_cons.mp hc with rfl | hc
    · exact h0 ▸ List.Sublist.refl _
    · exact (hrest c hc).1
  · rintro rfl
    refine List.mem_filter.mpr ⟨List.mem_range.mpr (Nat.succ_pos _), List.all_eq_true.mpr fun j hj => ?_⟩
    cases j with
    | zero => rfl
    | succ j =>
      have hlt : j < rest.length := Nat.lt_of_succ_lt_succ (List.mem_range.mp hj)
      have hle : c0.le (rest.getD j default) = false := Concept.le_eq_false (by
        rw [Concept.support, Concept.support, h0, List.length_range]
        exact (hrest _ (ListAux.getD_mem _ _ _ hlt)).2)
      exact (congrArg (fun b => (j + 1 == 0 || !b)) hle).trans (Bool.or_true _)

theorem bottomsByLeq_last (cs : List Concept) (b : Concept) (hb : b.extent = [])
    (hne : ∀ c ∈ cs, c.extent ≠ []) : bottomsByLeq (cs ++ [b]) = [cs.length] := by
  have hlast : (cs ++ [b]).getD cs.length default = b := by
    rw [List.getD_eq_getElem?_getD, List.getElem?_concat_length]
    rfl
  have hlen : cs.length ∈ List.range (cs ++ [b]).length :=
    List.mem_range.mpr (List.length_append ▸ Nat.lt_succ_self _)
  refine ListAux.eq_singleton_of_nodup (List.nodup_range.filter _) fun i => ⟨fun hi => ?_, ?_⟩
  · have h1 := List.all_eq_true.mp (List.mem_filter.mp hi).2 cs.length hlen
    rw [hlast, Concept.le_of_sublist (hb ▸ List.nil_sublist _), Bool.not_true, Bool.or_false, beq_iff_eq] at h1
    exact h1.symm
  · rintro rfl
    refine List.mem_filter.mpr ⟨hlen, List.all_eq_true.mpr fun j hj => ?_⟩
    by_cases hjl : j = cs.length
    · rw [hjl, beq_iff_eq.mpr rfl]
      rfl
    · have hj' : j < cs.length := by
        rw [List.mem_range, List.length_append] at hj
        exact Nat.lt_of_le_of_ne (Nat.le_of_lt_succ hj) hjl
      have hmem : (cs ++ [b]).getD j default ∈ cs := by
        rw [ListAux.getD_append_left _ _ _ _ hj']
        exact ListAux.getD_mem _ _ _ hj'
      rw [hlast, Concept.le_eq_false]
      · exact Bool.or_true _
      · rw [Concept.support, hb]
        exact List.length_pos_iff.mpr (hne _ hmem)

/-- the bottom completion of `from_decision_tree`: with more than one childless node the concept of
    `context.intention_i([])` is appended and is the only bottom element -/
def completeBottom (X : Rows) (m : Nat) (dparents : List (Option Nat)) (cs : List Concept) :
    Except PyErr (List Concept × List Nat) :=
  if (bottomsByChildren dparents cs.length).length > 1 then
    match conceptFromDescr X m ((List.range m).map fun (j : Nat) => ((j : Int), Descr.none)) with
    | .error e => .error e
    | .ok b => .ok (cs ++ [b], [cs.length])
  else .ok (cs, bottomsByChildren dparents cs.length)

theorem completeBottom_inv {X : Rows} {m : Nat} {dparents : List (Option Nat)} {cs cs' : List Concept}
    {bs : List Nat} (h : completeBottom X m dparents cs = .ok (cs', bs)) :
    ∃ ex, cs' = cs ++ ex ∧ ∀ c ∈ ex, c.extent.Sublist (List.range (nObjects X)) := by
  unfold completeBottom at h
  split at h
  · split at h
    · cases h
    · rename_i b hb
      cases h
      exact ⟨[b], rfl, fun c hc => List.mem_singleton.mp hc ▸ conceptFromDescr_sublist hb⟩
  · cases h
    exact ⟨[], (List.append_nil _).symm, fun _ hc => (List.not_mem_nil hc).elim⟩

section
variable {t : Tree} {X : Rows} {m : Nat} {nxt : Rat → Rat}

theorem fromDecisionTree_ok_iff {L : DLat} :
    fromDecisionTree t X m nxt = .ok L ↔ ∃ r cs cs' b top bot,
      parse t m nxt = .ok r ∧ conceptsFrom X m r.premises = .ok cs ∧
      completeBottom X m r.dparents cs = .ok (cs', [b]) ∧ topsByLeq cs' = [top] ∧ bottomsByLeq cs' = [bot] ∧
      L = ⟨⟨cs', top, mkGens r.dparents r.dprems⟩, mkDecisions 0 r.dparents r.dprems r.dtargets⟩ := by
  unfold fromDecisionTree
  constructor
  · intro h
    split at h
    · cases h
    · rename_i r hr
      split at h
      · cases h
      · rename_i cs hcs
        simp only at h
        split at h
        · cases h
        · rename_i cs' bs hcomp
          split at h
          · cases h
          · rename_i hbs
            obtain ⟨b, rfl⟩ := List.length_eq_one_iff.mp (Decidable.not_not.mp hbs)
            split at h
            · rename_i top bot htops hbots
              cases h
              exact ⟨r, cs, cs', b, top, bot, hr, hcs, hcomp, htops, hbots, rfl⟩
            · cases h
  · rintro ⟨r, cs, cs', b, top, bot, hr, hcs, hcomp, htops, hbots, rfl⟩
    simp only [hr, hcs]
    split
    · rename_i heq
      cases hcomp.symm.trans heq
    · rename_i heq
      cases hcomp.symm.trans heq
      simp only [htops, hbots, List.length_singleton, ne_eq, not_true_eq_false, if_false]

theorem fromDecisionTree_inv {L : DLat} (hn : 0 < t.n) (h : fromDecisionTree t X m nxt = .ok L) :
    ∃ r, parse t m nxt = .ok r ∧ L.lat.gens = mkGens r.dparents r.dprems ∧
      L.decisions = mkDecisions 0 r.dparents r.dprems r.dtargets ∧ L.lat.top = 0 ∧
      t.n ≤ L.lat.concepts.length := by
  obtain ⟨r, cs, cs', b, top, bot, hr, hcs, hcomp, htops, _, rfl⟩ := fromDecisionTree_ok_iff.mp h
  obtain ⟨ex, rfl, hex⟩ := completeBottom_inv hcomp
  obtain ⟨_, _, _, tl, hprem, htl⟩ := parse_inv hn hr
  rw [hprem] at hcs
  obtain ⟨c0, cs', rfl, hc0, hcs'⟩ := conceptsFrom_cons hcs
  obtain ⟨hlen, hsub⟩ := conceptsFrom_inv X m _ _ hcs
  refine ⟨r, hr, rfl, rfl, ?_, ?_⟩
  · refine top_eq_zero (conceptFromDescr_nil hc0) (fun c hc => ?_) (htops ▸ List.mem_singleton.mpr rfl)
    exact (List.mem_append.mp hc).elim (hsub c) (hex c)
  · show t.n ≤ (c0 :: cs' ++ ex).length
    rw [List.length_append, hlen, List.length_cons, htl]
    exact Nat.le_add_right _ _

theorem bottomConcept_ok (X : Rows) : ∀ {m : Nat}, 0 < m →
    conceptFromDescr X m ((List.range m).map fun (j : Nat) => ((j : Int), Descr.none))
      = .ok ⟨[], intentionI X m []⟩
  | m + 1, _ => by
    have hpy : pyIdx (m + 1) ((0 : Nat) : Int) = .ok 0 :=
      pyIdx_ok (Int.le_refl 0) (Int.natCast_pos.mpr (Nat.succ_pos m))
    have hfil : extPS X 0 Descr.none (List.range (nObjects X)) = [] :=
      List.filter_eq_nil_iff.mpr fun _ _ => Bool.false_ne_true
    simp only [List.range_succ_eq_map, List.map_cons, conceptFromDescr, extensionI, extLoop, hpy, hfil,
      List.isEmpty_nil, if_true]

theorem leaf_mem_bottoms (hwf : wellFormed t X m nxt = true) {a : Nat} (ha : a < t.n)
    (hleaf : t.left[a]? = some (-1)) : a ∈ bottomsByChildren (none :: (nodes1 t).map (parentOf t)) t.n := by
  rw [bottomsByChildren, List.mem_filter, List.mem_range]
  refine ⟨ha, ?_⟩
  simp only [Bool.not_eq_true', List.contains_eq_mem, decide_eq_false_iff_not, List.mem_cons, List.mem_map,
    reduceCtorEq, false_or]
  rintro ⟨k, _, hk⟩
  obtain ⟨l, _, _, _, h, _⟩ := node_of_parent hwf hk
  have hlt := h.lt_left
  rw [← Option.some.inj (hleaf.symm.trans h.left)] at hlt
  exact Nat.not_lt_zero _ hlt

theorem length_gt_one_of_two {l : List Nat} {a b : Nat} (ha : a ∈ l) (hb : b ∈ l) (hab : a ≠ b) :
    1 < l.length := by
  match l, ha, hb with
  | [x], ha, hb => exact absurd ((List.mem_singleton.mp ha).trans (List.mem_singleton.mp hb).symm) hab
  | x :: y :: rest, _, _ => exact Nat.le_add_left 2 rest.length

theorem node_concepts (hwf : wellFormed t X m nxt = true) (hfit : fitted t X = true) :
    ∃ r cs, parse t m nxt = .ok r ∧ conceptsFrom X m r.premises = .ok cs ∧
      cs.map Concept.extent = (List.range t.n).map (EF t X) := by
  obtain ⟨r, hr, hplen, hprem⟩ := parse_ok hwf hfit
  refine ⟨r, _, hr, conceptsFrom_ok X m r.premises ?_, List.ext_getElem ?_ fun j h1 h2 => ?_⟩
  · intro P hP
    obtain ⟨j, hj, rfl⟩ := List.mem_iff_getElem.mp hP
    exact (hprem j hj).1.1
  · rw [List.length_map, List.length_map, List.length_map, List.length_range, hplen]
  · rw [List.getElem_map, List.getElem_map, List.getElem_map, List.getElem_range]
    exact List.filter_congr fun _ hg => (hprem j _).2 _ (ListAux.getD_mem X _ [] (List.mem_range.mp hg))

theorem conversion_ok (hwf : wellFormed t X m nxt = true) (hfit : fitted t X = true) :
    ∃ L, fromDecisionTree t X m nxt = .ok L := by
  have hn := wf_pos hwf
  obtain ⟨r, cs, hr, hcs, hext⟩ := node_concepts hwf hfit
  obtain ⟨hdp, _⟩ := parse_inv hn hr
  have hclen : cs.length = t.n := by
    rw [← List.length_map (f := Concept.extent), hext, List.length_map, List.length_range]
  -- the root concept holds every object, the concept of a node `j > 0` the node's extent
  rw [range_eq_cons_nodes1 hn] at hext
  obtain ⟨c0, rest, rfl⟩ : ∃ c0 rest, cs = c0 :: rest := by
    cases cs with
    | nil => cases hext
    | cons c0 rest => exact ⟨c0, rest, rfl⟩
  obtain ⟨hc0, hrest⟩ := List.cons.inj hext
  rw [EF_zero] at hc0
  have hmem : ∀ c ∈ rest, ∃ j, 0 < j ∧ j < t.n ∧ c.extent = EF t X j := by
    intro c hc
    obtain ⟨j, hj, e⟩ := List.mem_map.mp (hrest ▸ List.mem_map_of_mem (f := Concept.extent) hc)
    exact ⟨j, (mem_nodes1.mp hj).1, (mem_nodes1.mp hj).2, e.symm⟩
  obtain ⟨g0, hg0, _⟩ := fitted_witness hfit hn
  by_cases hone : t.n = 1
  · -- a single node: no completion
    have hcomp : completeBottom X m r.dparents (c0 :: rest) = .ok (c0 :: rest, [0]) := by
      rw [completeBottom, hdp, hclen, nodes1, hone]
      rfl
    obtain rfl : rest = [] := List.eq_nil_of_length_eq_zero (Nat.succ.inj (hclen.trans hone))
    have ht : topsByLeq [c0] = [0] := topsByLeq_eq hc0 fun _ hc => (List.not_mem_nil hc).elim
    exact ⟨_, fromDecisionTree_ok_iff.mpr ⟨r, _, _, _, _, 0, hr, hcs, hcomp, ht, rfl, rfl⟩⟩
  · -- at least two leaves: the bottom concept is added
    obtain ⟨p1, hp1⟩ := parents_exist hwf Nat.one_pos (Nat.lt_of_le_of_ne hn (Ne.symm hone))
    obtain ⟨l, rr, f, thr, h, _⟩ := node_of_parent hwf hp1
    have hm : 0 < m := Int.natCast_pos.mp (Int.lt_of_le_of_lt h.feature_nonneg h.feature_lt)
    obtain ⟨a, b, hab, han, hbn, hla, hlb⟩ := two_leaves hwf t.n p1 (Nat.le_add_right _ _) ⟨l, rr, f, thr, h⟩
    obtain ⟨bot, hbot, hcomp⟩ : ∃ bot : Concept, bot.extent = [] ∧
        completeBottom X m r.dparents (c0 :: rest) = .ok (c0 :: rest ++ [bot], [(c0 :: rest).length]) := by
      refine ⟨⟨[], intentionI X m []⟩, rfl, ?_⟩
      rw [completeBottom, hdp, hclen, if_pos, bottomConcept_ok X hm]
      exact length_gt_one_of_two (leaf_mem_bottoms hwf han hla) (leaf_mem_bottoms hwf hbn hlb) hab
    have ht : topsByLeq (c0 :: rest ++ [bot]) = [0] := by
      refine topsByLeq_eq hc0 fun c hc => ?_
      rcases List.mem_append.mp hc with hc | hc
      · obtain ⟨j, hj0, hjn, e⟩ := hmem c hc
        exact e ▸ ⟨List.filter_sublist, EF_strict hwf hfit hj0 hjn⟩
      · rw [List.mem_singleton.mp hc, hbot]
        exact ⟨List.nil_sublist _, Nat.zero_lt_of_lt hg0⟩
    have hb := bottomsByLeq_last (c0 :: rest) bot hbot (by
      intro c hc
      obtain ⟨j, hj, e⟩ : ∃ j, j < t.n ∧ c.extent = EF t X j := by
        rcases List.mem_cons.mp hc with rfl | hc
        · exact ⟨0, hn, hc0.trans (EF_zero t X).symm⟩
        · obtain ⟨j, _, hjn, e⟩ := hmem c hc
          exact ⟨j, hjn, e⟩
      obtain ⟨g, hg, hgk⟩ := fitted_witness hfit hj
      exact e ▸ List.ne_nil_of_mem (mem_EF.mpr ⟨hg, hgk⟩))
    exact ⟨_, fromDecisionTree_ok_iff.mpr ⟨r, _, _, _, _, _, hr, hcs, hcomp, ht, hb, rfl⟩⟩

end
end Fca.DL
