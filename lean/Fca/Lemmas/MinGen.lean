/-
  Fca.Lemmas.MinGen — the minimal-generator search goes through the completions `D` of the base generator, by
  size, and returns the first non-empty level (`minGenLoop_eq`); level `k` holds generators of size `|bg| + k`
  (`isGen_of_mem_lvl`) and every generator `S` sits in a level as `sorted(bg ++ (S ∖ bg))` (`mem_lvl_of_isGen`).
  Of the many-valued search (`MGMV`): `MVContext.extension_i` is a conjunctive filter, and every generator the
  search stores has passed the `ext_ == ext_true` test.
-/
import Fca.Model.MinGenMV
import Fca.Spec.MinGen
import Fca.Spec.MinGenMV
import Fca.Lemmas.Galois
import Fca.Lemmas.Concept
import Fca.Props.C01
namespace Fca

theorem isCombs_combinations : ListAux.IsCombs combinations :=
  ⟨fun l => by cases l <;> rfl, fun _ => rfl, fun _ _ _ => rfl⟩

theorem mem_combinations {l : List Nat} {k : Nat} {s : List Nat} :
    s ∈ combinations l k ↔ s.Sublist l ∧ s.length = k := isCombs_combinations.mem

theorem nodup_combinations {l : List Nat} (hl : l.Nodup) (k : Nat) : (combinations l k).Nodup := by
  induction l generalizing k with
  | nil => cases k <;> simp [combinations]
  | cons x xs ih =>
    cases k with
    | zero => simp [combinations]
    | succ k =>
      have hx : x ∉ xs := (List.nodup_cons.mp hl).1
      have hxs : xs.Nodup := (List.nodup_cons.mp hl).2
      simp only [combinations]
      rw [List.nodup_append]
      refine ⟨ListAux.nodup_map_of_injOn (ih hxs k) fun _ _ _ _ h => (List.cons.inj h).2, ih hxs _, ?_⟩
      intro a ha b hb hab
      obtain ⟨s', _, rfl⟩ := List.mem_map.mp ha
      subst hab
      exact hx ((mem_combinations.mp hb).1.subset List.mem_cons_self)

theorem lt_of_mem_pre {pre post : List Nat} {k n k' : Nat} (h : List.range n = pre ++ k :: post)
    (hk' : k' ∈ pre) : k' < k := by
  have hsorted : (pre ++ k :: post).Pairwise (· < ·) := h ▸ List.pairwise_lt_range
  exact (List.pairwise_append.mp hsorted).2.2 k' hk' k List.mem_cons_self

theorem mem_setAdd {acc : List (List Nat)} {x s : List Nat} :
    s ∈ setAdd acc x ↔ s ∈ acc ∨ s = x := ListAux.mem_addNew List.contains_iff_mem

theorem nodup_setAdd {acc : List (List Nat)} {x : List Nat} (h : acc.Nodup) : (setAdd acc x).Nodup :=
  ListAux.nodup_addNew List.contains_iff_mem h

/-- the closure test of the loop body -/
def Ctx.genTest (K : Ctx) (intent bg bo c : List Nat) : Bool :=
  mgSetEq (K.intentionI (K.extensionI (bg ++ c) (some bo)) none) intent

theorem minGenLevel_cons (K : Ctx) (intent bg bo c : List Nat) (rest acc : List (List Nat)) :
    K.minGenLevel intent bg bo (c :: rest) acc =
      K.minGenLevel intent bg bo rest
        (if K.genTest intent bg bo c then setAdd acc (pySorted (bg ++ c)) else acc) := rfl

theorem minGenLevel_eq_foldl (K : Ctx) (intent bg bo : List Nat) (cs acc : List (List Nat)) :
    K.minGenLevel intent bg bo cs acc =
      cs.foldl (fun acc c => if K.genTest intent bg bo c then setAdd acc (pySorted (bg ++ c)) else acc) acc := by
  induction cs generalizing acc with
  | nil => rfl
  | cons c rest ih => rw [minGenLevel_cons, List.foldl_cons, ih]

/-- the generators found at level `k` (starting from an empty set) -/
def Ctx.lvl (K : Ctx) (intent bg bo attrs : List Nat) (k : Nat) : List (List Nat) :=
  K.minGenLevel intent bg bo (combinations attrs k) []

theorem mem_lvl (K : Ctx) (intent bg bo attrs : List Nat) (k : Nat) (s : List Nat) :
    s ∈ K.lvl intent bg bo attrs k ↔
      ∃ D, D.Sublist attrs ∧ D.length = k ∧ K.genTest intent bg bo D = true ∧ s = pySorted (bg ++ D) := by
  unfold Ctx.lvl
  rw [minGenLevel_eq_foldl, ListAux.foldl_iff (m := (s ∈ ·))
    (q := fun c => K.genTest intent bg bo c = true ∧ s = pySorted (bg ++ c)) fun acc c => ?_]
  · simp only [List.not_mem_nil, false_or, mem_combinations, and_assoc]
  · split
    · rw [mem_setAdd, and_iff_right ‹_›]
    · exact (or_iff_left fun h => ‹¬ _› h.1).symm

theorem nodup_lvl (K : Ctx) (intent bg bo attrs : List Nat) (k : Nat) : (K.lvl intent bg bo attrs k).Nodup := by
  unfold Ctx.lvl
  rw [minGenLevel_eq_foldl]
  refine ListAux.foldl_inv (fun acc c h => ?_) _ [] List.nodup_nil
  split
  · exact nodup_setAdd h
  · exact h

theorem minGenLoop_cons (K : Ctx) (intent bg bo attrs : List Nat) (k : Nat) (ks : List Nat) :
    K.minGenLoop intent bg bo attrs (k :: ks) [] =
      if (K.lvl intent bg bo attrs k).length > 0 then K.lvl intent bg bo attrs k
      else K.minGenLoop intent bg bo attrs ks (K.lvl intent bg bo attrs k) := rfl

theorem minGenLoop_eq (K : Ctx) (intent bg bo attrs : List Nat) (ks : List Nat) :
    K.minGenLoop intent bg bo attrs ks [] =
      ((ks.find? fun k => !(K.lvl intent bg bo attrs k).isEmpty).map (K.lvl intent bg bo attrs)).getD [] := by
  induction ks with
  | nil => rfl
  | cons k ks ih =>
    rw [minGenLoop_cons, List.find?_cons]
    cases h : K.lvl intent bg bo attrs k with
    | nil => exact ih
    | cons x l => exact (if_pos (Nat.succ_pos _)).trans h.symm

/-- a search by levels: when level `k` holds `P`-things of size `c + k` and every `P`-thing is in one of the levels up to
    `n`, the first non-empty level holds exactly the `P`-things of least size -/
theorem mem_first_level {α : Type} {lvl : Nat → List α} {P : α → Prop} {size : α → Nat} {c n : Nat}
    (h1 : ∀ {k s}, s ∈ lvl k → P s ∧ size s = c + k) (h2 : ∀ {s}, P s → ∃ k ≤ n, s ∈ lvl k) (s : α) :
    s ∈ (((List.range (n + 1)).find? fun k => !(lvl k).isEmpty).map lvl).getD [] ↔
      P s ∧ ∀ s', P s' → size s ≤ size s' := by
  constructor
  · intro hs
    cases hf : (List.range (n + 1)).find? _ with
    | none => rw [hf] at hs; cases hs
    | some k =>
      rw [hf] at hs
      obtain ⟨_, _, hmin⟩ := List.find?_range_eq_some.mp hf
      refine ⟨(h1 hs).1, fun s' hs' => ?_⟩
      obtain ⟨k', _, hk'⟩ := h2 hs'
      rw [(h1 hs).2, (h1 hk').2]
      refine Nat.add_le_add_left (Nat.le_of_not_lt fun hlt => ?_) _
      have := hmin k' hlt
      rw [Bool.not_not, List.isEmpty_iff] at this
      rw [this] at hk'
      cases hk'
  · rintro ⟨hP, hmin⟩
    obtain ⟨k, hk, hin⟩ := h2 hP
    rw [List.find?_range_eq_some.mpr ⟨?_, List.mem_range.mpr (Nat.lt_succ_of_le hk), fun j hj => ?_⟩]
    · exact hin
    · rw [Bool.not_eq_true', List.isEmpty_eq_false_iff_exists_mem]
      exact ⟨s, hin⟩
    · rw [Bool.not_not, List.isEmpty_iff, List.eq_nil_iff_forall_not_mem]
      intro s' hs'
      have := hmin s' (h1 hs').1
      rw [(h1 hin).2, (h1 hs').2] at this
      exact Nat.not_le.mpr hj (Nat.le_of_add_le_add_left this)

theorem nodup_minGenLoop (K : Ctx) (intent bg bo attrs : List Nat) (ks : List Nat) :
    (K.minGenLoop intent bg bo attrs ks []).Nodup := by
  rw [minGenLoop_eq]
  cases ks.find? _ with
  | none => exact List.nodup_nil
  | some k => exact nodup_lvl ..

theorem mgSetEq_iff {a b : List Nat} : mgSetEq a b = true ↔ Spec.SameSet a b := ListAux.all_contains_and_iff a b

theorem mem_attrsToIterate {K : Ctx} {bg : List Nat} {a : Nat} :
    a ∈ K.attrsToIterate bg ↔ a < K.nAttributes ∧ a ∉ bg := by
  simp [Ctx.attrsToIterate, List.mem_filter]

theorem genTest_iff (K : Ctx) (hwf : K.table.WF) (intent : List Nat) {bg bo c : List Nat}
    (hbg : ∀ a ∈ bg, a < K.nAttributes) (hc : c.Sublist (K.attrsToIterate bg))
    (hbo : ∀ g ∈ bo, g < K.nObjects) :
    K.genTest intent bg bo c = true ↔ Spec.SameSet (Spec.clBase K.table bo (bg ++ c)) intent := by
  unfold Ctx.genTest
  have hin : C01.InRange (bg ++ c) K.nAttributes := by
    intro a ha
    rcases List.mem_append.mp ha with h | h
    · exact hbg a h
    · exact (mem_attrsToIterate.mp (hc.subset h)).1
  rw [C01.extension_i_exact K hwf (bg ++ c) (some bo) hin (by intro bs h; cases h; exact hbo)]
  simp only [Option.getD_some]
  have hext : C01.InRange (Spec.ext K.table (bg ++ c) bo) K.nObjects := by
    intro g hg
    exact hbo g ((Spec.mem_ext K.table).mp hg).1
  rw [C01.intention_i_exact K hwf _ none hext (by intro bs h; cases h)]
  rw [mgSetEq_iff]
  rfl

theorem isInsertionSort_pySorted : ListAux.IsInsertionSort (· ≤ ·) mgInsertSorted pySorted :=
  ⟨fun _ => rfl, fun _ _ _ => rfl, rfl, fun _ _ => rfl⟩

theorem pySorted_perm (l : List Nat) : (pySorted l).Perm l := isInsertionSort_pySorted.perm l

theorem pySorted_le (l : List Nat) : (pySorted l).Pairwise (· ≤ ·) :=
  isInsertionSort_pySorted.sorted (fun _ _ => Nat.le_of_not_le) (fun _ _ _ => Nat.le_trans) l

theorem pySorted_congr {a b : List Nat} (h : a.Perm b) : pySorted a = pySorted b :=
  isInsertionSort_pySorted.eq_of_perm (fun _ _ => Nat.le_of_not_le) (fun _ _ _ => Nat.le_trans)
    (fun _ _ => Nat.le_antisymm) h

theorem mem_pySorted {l : List Nat} {a : Nat} : a ∈ pySorted l ↔ a ∈ l := (pySorted_perm l).mem_iff

theorem length_pySorted (l : List Nat) : (pySorted l).length = l.length := (pySorted_perm l).length_eq

theorem pySorted_lt {l : List Nat} (h : l.Nodup) : (pySorted l).Pairwise (· < ·) :=
  ((pySorted_le l).and ((pySorted_perm l).symm.nodup h)).imp fun h' => Nat.lt_of_le_of_ne h'.1 h'.2

theorem pySorted_eq_of_sorted {l s : List Nat} (hl : l.Nodup) (hs : s.Pairwise (· < ·))
    (h : ∀ x, x ∈ l ↔ x ∈ s) : pySorted l = s :=
  ListAux.sorted_ext (pySorted_lt hl) hs (fun x => mem_pySorted.trans (h x))

theorem canon_eq_self {s : List Nat} {m : Nat} (hs : s.Pairwise (· < ·)) (hm : ∀ a ∈ s, a < m) : Spec.canon m s = s :=
  ListAux.sorted_ext (List.Pairwise.filter _ List.pairwise_lt_range) hs (Dual.mem_canon_of_lt hm)

theorem sublist_range_of_sorted {s : List Nat} {m : Nat} (hs : s.Pairwise (· < ·))
    (hm : ∀ a ∈ s, a < m) : s.Sublist (List.range m) :=
  canon_eq_self hs hm ▸ List.filter_sublist

theorem clBase_congr (t : Table) {bo bo' X Y : List Nat} (hb : ∀ g, g ∈ bo ↔ g ∈ bo')
    (h : ∀ a, a ∈ X ↔ a ∈ Y) : Spec.clBase t bo X = Spec.clBase t bo' Y := by
  unfold Spec.clBase
  apply Spec.intAll_eq_of_mem_iff
  intro a _
  simp only [Spec.mem_ext]
  exact ⟨fun H g hg => H g ⟨(hb g).mpr hg.1, fun a ha => hg.2 a ((h a).mp ha)⟩,
    fun H g hg => H g ⟨(hb g).mp hg.1, fun a ha => hg.2 a ((h a).mpr ha)⟩⟩

theorem nodup_append_sublist_attrs {K : Ctx} {bg D : List Nat} (hbg : bg.Nodup)
    (hD : D.Sublist (K.attrsToIterate bg)) : (bg ++ D).Nodup := by
  have hattrs : (K.attrsToIterate bg).Nodup :=
    List.Nodup.sublist List.filter_sublist List.nodup_range
  rw [List.nodup_append]
  refine ⟨hbg, List.Nodup.sublist hD hattrs, ?_⟩
  intro a ha b hb hab
  subst hab
  exact (mem_attrsToIterate.mp (hD.subset hb)).2 ha

theorem isGen_of_mem_lvl (K : Ctx) (hwf : K.table.WF) (intent : List Nat) {bg bo : List Nat} (hbgn : bg.Nodup)
    (hbg : ∀ a ∈ bg, a < K.nAttributes) (hbo : ∀ g ∈ bo, g < K.nObjects) {k : Nat} {S : List Nat}
    (h : S ∈ K.lvl intent bg bo (K.attrsToIterate bg) k) :
    Spec.IsGen K.table intent bg bo S ∧ S.length = bg.length + k := by
  obtain ⟨D, hD, rfl, hT, rfl⟩ := (mem_lvl ..).mp h
  refine ⟨⟨pySorted_lt (nodup_append_sublist_attrs hbgn hD), fun a ha => ?_,
    fun a ha => mem_pySorted.mpr (List.mem_append_left _ ha), ?_⟩, ?_⟩
  · rcases List.mem_append.mp (mem_pySorted.mp ha) with h | h
    · exact hbg a h
    · exact (mem_attrsToIterate.mp (hD.subset h)).1
  · rw [clBase_congr K.table (fun _ => Iff.rfl) (fun a => mem_pySorted)]
    exact (genTest_iff K hwf intent hbg hD hbo).mp hT
  · rw [length_pySorted, List.length_append]

theorem mem_lvl_of_isGen (K : Ctx) (hwf : K.table.WF) (intent : List Nat) {bg bo : List Nat} (hbgn : bg.Nodup)
    (hbo : ∀ g ∈ bo, g < K.nObjects) {S : List Nat}
    (h : Spec.IsGen K.table intent bg bo S) :
    ∃ k ≤ (K.attrsToIterate bg).length, S ∈ K.lvl intent bg bo (K.attrsToIterate bg) k := by
  obtain ⟨hs, hm, hsub, hcl⟩ := h
  have hD : (S.filter fun a => !(bg.contains a)).Sublist (K.attrsToIterate bg) :=
    (sublist_range_of_sorted hs hm).filter _
  have hmem : ∀ x, x ∈ bg ++ S.filter (fun a => !(bg.contains a)) ↔ x ∈ S := by
    intro x
    simp only [List.mem_append, List.mem_filter, Bool.not_eq_true', List.contains_eq_mem,
      decide_eq_false_iff_not]
    constructor
    · rintro (h | h)
      · exact hsub x h
      · exact h.1
    · intro h
      by_cases hx : x ∈ bg
      · exact Or.inl hx
      · exact Or.inr ⟨h, hx⟩
  refine ⟨_, hD.length_le, (mem_lvl ..).mpr ⟨_, hD, rfl, (genTest_iff K hwf intent (fun a ha => hm a (hsub a ha)) hD hbo).mpr ?_,
    (pySorted_eq_of_sorted (nodup_append_sublist_attrs hbgn hD) hs hmem).symm⟩⟩
  rw [clBase_congr K.table (fun _ => Iff.rfl) hmem]
  exact hcl

theorem minGenLoop_congr (K : Ctx) (intent bg bo intent' bg' bo' attrs : List Nat) (ks : List Nat)
    (hT : ∀ c, c.Sublist attrs → K.genTest intent bg bo c = K.genTest intent' bg' bo' c)
    (hS : ∀ c, c.Sublist attrs → pySorted (bg ++ c) = pySorted (bg' ++ c)) :
    K.minGenLoop intent bg bo attrs ks [] = K.minGenLoop intent' bg' bo' attrs ks [] := by
  have : K.lvl intent bg bo attrs = K.lvl intent' bg' bo' attrs := funext fun k => by
    unfold Ctx.lvl
    rw [minGenLevel_eq_foldl, minGenLevel_eq_foldl]
    refine List.foldl_rel (r := Eq) rfl fun c hc acc _ e => ?_
    rw [e, hT c (mem_combinations.mp hc).1, hS c (mem_combinations.mp hc).1]
  rw [minGenLoop_eq, minGenLoop_eq, this]

theorem getMinimalGeneratorsI_some (K : Ctx) (I G O : List Nat) :
    K.getMinimalGeneratorsI I (some G) (some O) =
      .ok (K.minGenLoop I G O (K.attrsToIterate G) (List.range ((K.attrsToIterate G).length + 1)) []) := rfl

theorem idxOfNamesIn_map (names : List String) (hnd : names.Nodup) (I : List Nat)
    (hI : ∀ i ∈ I, i < names.length) :
    Ctx.idxOfNamesIn names (I.map fun i => names.getD i "") = Spec.canon names.length I := by
  unfold Ctx.idxOfNamesIn Spec.canon
  refine List.filter_congr fun i hi => ?_
  simp only [List.contains_eq_mem, getD_mem_names_iff hnd hI (List.mem_range.mp hi)]

theorem idxOfNamesIn_congr (names : List String) {sel sel' : List String} (h : ∀ x ∈ names, x ∈ sel ↔ x ∈ sel') :
    Ctx.idxOfNamesIn names sel = Ctx.idxOfNamesIn names sel' := by
  unfold Ctx.idxOfNamesIn
  refine List.filter_congr fun i hi => ?_
  simp only [List.contains_eq_mem, h _ (ListAux.getD_mem names i "" (List.mem_range.mp hi))]

theorem canon_range (n : Nat) : Spec.canon n (List.range n) = List.range n :=
  canon_eq_self List.pairwise_lt_range fun _ => List.mem_range.mp

theorem sameSetB_iff {a b : List Nat} : Spec.sameSetB a b = true ↔ Spec.SameSet a b := mgSetEq_iff

theorem mem_genCands {t : Table} {intent bg bo S : List Nat} :
    S ∈ Spec.genCands t intent bg bo ↔ Spec.IsGen t intent bg bo S := by
  unfold Spec.genCands Spec.IsGen
  rw [List.mem_filter, Spec.mem_sublists_iff, Bool.and_eq_true, sameSetB_iff]
  simp only [List.all_eq_true, List.contains_eq_mem, decide_eq_true_eq]
  constructor
  · rintro ⟨hsub, hbg, hcl⟩
    refine ⟨List.Pairwise.sublist hsub List.pairwise_lt_range, ?_, hbg, hcl⟩
    intro a ha
    exact List.mem_range.mp (hsub.subset ha)
  · rintro ⟨hs, hm, hbg, hcl⟩
    exact ⟨sublist_range_of_sorted hs hm, hbg, hcl⟩

theorem mem_minGensSpec {t : Table} {intent bg bo S : List Nat} :
    S ∈ Spec.minGensSpec t intent bg bo ↔ Spec.IsMinGen t intent bg bo S := by
  unfold Spec.minGensSpec Spec.IsMinGen
  simp only [List.mem_filter, List.all_eq_true, decide_eq_true_eq, mem_genCands]

theorem nodup_sublists {l : List Nat} (h : l.Nodup) : (Spec.sublists l).Nodup := by
  induction l with
  | nil => simp [Spec.sublists]
  | cons x xs ih =>
    have hx : x ∉ xs := (List.nodup_cons.mp h).1
    have hxs := ih (List.nodup_cons.mp h).2
    simp only [Spec.sublists]
    rw [List.nodup_append]
    refine ⟨hxs, ListAux.nodup_map_of_injOn hxs fun _ _ _ _ h => (List.cons.inj h).2, ?_⟩
    intro a ha b hb hab
    obtain ⟨s', _, rfl⟩ := List.mem_map.mp hb
    subst hab
    exact hx ((Spec.mem_sublists_iff.mp ha).subset List.mem_cons_self)

theorem nodup_minGensSpec (t : Table) (intent bg bo : List Nat) :
    (Spec.minGensSpec t intent bg bo).Nodup := by
  unfold Spec.minGensSpec Spec.genCands
  exact List.Nodup.sublist List.filter_sublist
    (List.Nodup.sublist List.filter_sublist (nodup_sublists List.nodup_range))

namespace MGMV

theorem psExtensionI_eq (col : Col) (d : Descr) (base : List Nat) :
    psExtensionI col d base = base.filter fun g => sat col d g := by
  cases d with
  | none =>
    simp only [psExtensionI]
    symm
    apply List.filter_eq_nil_iff.mpr
    intro g _
    simp [sat, Descr.bounds]
  | iv lo hi => rfl
  | num x => rfl

theorem extLoop_eq (cols : List Col) (descr : List (Nat × Descr)) (extent : List Nat) :
    extLoop cols descr extent = extSpec cols descr extent :=
  narrowLoop_eq (fun p => sat (cols.getD p.1 []) p.2) id (extLoop cols) (fun _ => rfl) descr
    (fun ⟨ps, d⟩ _ rest ext => by simp only [extLoop, psExtensionI_eq, id]) extent

def Good (cols : List Col) (n : Nat) (bo extTrue : List Nat) (mg : List DescrD) : Prop :=
  ∀ d ∈ mg, extensionI cols n d (some bo) = extTrue

theorem mem_setAddD {s : List DescrD} {x d : DescrD} (h : d ∈ setAddD s x) : d ∈ s ∨ d = x :=
  (ListAux.mem_addNew List.contains_iff_mem).mp h

theorem combLoop_good (cols : List Col) (n : Nat) (baseGen : List PGen) (bo extTrue : List Nat)
    (combSize : Nat) (cs : List (List PGen)) (st st' : St)
    (h : combLoop cols n baseGen bo extTrue combSize cs st = .ok st')
    (hg : Good cols n bo extTrue st.minGens) : Good cols n bo extTrue st'.minGens := by
  induction cs generalizing st with
  | nil => simp only [combLoop] at h; cases h; exact hg
  | cons c rest ih =>
    simp only [combLoop] at h
    split at h
    · cases h
    · rename_i descr hd
      refine ih _ h ?_
      simp only
      split
      · rename_i heq
        intro d hdm
        rcases mem_setAddD hdm with h1 | rfl
        · exact hg d h1
        · exact heq
      · exact hg

theorem sizeLoop_good (cols : List Col) (n : Nat) (baseGen : List PGen) (bo extTrue : List Nat)
    (sizes : List Nat) (gens : List PGen) (st st' : St)
    (h : sizeLoop cols n baseGen bo extTrue sizes gens st = .ok st')
    (hg : Good cols n bo extTrue st.minGens) : Good cols n bo extTrue st'.minGens := by
  induction sizes generalizing gens st with
  | nil => simp only [sizeLoop] at h; cases h; exact hg
  | cons k ks ih =>
    simp only [sizeLoop] at h
    split at h
    · cases h
    · rename_i st1 h1
      have hg1 := combLoop_good _ _ _ _ _ _ _ _ _ h1 hg
      split at h
      · cases h
      · split at h
        · cases h; exact hg1
        · exact ih _ _ h hg1

theorem whileLoop_good (cols : List Col) (n : Nat) (intent : List Descr) (psIter : List Nat) (baseGen : List PGen)
    (bo extTrue : List Nat) (fuel maxProj : Nat) (mg R : List DescrD)
    (h : whileLoop cols n intent psIter baseGen bo extTrue fuel maxProj mg = .ok R)
    (hg : Good cols n bo extTrue mg) : Good cols n bo extTrue R := by
  induction fuel generalizing maxProj mg with
  | zero =>
    unfold whileLoop at h
    split at h
    · cases h; exact hg
    · cases h
  | succ f ih =>
    unfold whileLoop at h
    split at h
    · cases h; exact hg
    · simp only at h
      split at h
      · cases h
      · rename_i st hst
        refine ih _ _ h ?_
        unfold whileBody at hst
        exact sizeLoop_good _ _ _ _ _ _ _ _ _ hst hg

/-- object `g` falls into every interval of the description -/
def covers (cols : List Col) (d : DescrD) (g : Nat) : Bool := d.all fun p => sat (cols.getD p.1 []) p.2 g

theorem eq_of_filter_eq {p q : Nat → Bool} {l l' : List Nat} (h : l.filter p = l'.filter q) {g : Nat}
    (hg : g ∈ l) (hg' : g ∈ l') : p g = q g := by
  have hm : g ∈ l.filter p ↔ g ∈ l'.filter q := by rw [h]
  rw [List.mem_filter, List.mem_filter, and_iff_right hg, and_iff_right hg'] at hm
  exact Bool.eq_iff_iff.mpr hm

/-- comparison of two results of the search, for closed examples -/
def mvIs (r : Except PyErr (List MGMV.DescrD)) (want : Except PyErr (List MGMV.DescrD)) : Bool :=
  match r, want with
  | .ok v, .ok w => v == w
  | .error e, .error e' => e == e'
  | _, _ => false

theorem mvIs_eq {r want : Except PyErr (List MGMV.DescrD)} (h : mvIs r want = true) : r = want := by
  unfold mvIs at h
  split at h
  · rw [eq_of_beq h]
  · rw [eq_of_beq h]
  · cases h

end MGMV

end Fca
