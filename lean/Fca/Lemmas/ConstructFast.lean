/-
  The bit-set oracle of `Fca/Spec/CoversFast.lean` computes exactly what `Fca/Spec/Covers.lean` defines (equal lists,
  not only equal sets), for every list of extents: its table of covers is the list of `coversBy` (`coversTable_eq`) at
  the relation of `Spec` (`ssubAtM_masksOf`), its tests for the greatest and the least index are those of `Spec`; and
  the tabulated comparison is the comparison of the models (`ltAtFast_eq`).  `C12.fast_oracle_exact` and
  `C12.models_at_fast_lt` read the entry points off these.
-/
import Fca.Spec.CoversFast
import Fca.Model.ConstructFast
import Fca.Lemmas.ConstructBasic
namespace Fca.Spec.Fast

/-- both bit sets of the oracle (`maskOf`, `unionRows`) are built by or-ing into an accumulator -/
theorem testBit_foldl_or {α} (g : α → Nat) (x : Nat) (l : List α) (m : Nat) :
    (l.foldl (fun m y => m ||| g y) m).testBit x = (m.testBit x || l.any fun y => (g y).testBit x) := by
  induction l generalizing m with
  | nil => exact (Bool.or_false _).symm
  | cons y ys ih => rw [List.foldl_cons, ih, List.any_cons, Nat.testBit_or, Bool.or_assoc]

theorem testBit_maskOf (l : List Nat) (x : Nat) : (maskOf l).testBit x = l.contains x := by
  rw [maskOf, testBit_foldl_or, Nat.zero_testBit, Bool.false_or, List.contains_eq_any_beq]
  refine ListAux.any_congr_of_mem fun y _ => ?_
  rw [Nat.one_shiftLeft, Nat.testBit_two_pow, Bool.eq_iff_iff, decide_eq_true_eq, beq_iff_eq]
  exact eq_comm

theorem subM_iff {a b : Nat} : subM a b = true ↔ ∀ x, a.testBit x = true → b.testBit x = true := by
  unfold subM
  rw [beq_iff_eq]
  constructor
  · intro h x hx
    have := congrArg (fun m => m.testBit x) h
    simp only [Nat.testBit_and, hx, Bool.true_and] at this
    exact this
  · intro h
    apply Nat.eq_of_testBit_eq
    intro i
    rw [Nat.testBit_and]
    cases ha : a.testBit i with
    | false => rfl
    | true => simp [h i ha]

theorem subM_maskOf (a b : List Nat) : subM (maskOf a) (maskOf b) = sub a b := by
  rw [Bool.eq_iff_iff, subM_iff, Construct.sub_iff]
  simp only [testBit_maskOf, List.contains_iff_mem]

theorem ssubM_maskOf (a b : List Nat) : ssubM (maskOf a) (maskOf b) = ssub a b := by
  unfold ssubM ssub; rw [subM_maskOf, subM_maskOf]

theorem maskOf_nil : maskOf [] = 0 := rfl

/-- a table built by `map` answers with the mapped default outside its range -/
theorem getD_toArray_map {α β : Type} (f : α → β) (l : List α) (i : Nat) (d : α) :
    ((l.map f).toArray).getD i (f d) = f (l.getD i d) := by
  rw [Array.getD_eq_getD_getElem?, List.getElem?_toArray, ← List.getD_eq_getElem?_getD, ListAux.getD_map_default]

theorem masksOf_getD (cs : List (List Nat)) (i : Nat) : (masksOf cs).getD i 0 = maskOf (cs.getD i []) :=
  getD_toArray_map maskOf cs i []

theorem ssubAtM_masksOf (cs : List (List Nat)) : ssubAtM (masksOf cs) = ssubAt cs := by
  funext j i
  unfold ssubAtM ssubAt
  rw [masksOf_getD, masksOf_getD, ssubM_maskOf]

theorem mem_listOf {n : Nat} {R : Nat → Nat → Bool} {i j : Nat} : j ∈ listOf n R i ↔ j < n ∧ R j i = true := by
  unfold listOf; simp [List.mem_filter]

theorem rows_getD (n : Nat) (R : Nat → Nat → Bool) (k : Nat) (hk : k < n) :
    ((((List.range n).map (listOf n R)).map maskOf).toArray).getD k 0 = maskOf (listOf n R k) := by
  rw [← maskOf_nil, getD_toArray_map, ListAux.getD_map_range _ _ _ _ hk]

theorem testBit_unionRows (rows : Array Nat) (l : List Nat) (j : Nat) :
    (unionRows rows l).testBit j = l.any fun k => (rows.getD k 0).testBit j := by
  rw [unionRows, testBit_foldl_or, Nat.zero_testBit, Bool.false_or]

theorem coversTable_eq (n : Nat) (R : Nat → Nat → Bool) :
    coversTable n R = (List.range n).map (coversBy n R) := by
  unfold coversTable
  rw [List.map_map]
  apply List.map_congr_left
  intro i _
  show coversByRows _ (listOf n R i) = coversBy n R i
  unfold coversByRows coversBy
  show List.filter _ (listOf n R i) = _
  unfold listOf
  rw [List.filter_filter]
  apply List.filter_congr
  intro j hj
  have hj' : j < n := List.mem_range.mp hj
  rw [Bool.and_comm]
  congr 2
  rw [testBit_unionRows]
  show List.any ((List.range n).filter fun k => R k i) _ = _
  rw [List.any_filter]
  apply ListAux.any_congr_of_mem
  intro k hk
  have hk' : k < n := List.mem_range.mp hk
  have hrow := rows_getD n R k hk'
  unfold listOf at hrow
  rw [hrow, testBit_maskOf, Bool.and_comm]
  congr 1
  rw [Bool.eq_iff_iff, List.contains_iff_mem, List.mem_filter]
  simp [hj']

theorem isTopFast_eq (cs : List (List Nat)) : isTopFast cs.length (masksOf cs) = isTopB cs := by
  funext t; unfold isTopFast isTopB; rw [ssubAtM_masksOf]

theorem isBottomFast_eq (cs : List (List Nat)) : isBottomFast cs.length (masksOf cs) = isBottomB cs := by
  funext t; unfold isBottomFast isBottomB; rw [ssubAtM_masksOf]

end Fca.Spec.Fast

namespace Fca.Construct
open Fca.Spec.Fast

theorem lensOf_getD (cs : List Ext) (i : Nat) : (lensOf cs).getD i 0 = (cs.getD i []).length :=
  getD_toArray_map List.length cs i []

theorem ltAtFast_eq (cs : List Ext) : ltAtFast cs = ltAt cs := by
  funext i j
  unfold ltAtFast ltTab
  rw [lensOf_getD, lensOf_getD, masksOf_getD, masksOf_getD, subM_maskOf]
  rfl

end Fca.Construct
