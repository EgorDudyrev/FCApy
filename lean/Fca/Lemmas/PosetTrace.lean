/-
  The breadth-first search of `_trace_elements_both_directions` under its loop invariant
  `BInv`: it ends within the fuel, and `trace_element` returns, in either direction, exactly the elements on that
  side of the new element and the nearest ones among them.
-/
import Fca.Lemmas.PosetQuery
import Fca.Lemmas.PosetExtend
import Fca.Model.SemiLattice
set_option linter.unusedSectionVars false
namespace Fca.Poset
open Fca.Poset.Fresh

section
variable {α : Type} [DecidableEq α] {leq : α → α → Bool} {E : List α} {e : α}

/-- the test of `trace_element`, total -/
def cmpB (leq : α → α → Bool) (d : Dir) (e : α) (E : List α) (i : Nat) : Bool :=
  match E[i]? with
  | none => false
  | some x =>
    match d with
    | .desc => leq x e
    | .anc => leq e x

theorem cmpElem_ok {d : Dir} {e : α} {E : List α} {i : Nat} (hi : i < E.length) :
    cmpElem leq d e E i = .ok (cmpB leq d e E i) := by
  unfold cmpElem cmpB
  rw [List.getElem?_eq_getElem hi]
  rfl

theorem filterCmp_ok {d : Dir} {e : α} {E : List α} {l : List Nat} (hl : ∀ i ∈ l, i < E.length) :
    filterCmp leq d e E l = .ok (l.filter (cmpB leq d e E)) := by
  induction l with
  | nil => rfl
  | cons i is ih =>
    unfold filterCmp
    rw [cmpElem_ok (hl i List.mem_cons_self), ih (fun j hj => hl j (List.mem_cons_of_mem _ hj))]
    simp only [List.filter_cons]

theorem cmpB_eq_relD {d : Dir} {e : α} {E : List α} {i : Nat} (hi : i < E.length) :
    cmpB leq d e E i = relD leq d (E ++ [e]) i E.length := by
  unfold cmpB relD rel
  rw [List.getElem?_append_left hi, List.getElem?_eq_getElem hi, List.getElem?_concat_length]
  cases d <;> rfl

theorem cmpB_lt {d : Dir} {i : Nat} (h : cmpB leq d e E i = true) : i < E.length := by
  unfold cmpB at h
  split at h
  · cases h
  · rename_i x hx; exact (List.getElem?_eq_some_iff.mp hx).1

theorem cmpB_iff_ltD {d : Dir} {i : Nat} :
    cmpB leq d e E i = true ↔ ltD leq d (E ++ [e]) i E.length = true := by
  constructor
  · intro h
    have hi := cmpB_lt h
    rw [cmpB_eq_relD hi] at h
    exact ltD_iff.mpr ⟨h, Nat.ne_of_lt hi⟩
  · intro h
    have hi : i < E.length := ltD_ext_new_lt h
    rw [cmpB_eq_relD hi]
    exact (ltD_iff.mp h).1

end

section
variable {α : Type} [DecidableEq α] {leq : α → α → Bool} {E : List α}

structure DownSet (leq : α → α → Bool) (d : Dir) (E : List α) (D : Nat → Bool) : Prop where
  lt : ∀ i, D i = true → i < E.length
  down : ∀ i j, D j = true → relD leq d E i j = true → D i = true

/-- loop invariant of the `while len(elements_to_visit) > 0` loop -/
structure BInv (leq : α → α → Bool) (d : Dir) (E : List α) (D : Nat → Bool) (tv tr fin : List Nat) : Prop where
  tvN : tv.Nodup
  trN : tr.Nodup
  finN : fin.Nodup
  disj : ∀ x ∈ tv, x ∉ tr
  tvD : ∀ x ∈ tv, D x = true
  trD : ∀ x ∈ tr, D x = true
  finSpec : ∀ x, x ∈ fin ↔ (x ∈ tr ∧ ∀ p, isCover leq d E x p = true → D p = false)
  closure : ∀ x ∈ tr, ∀ p, isCover leq d E x p = true → D p = true → p ∈ tr ∨ p ∈ tv
  start : ∀ b, b ∈ extremes leq d E → D b = true → b ∈ tr ∨ b ∈ tv

variable {d : Dir} {D : Nat → Bool}

theorem binv_init : BInv leq d E D ((extremes leq d E).filter D) [] [] := by
  refine ⟨?_, List.nodup_nil, List.nodup_nil, fun _ _ h => (by cases h), ?_, fun _ h => (by cases h),
    fun x => ?_, fun _ h => (by cases h), ?_⟩
  · exact (List.nodup_range.filter _).filter _
  · intro x hx; exact (List.mem_filter.mp hx).2
  · simp
  · intro b hb hD; exact Or.inr (List.mem_filter.mpr ⟨hb, hD⟩)

/-- an iteration in general: `el` is popped and traced, fresh members `newl` of `D` are queued, `fin'` are the
    final elements; what is left to check is `fin'` and the successors of `el` -/
theorem binv_pop {el : Nat} {rest tr fin fin' newl : List Nat} (h : BInv leq d E D (el :: rest) tr fin)
    (hnewN : newl.Nodup) (hnewD : ∀ x ∈ newl, D x = true)
    (hfresh : ∀ x ∈ newl, x ∉ setInsert el tr ∧ x ∉ rest) (hfinN : fin'.Nodup)
    (hfin : ∀ x, x ∈ fin' ↔ (x ∈ setInsert el tr ∧ ∀ p, isCover leq d E x p = true → D p = false))
    (hcl : ∀ p, isCover leq d E el p = true → D p = true → p ∈ setInsert el tr ∨ p ∈ rest ++ newl) :
    BInv leq d E D (rest ++ newl) (setInsert el tr) fin' := by
  have helr : el ∉ rest := (List.nodup_cons.mp h.tvN).1
  have hold : ∀ x, x ∈ tr ∨ x ∈ el :: rest → x ∈ setInsert el tr ∨ x ∈ rest ++ newl := by
    rintro x (h1 | h1)
    · exact Or.inl (mem_setInsert.mpr (Or.inr h1))
    · rcases List.mem_cons.mp h1 with e | h1
      · exact Or.inl (mem_setInsert.mpr (Or.inl e))
      · exact Or.inr (List.mem_append_left _ h1)
  refine ⟨List.nodup_append.mpr ⟨(List.nodup_cons.mp h.tvN).2, hnewN, fun a ha b hb e => (hfresh b hb).2 (e ▸ ha)⟩,
    nodup_setInsert h.trN, hfinN, ?_, ?_, ?_, hfin, ?_, fun b hb hD => hold b (h.start b hb hD)⟩
  · intro x hx hxt
    rcases List.mem_append.mp hx with hx | hx
    · rcases mem_setInsert.mp hxt with e | hxt
      · subst e; exact helr hx
      · exact h.disj x (List.mem_cons_of_mem _ hx) hxt
    · exact (hfresh x hx).1 hxt
  · intro x hx
    rcases List.mem_append.mp hx with hx | hx
    · exact h.tvD x (List.mem_cons_of_mem _ hx)
    · exact hnewD x hx
  · intro x hx
    rcases mem_setInsert.mp hx with e | hx
    · subst e; exact h.tvD x List.mem_cons_self
    · exact h.trD x hx
  · intro x hx p hc hD
    rcases mem_setInsert.mp hx with e | hx
    · subst e; exact hcl p hc hD
    · exact hold p (h.closure x hx p hc hD)

theorem binv_step_empty {el : Nat} {rest tr fin : List Nat} (h : BInv leq d E D (el :: rest) tr fin)
    (hnx : ∀ p, isCover leq d E el p = true → D p = false) :
    BInv leq d E D rest (setInsert el tr) (setInsert el fin) := by
  have := binv_pop (newl := []) (fin' := setInsert el fin) h List.nodup_nil (fun _ hx => nomatch hx)
    (fun _ hx => nomatch hx) (nodup_setInsert h.finN) (fun x => ?_) (fun p hc hD => ?_)
  · rwa [List.append_nil] at this
  · rw [mem_setInsert, mem_setInsert, h.finSpec x]
    constructor
    · rintro (e | ⟨h1, h2⟩)
      · subst e; exact ⟨Or.inl rfl, hnx⟩
      · exact ⟨Or.inr h1, h2⟩
    · rintro ⟨e | h1, h2⟩
      · exact Or.inl e
      · exact Or.inr ⟨h1, h2⟩
  · rw [hnx p hc] at hD; cases hD

theorem binv_step_nonempty {el : Nat} {rest tr fin nxt newl : List Nat} (h : BInv leq d E D (el :: rest) tr fin)
    (hnx : ∀ p, p ∈ nxt ↔ (isCover leq d E el p = true ∧ D p = true)) (hnn : nxt.Nodup)
    (hne : nxt ≠ []) (hnew : newl.Perm (setDiff (setDiff nxt (setInsert el tr)) rest)) :
    BInv leq d E D (rest ++ newl) (setInsert el tr) fin := by
  have hmem : ∀ x, x ∈ newl ↔ ((x ∈ nxt ∧ x ∉ setInsert el tr) ∧ x ∉ rest) := by
    intro x; rw [hnew.mem_iff, mem_setDiff, mem_setDiff]
  refine binv_pop h (hnew.nodup_iff.mpr (nodup_setDiff (nodup_setDiff hnn)))
    (fun x hx => ((hnx x).mp ((hmem x).mp hx).1.1).2) (fun x hx => ⟨((hmem x).mp hx).1.2, ((hmem x).mp hx).2⟩)
    h.finN (fun x => ?_) (fun p hc hD => ?_)
  · rw [mem_setInsert, h.finSpec x]
    constructor
    · rintro ⟨h1, h2⟩; exact ⟨Or.inr h1, h2⟩
    · rintro ⟨e | h1, h2⟩
      · subst e
        obtain ⟨p, hp⟩ := List.exists_mem_of_ne_nil nxt hne
        have := (hnx p).mp hp
        rw [h2 p this.1] at this; cases this.2
      · exact ⟨h1, h2⟩
  · by_cases h1 : p ∈ setInsert el tr
    · exact Or.inl h1
    · by_cases h2 : p ∈ rest
      · exact Or.inr (List.mem_append_left _ h2)
      · exact Or.inr (List.mem_append_right _ ((hmem p).mpr ⟨⟨(hnx p).mpr ⟨hc, hD⟩, h1⟩, h2⟩))

/-- queued and traced elements are distinct valid indexes -/
theorem binv_card (hD : DownSet leq d E D) {tv tr fin : List Nat} (h : BInv leq d E D tv tr fin) :
    tv.length + tr.length ≤ E.length := by
  have hn : (tv ++ tr).Nodup := List.nodup_append.mpr ⟨h.tvN, h.trN, fun a ha b hb e => h.disj a ha (e ▸ hb)⟩
  exact List.length_append ▸ ListAux.length_le_of_nodup_of_lt hn fun x hx =>
    hD.lt x ((List.mem_append.mp hx).elim (h.tvD x) (h.trD x))

theorem binv_length (hD : DownSet leq d E D) {el : Nat} {rest tr fin : List Nat}
    (h : BInv leq d E D (el :: rest) tr fin) : tr.length + 1 ≤ E.length :=
  Nat.le_trans (Nat.add_comm _ _ ▸ Nat.add_le_add_right (Nat.le_add_left 1 rest.length) _) (binv_card hD h)

variable (hpo : IdxPO leq E)
include hpo

theorem downSet_induction (hD : DownSet leq d E D) (T : Nat → Prop)
    (hstart : ∀ b, b ∈ extremes leq d E → D b = true → T b)
    (hstep : ∀ x, T x → ∀ p, isCover leq d E x p = true → D p = true → T p) :
    ∀ y, D y = true → T y := by
  intro y hy
  refine (hpo.strict d).induction (Q := fun y => D y = true → T y) (fun y hyl ih hy => ?_) y (hD.lt y hy) hy
  cases hcl : closed leq d E y with
  | nil => exact hstart y (List.mem_filter.mpr ⟨List.mem_range.mpr hyl, by rw [hcl]; rfl⟩) hy
  | cons z zs =>
    have hz : ltD leq d E z y = true := mem_closed.mp (by rw [hcl]; exact List.mem_cons_self)
    obtain ⟨c, hc, _⟩ := exists_cover_above hpo d hz
    have hcy := (isCover_iff.mp hc).1
    exact hstep c (ih c (ltD_lt_length hcy).1 hcy (hD.down c y hy (ltD_iff.mp hcy).1)) y hc hy

theorem binv_done (hD : DownSet leq d E D) {tr fin : List Nat} (h : BInv leq d E D [] tr fin) :
    (∀ x, x ∈ tr ↔ D x = true) ∧
    (∀ x, x ∈ fin ↔ (D x = true ∧ ∀ z, D z = true → ltD leq d E x z = false)) := by
  have htr : ∀ x, x ∈ tr ↔ D x = true := by
    intro x
    refine ⟨h.trD x, ?_⟩
    apply downSet_induction hpo hD (fun x => x ∈ tr)
    · intro b hb hDb
      rcases h.start b hb hDb with h1 | h1
      · exact h1
      · cases h1
    · intro x hx p hc hDp
      rcases h.closure x hx p hc hDp with h1 | h1
      · exact h1
      · cases h1
  refine ⟨htr, fun x => ?_⟩
  rw [h.finSpec x, htr x]
  constructor
  · rintro ⟨hx, h2⟩
    refine ⟨hx, fun z hz => ?_⟩
    cases hxz : ltD leq d E x z
    · rfl
    · -- a cover of x below z lies in D
      have hzx : ltD leq d.flip E z x = true := by rw [ltD_flip]; exact hxz
      obtain ⟨c, hc, hzc⟩ := exists_cover_above hpo d.flip hzx
      rw [isCover_flip] at hc
      rw [relD_flip] at hzc
      have := h2 c hc
      rw [hD.down c z hz hzc] at this; cases this
  · rintro ⟨hx, h2⟩
    refine ⟨hx, fun p hc => ?_⟩
    cases hp : D p
    · rfl
    · have := h2 p hp
      rw [(isCover_iff.mp hc).1] at this; cases this

end

section
variable {α : Type} [DecidableEq α] {leq : α → α → Bool} {ord : List Nat → List Nat}
variable {E : List α} {G : Ghost} {c : Bool}

variable (hpo : IdxPO leq E) (hord : ∀ l, (ord l).Perm l)
include hpo hord

theorem traceLoop_spec {d : Dir} {e : α} (hD : DownSet leq d E (cmpB leq d e E)) (fuel : Nat) :
    ∀ (tv tr fin : List Nat) (s : St α), BInv leq d E (cmpB leq d e E) tv tr fin →
      InvB leq E (G.addDirectP d.flip (fun k => k ∈ tr)) c s →
      E.length + 1 ≤ fuel + tr.length →
      Sat (traceLoop leq ord d e fuel tv tr fin) s (fun s' r =>
        BInv leq d E (cmpB leq d e E) [] r.2 r.1 ∧
        InvB leq E (G.addDirectP d.flip (fun k => k ∈ r.2)) c s') := by
  induction fuel with
  | zero =>
    intro tv tr fin s h _ hf
    rw [Nat.zero_add] at hf
    exact absurd (Nat.le_trans hf (Nat.le_trans (Nat.le_add_left _ _) (binv_card hD h))) (Nat.not_succ_le_self _)
  | succ fuel ih =>
    intro tv tr fin s h hinv hf
    cases tv with
    | nil =>
      unfold traceLoop
      exact sat_pure ⟨h, hinv⟩
    | cons el rest =>
      unfold traceLoop
      simp only
      have hel : el < E.length := hD.lt el (h.tvD el List.mem_cons_self)
      apply sat_bind
      apply sat_mono (directE_spec hpo hord hinv d.flip hel)
      rintro s1 nx ⟨h1, hnx, hpres⟩
      apply sat_bind
      apply sat_get
      rw [h1.elems]
      have hnxr : ∀ p ∈ nx, p < E.length := by
        intro p hp
        have := mem_direct.mp ((hnx.2 p).mp hp)
        exact (ltD_lt_length (isCover_iff.mp this).1).1
      rw [filterCmp_ok hnxr]
      apply sat_bind
      apply sat_ofExcept_ok
      have hnxt : ∀ p, p ∈ nx.filter (cmpB leq d e E) ↔
          (isCover leq d E el p = true ∧ cmpB leq d e E p = true) := by
        intro p
        rw [List.mem_filter, hnx.2 p, mem_direct, isCover_flip]
      have hinv' : InvB leq E (G.addDirectP d.flip (fun k => k ∈ setInsert el tr)) c s1 := by
        refine h1.dropDirectP.addDirectP d.flip _ (fun hct k hk => ?_)
        rcases mem_setInsert.mp hk with e1 | hk
        · subst e1; exact hpres hct
        · exact h1.directPres hct d.flip k (Or.inr ⟨rfl, hk⟩)
      have hlen : E.length + 1 ≤ fuel + (setInsert el tr).length := by
        rw [length_setInsert_of_not_mem (h.disj el List.mem_cons_self), ← Nat.add_assoc, Nat.add_right_comm]; exact hf
      by_cases hemp : (nx.filter (cmpB leq d e E)).isEmpty = true
      · rw [if_pos hemp]
        apply ih rest (setInsert el tr) (setInsert el fin) s1 _ hinv' hlen
        apply binv_step_empty h
        intro p hc
        cases hp : cmpB leq d e E p
        · rfl
        · have := (hnxt p).mpr ⟨hc, hp⟩
          rw [List.isEmpty_iff.mp hemp] at this; cases this
      · rw [if_neg hemp]
        apply ih _ (setInsert el tr) fin s1 _ hinv' hlen
        apply binv_step_nonempty h hnxt (hnx.1.filter _)
        · intro e1; apply hemp; rw [e1]; rfl
        · exact hord _

/-- `trace_element` once `start_elements` has been read, from the maximal / minimal elements: what `POSet`'s own
    `trace_element` does after its scan, and a semilattice's (whose `tops` / `bottoms` is `[top]` / `[bottom]`) -/
theorem _root_.Fca.SemiLattice.traceFrom_spec {d : Dir} {e : α} (hD : DownSet leq d E (cmpB leq d e E)) {s : St α}
    (h : InvB leq E G c s) {st : List Nat} (hst : st = extremes leq d E) :
    Sat (SemiLattice.traceFrom leq ord d e st) s (fun s' r =>
      BInv leq d E (cmpB leq d e E) [] r.2 r.1 ∧
      InvB leq E (G.addDirectP d.flip (fun k => k ∈ r.2)) c s') := by
  subst hst
  unfold SemiLattice.traceFrom
  apply sat_bind
  apply sat_get
  rw [h.elems]
  have hsr : ∀ i ∈ extremes leq d E, i < E.length := fun i hi =>
    List.mem_range.mp (List.mem_filter.mp hi).1
  rw [filterCmp_ok hsr]
  apply sat_bind
  apply sat_ofExcept_ok
  exact traceLoop_spec hpo hord hD (E.length + 1) _ [] [] s binv_init
    (h.addDirectP d.flip _ (fun _ k hk => by cases hk)) (by simp)

theorem traceElement_spec {d : Dir} {e : α} (hD : DownSet leq d E (cmpB leq d e E)) {s : St α}
    (h : InvB leq E G c s) :
    Sat (traceElement leq ord d e) s (fun s' r =>
      BInv leq d E (cmpB leq d e E) [] r.2 r.1 ∧
      InvB leq E ((G.addClosedP d (fun k => k < E.length)).addDirectP d.flip (fun k => k ∈ r.2)) c s') := by
  -- the scan of `tops / bottoms`, then the trace from what it returns
  show Sat (extremesE leq d >>= fun start => SemiLattice.traceFrom leq ord d e start) s _
  apply sat_bind
  apply sat_mono (extremesE_fills_closed hpo h d)
  rintro s1 start ⟨h1, rfl⟩
  exact SemiLattice.traceFrom_spec hpo hord hD h1 rfl

end

section
variable {α : Type} [DecidableEq α] {leq : α → α → Bool} {E : List α} {e : α}
variable (hpo' : IdxPO leq (E ++ [e]))
include hpo'

theorem downSet_cmpB (d : Dir) : DownSet leq d E (cmpB leq d e E) := by
  refine ⟨fun i h => cmpB_lt h, fun i j hj hij => ?_⟩
  have hjn := cmpB_lt hj
  have hi : i < E.length := (relD_lt_length hij).1
  rw [cmpB_eq_relD hjn] at hj
  rw [cmpB_eq_relD hi]
  have : relD leq d (E ++ [e]) i j = true := by rw [relD_ext_lt hi hjn]; exact hij
  exact relD_trans hpo' d this hj

/-- what the two traces of `add` return, by direction, as the patching loop reads them -/
theorem trace_result {cl dr : Dir → List Nat} (hpo : IdxPO leq E)
    (h : ∀ d, BInv leq d E (cmpB leq d e E) [] (cl d) (dr d)) :
    (∀ d, (cl d).Nodup ∧ ∀ x, x ∈ cl d ↔ ltD leq d (E ++ [e]) x E.length = true) ∧
    (∀ d, (dr d).Nodup ∧ ∀ x, x ∈ dr d ↔ isCover leq d (E ++ [e]) x E.length = true) := by
  have hd := fun d => binv_done hpo (downSet_cmpB hpo' d) (h d)
  refine ⟨fun d => ⟨(h d).trN, fun x => by rw [(hd d).1 x, cmpB_iff_ltD]⟩, fun d => ⟨(h d).finN, fun x => ?_⟩⟩
  rw [(hd d).2 x, isCover_iff_max, cmpB_iff_ltD]
  refine and_congr_right fun hx => forall_congr' fun z => ?_
  rw [cmpB_iff_ltD]
  exact imp_congr_right fun hz => by rw [ltD_ext_lt (ltD_ext_new_lt hx) (ltD_ext_new_lt hz)]

end
end Fca.Poset
