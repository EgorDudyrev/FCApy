/-
  Reads of a table: `t.row i` is an entry of `t.data` below the height and `[]` above it, and a row of a
  well-formed table has the declared width, so that `t.get i j` is `false` outside the shape.  The indexes of an
  in-range optional selection stay below the bound.
-/
import Fca.Model.Basic
import Fca.Lemmas.ListAux
namespace Fca

theorem Table.row_mem (t : Table) {i : Nat} (hi : i < t.height) : t.row i ∈ t.data :=
  ListAux.getD_mem t.data i [] hi

theorem Table.row_length (t : Table) (h : t.WF) {i : Nat} (hi : i < t.height) : (t.row i).length = t.width :=
  h _ (t.row_mem hi)

theorem Table.row_eq_map (t : Table) (h : t.WF) {i : Nat} (hi : i < t.height) :
    t.row i = (List.range t.width).map (t.get i) := by
  rw [← t.row_length h hi]
  exact (ListAux.range_map_getD (t.row i) false).symm

theorem Table.row_getD_of_ge (t : Table) (h : t.WF) {i j : Nat} (hi : i < t.height) (hj : t.width ≤ j) :
    t.get i j = false :=
  ListAux.getD_of_ge (t.row i) j false ((t.row_length h hi).symm ▸ hj)

theorem Table.get_of_height_le (t : Table) {i j : Nat} (hi : t.height ≤ i) : t.get i j = false := by
  rw [Table.get, Table.row, ListAux.getD_of_ge t.data i [] hi]
  rfl

theorem Table.data_eq_map_row (t : Table) : t.data = (List.range t.height).map t.row :=
  (ListAux.range_map_getD t.data []).symm

/-- the constructors read the width off the first row (`_transform_data`): non-empty rows of one length `w` make
    the table of width `w` -/
theorem Table.ofRows_eq_mk {rows : List Row} {w : Nat} (hl : 1 ≤ rows.length) (h : ∀ r ∈ rows, r.length = w) :
    Table.ofRows rows = ⟨rows, w⟩ := by
  obtain ⟨r, rs, rfl⟩ := List.exists_cons_of_length_pos hl
  exact congrArg (Table.mk _) (h r List.mem_cons_self)

/-! An optional selection of row or column indexes (`none`: all of them) is in range when
    `∀ xs, sel = some xs → ∀ x ∈ xs, x < n`; every range hypothesis on a selection has this shape
    (`OptIdx.Valid`, the `BaseInRange` of the property files).  The list the operations run over is then in range, and
    for a given list the hypothesis is that of the list. -/

theorem OptIdx.getD_lt {sel : Option (List Nat)} {n : Nat} (h : ∀ xs, sel = some xs → ∀ x ∈ xs, x < n) :
    ∀ x ∈ sel.getD (List.range n), x < n := by
  cases sel with
  | none => intro x hx; exact List.mem_range.mp hx
  | some xs => exact h xs rfl

theorem OptIdx.valid_some {xs : List Nat} {n : Nat} (h : ∀ x ∈ xs, x < n) :
    ∀ ys, some xs = some ys → ∀ x ∈ ys, x < n := by
  intro ys e; cases e; exact h

end Fca
