/-
  Fca.Lemmas.CodecFloatLit — the model's own `loads` inverts its `dumps` on every interval description
  `[a, b]` whose borders are JSON float literals: finite `repr` literals (digits, sign, fraction / exponent)
  and the non-finite tokens `Infinity`, `-Infinity` — in either position (`loads_dumps_pair`).  For an interval
  cell this is the equation the codec hypotheses `MVCodecOk`, `PCodecOk` assume of the text layer.  Neither
  hypothesis is concluded here: `C07.mvCodecOk_of_borders` draws `MVCodecOk` from it when the interval borders
  of a context are such literals (its `SetPS` cells keep the hypothesis); no theorem concludes `PCodecOk`.
-/
import Fca.Lemmas.CodecJson
namespace Fca.Codec

/-- a finite float literal as `float.__repr__` / `json.dumps` write it: it starts with a digit, or with `-` and a
    digit; it has number characters only; it has a fraction or an exponent -/
def finiteLitB (l : Str) : Bool :=
  (match l with
    | c :: cs => c.isDigit || (c == '-' && (match cs with | d :: _ => d.isDigit | [] => false))
    | [] => false)
  && l.all isNumChar && l.any (fun c => c == '.' || c == 'e' || c == 'E')

/-- the literals `json.dumps(float)` can write, NaN excluded -/
def IsJsonFloat (l : Str) : Prop := finiteLitB l = true ∨ l = "Infinity".toList ∨ l = "-Infinity".toList
instance (l : Str) : Decidable (IsJsonFloat l) := by unfold IsJsonFloat; infer_instance

theorem spanNum_append (l : Str) (d : Char) (r : Str) (hl : ∀ c ∈ l, isNumChar c = true) (hd : isNumChar d = false) :
    spanNum (l ++ d :: r) = (l, d :: r) := by
  induction l with
  | nil => simp [spanNum, hd]
  | cons c cs ih =>
    have hc : isNumChar c = true := hl c (by simp)
    simp [spanNum, hc, ih fun x hx => hl x (List.mem_cons_of_mem _ hx)]

theorem numOfLit_float (l : Str) (h : (l.any fun c => c == '.' || c == 'e' || c == 'E') = true) :
    numOfLit l = some (.flt l) := by
  unfold numOfLit
  rw [if_pos h]

theorem skipWs_num (c : Char) (t : Str) (h : isNumChar c = true) : skipWs (c :: t) = c :: t :=
  if_neg fun hw => by
    simp only [isWs, Bool.or_eq_true, beq_iff_eq] at hw
    rcases hw with ((rfl | rfl) | rfl) | rfl <;> exact absurd h (by decide)

/-- the case principle of `parseVal`'s matcher for the arms an interval cell reaches, by the CLASS of the character
    the text begins with after white space: `[` opens an array, `]` opens nothing, and a number character that does
    not open `-Infinity` goes to the number branch (no character that opens another arm is a number character) -/
theorem parseVal_cases (f : Nat) (s : Str) :
    (∀ r, skipWs s = '[' :: r → parseVal (f + 1) s =
      match skipWs r with
      | ']' :: r' => some (.arr [], r')
      | _ => (parseElems f r).map fun p => (JV.arr p.1, p.2)) ∧
    (∀ r, skipWs s = ']' :: r → parseVal (f + 1) s = none) ∧
    (∀ c t, s = c :: t → isNumChar c = true →
      (∀ r, c = '-' → t ≠ 'I' :: 'n' :: 'f' :: 'i' :: 'n' :: 'i' :: 't' :: 'y' :: r) →
      parseVal (f + 1) s = (numOfLit (spanNum s).1).map fun v => (v, (spanNum s).2)) ∧
    (∀ s', skipWs s' = skipWs s → parseVal (f + 1) s' = parseVal (f + 1) s) := by
  rw [parseVal]
  refine ⟨?_, ?_, ?_, fun s' h => by rw [parseVal, h]⟩
  · generalize skipWs s = w; rintro r rfl; rfl
  · generalize skipWs s = w; rintro r rfl; rfl
  · rintro c t rfl hc hinf
    rw [skipWs_num c t hc, parseVal.match_5.eq_10]
    · exact if_pos hc
    all_goals first | exact hinf | (intros; subst c; exact absurd hc (by decide))

theorem parseVal_finite (f : Nat) (l : Str) (d : Char) (r : Str) (h : finiteLitB l = true)
    (hd : isNumChar d = false) : parseVal (f + 1) (l ++ d :: r) = some (.flt l, d :: r) := by
  unfold finiteLitB at h
  simp only [Bool.and_eq_true, List.all_eq_true] at h
  obtain ⟨⟨hhead, hall⟩, hany⟩ := h
  cases l with
  | nil => simp at hhead
  | cons c cs =>
    rw [(parseVal_cases f _).2.2.1 c _ List.cons_append (hall c (by simp)), spanNum_append (c :: cs) d r hall hd,
      numOfLit_float _ hany]
    · rfl
    · -- a finite literal has a digit after the sign
      rintro r' rfl e
      cases cs with
      | nil => simp at hhead
      | cons d' ds =>
        rw [List.cons_append, List.cons.injEq] at e
        obtain ⟨rfl, _⟩ := e
        simp at hhead

theorem parseVal_inf (f : Nat) (r : Str) :
    parseVal (f + 1) ("Infinity".toList ++ r) = some (.flt "Infinity".toList, r) := by
  rw [show "Infinity".toList ++ r = 'I' :: 'n' :: 'f' :: 'i' :: 'n' :: 'i' :: 't' :: 'y' :: r from
    congrArg (· ++ r) String.toList_ofList]
  rfl

theorem parseVal_neginf (f : Nat) (r : Str) :
    parseVal (f + 1) ("-Infinity".toList ++ r) = some (.flt "-Infinity".toList, r) := by
  rw [show "-Infinity".toList ++ r = '-' :: 'I' :: 'n' :: 'f' :: 'i' :: 'n' :: 'i' :: 't' :: 'y' :: r from
    congrArg (· ++ r) String.toList_ofList]
  rfl

theorem parseVal_lit (f : Nat) (l : Str) (d : Char) (r : Str) (h : IsJsonFloat l) (hd : isNumChar d = false) :
    parseVal (f + 1) (l ++ d :: r) = some (.flt l, d :: r) := by
  rcases h with h | h | h
  · exact parseVal_finite f l d r h hd
  · rw [h]; exact parseVal_inf f (d :: r)
  · rw [h]; exact parseVal_neginf f (d :: r)

theorem parseVal_blank (f : Nat) (s : Str) : parseVal (f + 1) (' ' :: s) = parseVal (f + 1) s :=
  (parseVal_cases f s).2.2.2 _ rfl

theorem parseElems_two (f : Nat) (a b : Str) (ha : IsJsonFloat a) (hb : IsJsonFloat b) :
    parseElems (f + 3) (a ++ ',' :: ' ' :: (b ++ [']'])) = some ([.flt a, .flt b], []) := by
  have hlast : parseElems (f + 2) (' ' :: (b ++ [']'])) = some ([.flt b], []) := by
    rw [parseElems, parseVal_blank, parseVal_lit f b ']' [] hb (by decide)]
    rfl
  rw [parseElems, parseVal_lit (f + 1) a ',' _ ha (by decide)]
  show (parseElems (f + 2) (' ' :: (b ++ [']']))).map _ = _
  rw [hlast]
  rfl

theorem parseVal_pair (f : Nat) (a b : Str) (ha : IsJsonFloat a) (hb : IsJsonFloat b) :
    parseVal (f + 4) ('[' :: (a ++ ',' :: ' ' :: (b ++ [']']))) = some (.arr [.flt a, .flt b], []) := by
  rw [(parseVal_cases (f + 3) _).1 _ rfl]
  split
  · rename_i heq
    exact nomatch ((parseVal_cases 0 _).2.1 _ heq).symm.trans (parseVal_lit 0 a ',' _ ha (by decide))
  · rw [parseElems_two f a b ha hb]
    rfl

theorem loads_dumps_pair (a b : Str) (ha : IsJsonFloat a) (hb : IsJsonFloat b) :
    loads (dumps (.arr [.flt a, .flt b])) = some (.arr [.flt a, .flt b]) := by
  have hd : dumps (.arr [.flt a, .flt b]) = '[' :: (a ++ ',' :: ' ' :: (b ++ [']'])) := by
    simp [dumps, dumpsWith, dumpsElems]
  rw [hd]
  unfold loads
  have hlen : ('[' :: (a ++ ',' :: ' ' :: (b ++ [']']))).length + 1 = (a.length + b.length + 1) + 4 := by
    simp only [List.length_cons, List.length_append, List.length_nil]; omega
  rw [hlen, parseVal_pair _ a b ha hb]
  rfl

theorem loads_dumps_null : loads (dumps .null) = some .null := by decide +kernel

theorem loads_dumps_bool (b : Bool) : loads (dumps (.bool b)) = some (.bool b) := by
  cases b <;> decide +kernel

end Fca.Codec
