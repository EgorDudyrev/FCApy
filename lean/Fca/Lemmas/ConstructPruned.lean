/-
  Two invariances behind the size-gated scenario class (H8): the hypotheses of the C12 theorems are inherited by every
  sub-list that keeps the greatest concept, so a pruned list needs no closure under intersection; and the
  specification, with it every routine's result, depends on the extents only as sets, whatever the order in which a
  concept lists its objects and the size of the object indexes.
-/
import Fca.Lemmas.ConstructHyps
namespace Fca.Construct
open Fca.Spec

/-- two listings of the same concepts: equally long, and position by position the same SET of objects -/
def SameExtents (cs cs' : List Ext) : Prop :=
  cs.length = cs'.length ∧ ∀ i, SameSetC (cs.getD i []) (cs'.getD i [])

theorem sub_congr {a a' b b' : List Nat} (ha : SameSetC a a') (hb : SameSetC b b') : sub a b = sub a' b' := by
  rw [Bool.eq_iff_iff, sub_iff, sub_iff]
  exact ⟨fun h x hx => (hb x).mp (h x ((ha x).mpr hx)), fun h x hx => (hb x).mpr (h x ((ha x).mp hx))⟩

theorem ssubAt_sameExtents {cs cs' : List Ext} (h : SameExtents cs cs') : ssubAt cs = ssubAt cs' := by
  funext j i
  unfold ssubAt ssub
  rw [sub_congr (h.2 j) (h.2 i), sub_congr (h.2 i) (h.2 j)]

theorem covers_sameExtents {cs cs' : List Ext} (h : SameExtents cs cs') : Spec.covers cs = Spec.covers cs' := by
  funext i
  unfold Spec.covers
  rw [ssubAt_sameExtents h, h.1]

theorem isTop_sameExtents {cs cs' : List Ext} (h : SameExtents cs cs') {t : Nat} (ht : IsTop cs t) : IsTop cs' t := by
  unfold IsTop at ht ⊢
  rw [← ssubAt_sameExtents h, ← h.1]
  exact ht

theorem topoSorted_sameExtents {cs cs' : List Ext} (h : SameExtents cs cs') (ht : TopoSorted cs) : TopoSorted cs' := by
  unfold TopoSorted at ht ⊢
  rw [← ssubAt_sameExtents h, ← h.1]
  exact ht

theorem isCoverDict_sameExtents {cs cs' : List Ext} (h : SameExtents cs cs') {out : List (List Nat)}
    (ho : IsCoverDict cs' out) : IsCoverDict cs out := by
  unfold IsCoverDict at ho ⊢
  rw [covers_sameExtents h, h.1]
  exact ho

theorem sublist_index_view {cs cs' : List Ext} (h : cs'.Sublist cs) :
    ∃ f : Nat → Nat, (∀ i, i < cs'.length → f i < cs.length ∧ cs'.getD i [] = cs.getD (f i) []) ∧
      ∀ i j, i < j → j < cs'.length → f i < f j := by
  induction h with
  | slnil => exact ⟨id, nofun, nofun⟩
  | cons a _ ih =>
    obtain ⟨f, hf, hm⟩ := ih
    exact ⟨fun i => f i + 1, fun i hi => ⟨Nat.succ_lt_succ (hf i hi).1, (hf i hi).2⟩,
      fun i j hij hj => Nat.succ_lt_succ (hm i j hij hj)⟩
  | cons_cons a _ ih =>
    obtain ⟨f, hf, hm⟩ := ih
    refine ⟨fun i => match i with | 0 => 0 | i + 1 => f i + 1, fun i hi => ?_, fun i j hij hj => ?_⟩
    · cases i with
      | zero => exact ⟨Nat.succ_pos _, rfl⟩
      | succ i =>
        have := hf i (Nat.lt_of_succ_lt_succ hi)
        exact ⟨Nat.succ_lt_succ this.1, this.2⟩
    · cases j with
      | zero => exact absurd hij (Nat.not_lt_zero _)
      | succ j =>
        cases i with
        | zero => exact Nat.succ_pos _
        | succ i => exact Nat.succ_lt_succ (hm i j (Nat.lt_of_succ_lt_succ hij) (Nat.lt_of_succ_lt_succ hj))

theorem ssub_irrefl (a : List Nat) : ssub a a = false := by
  unfold ssub; cases sub a a <;> rfl

theorem TopoSorted.sublist {cs cs' : List Ext} (h : cs'.Sublist cs) (ht : TopoSorted cs) : TopoSorted cs' := by
  obtain ⟨f, hf, hmono⟩ := sublist_index_view h
  intro i j hi hj hlt
  have hlt' : ssubAt cs (f j) (f i) = true := by
    unfold ssubAt at hlt ⊢
    rw [← (hf j hj).2, ← (hf i hi).2]; exact hlt
  have hfij := ht (f i) (f j) (hf i hi).1 (hf j hj).1 hlt'
  apply Classical.byContradiction
  intro hij
  rcases Nat.lt_or_eq_of_le (Nat.le_of_not_lt hij) with hji | hji
  · exact Nat.lt_asymm hfij (hmono j i hji hi)
  · rw [hji] at hfij; exact Nat.lt_irrefl _ hfij

/-- neither closure under intersection, nor a least concept, nor any relation between the kept concepts is asked for -/
theorem TreeInput.sublist {cs cs' : List Ext} {top : Nat} {isSorted : Bool} (hin : TreeInput cs top isSorted)
    (h : cs'.Sublist cs) (hkeep : cs.getD top [] ∈ cs') : ∃ top', TreeInput cs' top' isSorted := by
  obtain ⟨f, hf, hmono⟩ := sublist_index_view h
  obtain ⟨t', ht', htop'⟩ := List.getElem_of_mem hkeep
  have hgetD : cs'.getD t' [] = cs.getD top [] := (ListAux.getD_eq_get _ _ _ ht').trans htop'
  -- the kept copy of the greatest concept sits at the image of `top`
  have hft : f t' = top := by
    apply Classical.byContradiction
    intro hne
    have := hin.top.2 (f t') (hf t' ht').1 hne
    unfold ssubAt at this
    rw [← (hf t' ht').2, hgetD, ssub_irrefl] at this
    cases this
  refine ⟨t', fun e he => hin.nodup e (h.subset he), ⟨ht', fun j hj hne => ?_⟩,
    fun hs => TopoSorted.sublist h (hin.sorted hs)⟩
  have hfj : f j ≠ top := by
    rw [← hft]
    rcases Nat.lt_or_gt_of_ne hne with hlt | hlt
    · exact Nat.ne_of_lt (hmono j t' hlt ht')
    · exact Nat.ne_of_gt (hmono t' j hlt hj)
  have := hin.top.2 (f j) (hf j hj).1 hfj
  unfold ssubAt at this ⊢
  rw [(hf j hj).2, hgetD]; exact this

/-- the list contains (as a set) the intersection of any two of its extents: what `order_extents_comparison` needs and
    the other routines do not; defined only to exhibit lists within the hypotheses that lack it -/
def interClosedB (cs : List Ext) : Bool :=
  cs.all fun a => cs.all fun b => cs.any fun c =>
    sub c (a.filter fun x => b.contains x) && sub (a.filter fun x => b.contains x) c

end Fca.Construct
