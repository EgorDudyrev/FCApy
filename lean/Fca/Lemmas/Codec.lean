/-
  Fca.Lemmas.Codec — the Python string primitives of `Fca.Model.Codec`: `split` undoes `join` when no piece
  shares a character with the separator, `strip('\n')` undoes the final newline of a block of lines, `int` reads
  back what `str` wrote; the context constructor accepts well-formed parts.
-/
import Fca.Model.Codec
namespace Fca.Codec

/-- no occurrence of `sep` in `a ++ tail` starts inside `a` -/
def noEarly (sep : Str) : Str → Str → Bool
  | [], _ => true
  | c :: cs, tail => !sep.isPrefixOf (c :: cs ++ tail) && noEarly sep cs tail

theorem noEarly_append (sep : Str) (b T : Str) : ∀ a : Str,
    noEarly sep (a ++ b) T = (noEarly sep a (b ++ T) && noEarly sep b T)
  | [] => by simp [noEarly]
  | c :: a => by
    simp only [List.cons_append, noEarly, noEarly_append sep b T a, List.append_assoc, Bool.and_assoc]

theorem splitGo_skip (sep rest : Str) : ∀ x : Str, splitGo sep x.length (x ++ rest) = splitGo sep 0 rest
  | [] => rfl
  | _ :: x => splitGo_skip sep rest x

theorem splitGo_noEarly (sep T : Str) (ps : List Str) (hT : splitGo sep 0 T = [] :: ps) : ∀ a : Str,
    noEarly sep a T = true → splitGo sep 0 (a ++ T) = a :: ps
  | [], _ => hT
  | c :: a, h => by
    simp only [noEarly, Bool.and_eq_true, Bool.not_eq_true'] at h
    simp only [List.cons_append] at h ⊢
    simp only [splitGo, h.1, Bool.false_eq_true, ↓reduceIte, splitGo_noEarly sep T ps hT a h.2, consHead]

theorem splitGo_sep (sep : Str) (hsep : sep ≠ []) (rest : Str) :
    splitGo sep 0 (sep ++ rest) = [] :: splitGo sep 0 rest := by
  cases sep with
  | nil => exact absurd rfl hsep
  | cons d sep' =>
    have hp : (d :: sep').isPrefixOf (d :: (sep' ++ rest)) = true :=
      List.isPrefixOf_iff_prefix.mpr (List.prefix_append _ rest)
    simp only [List.cons_append, splitGo, hp, ↓reduceIte, List.length_cons, Nat.add_sub_cancel]
    rw [splitGo_skip]

theorem splitGo_first (sep : Str) (hsep : sep ≠ []) (rest a : Str) (h : noEarly sep a (sep ++ rest) = true) :
    splitGo sep 0 (a ++ (sep ++ rest)) = a :: splitGo sep 0 rest :=
  splitGo_noEarly sep _ _ (splitGo_sep sep hsep rest) a h

theorem splitGo_last (sep a : Str) (h : noEarly sep a [] = true) : splitGo sep 0 a = [a] := by
  have := splitGo_noEarly sep [] [] rfl a h
  rwa [List.append_nil] at this

def Disj (sep l : Str) : Prop := ∀ ch ∈ l, ch ∉ sep
instance (sep l : Str) : Decidable (Disj sep l) := by unfold Disj; infer_instance

theorem disj_singleton {c : Char} {l : Str} : Disj [c] l ↔ c ∉ l :=
  ⟨fun h hc => h c hc (List.mem_singleton_self c), fun h _ hch hm => h (List.mem_singleton.mp hm ▸ hch)⟩

theorem noEarly_disj (d : Char) (sep tail : Str) : ∀ a : Str, Disj (d :: sep) a →
    noEarly (d :: sep) a tail = true
  | [], _ => rfl
  | c :: a, h => by
    have hc : (d == c) = false := beq_false_of_ne fun e => h c List.mem_cons_self (e ▸ List.mem_cons_self)
    simp only [noEarly, List.cons_append, List.isPrefixOf_cons_cons, hc, Bool.false_and, Bool.not_false, Bool.true_and]
    exact noEarly_disj d sep tail a (fun ch hch => h ch (List.mem_cons_of_mem _ hch))

theorem pyJoin_cons (sep x : Str) {r : List Str} (h : r ≠ []) : pyJoin sep (x :: r) = x ++ sep ++ pyJoin sep r := by
  cases r with
  | nil => exact absurd rfl h
  | cons _ _ => rfl

theorem splitOn_join_disj (sep : Str) (hsep : sep ≠ []) (ls : List Str) (hne : ls ≠ []) (h : ∀ l ∈ ls, Disj sep l) :
    splitOn sep (pyJoin sep ls) = ls := by
  obtain ⟨d, sep', rfl⟩ := List.exists_cons_of_ne_nil hsep
  induction ls with
  | nil => exact absurd rfl hne
  | cons x r ih =>
    cases r with
    | nil => exact splitGo_last _ x (noEarly_disj d sep' [] x (h x List.mem_cons_self))
    | cons y r =>
      rw [pyJoin_cons _ _ (List.cons_ne_nil y r), List.append_assoc, splitOn,
        splitGo_first _ hsep _ x (noEarly_disj d sep' _ x (h x List.mem_cons_self))]
      exact congrArg (x :: ·) (ih (List.cons_ne_nil y r) fun l hl => h l (List.mem_cons_of_mem _ hl))

def unlines : List Str → Str
  | [] => []
  | l :: ls => l ++ nl :: unlines ls

theorem unlines_append (xs ys : List Str) : unlines (xs ++ ys) = unlines xs ++ unlines ys := by
  induction xs with
  | nil => rfl
  | cons x xs ih => simp [unlines, ih]

theorem unlines_append_eq_join (x : Str) : ∀ ls : List Str, unlines ls ++ x = pyJoin [nl] (ls ++ [x])
  | [] => rfl
  | l :: ls => by
    rw [unlines, List.append_assoc, List.cons_append, unlines_append_eq_join x ls, List.cons_append,
      pyJoin_cons _ _ (by simp), List.append_assoc]
    rfl

theorem splitOn_unlines (x : Str) (hx : nl ∉ x) (ls : List Str) (h : ∀ l ∈ ls, nl ∉ l) :
    splitOn [nl] (unlines ls ++ x) = ls ++ [x] := by
  rw [unlines_append_eq_join]
  refine splitOn_join_disj [nl] (by simp) _ (by simp) fun l hl => disj_singleton.mpr ?_
  rcases List.mem_append.mp hl with hl | hl
  · exact h l hl
  · exact List.mem_singleton.mp hl ▸ hx

theorem join_nl_eq_unlines (ls : List Str) (hne : ls ≠ []) : pyJoin [nl] ls ++ [nl] = unlines ls := by
  rcases List.eq_nil_or_concat ls with e | ⟨init, x, e⟩
  · exact absurd e hne
  · rw [e, List.concat_eq_append, ← unlines_append_eq_join, unlines_append, List.append_assoc]
    rfl

theorem not_mem_pyJoin (sep : Str) (x : Char) (hs : x ∉ sep) (ls : List Str) (h : ∀ l ∈ ls, x ∉ l) :
    x ∉ pyJoin sep ls := by
  induction ls with
  | nil => exact List.not_mem_nil
  | cons l r ih =>
    cases r with
    | nil => exact h l List.mem_cons_self
    | cons y r =>
      rw [pyJoin_cons _ _ (List.cons_ne_nil y r), List.mem_append, List.mem_append, not_or, not_or]
      exact ⟨⟨h l List.mem_cons_self, hs⟩, ih fun l' hl' => h l' (List.mem_cons_of_mem _ hl')⟩

theorem not_mem_unlines (x : Char) (hx : x ≠ nl) (ls : List Str) (h : ∀ l ∈ ls, x ∉ l) : x ∉ unlines ls := by
  rw [← List.append_nil (unlines ls), unlines_append_eq_join]
  refine not_mem_pyJoin [nl] x (fun hm => hx (List.mem_singleton.mp hm)) _ fun l hl => ?_
  rcases List.mem_append.mp hl with hl | hl
  · exact h l hl
  · exact List.mem_singleton.mp hl ▸ List.not_mem_nil

theorem unlines_eq_flatten (ls : List Str) : (ls.map fun l => l ++ [nl]).flatten = unlines ls := by
  induction ls with
  | nil => rfl
  | cons l ls ih => simp [unlines, ih]

theorem rstripNl_append (s t : Str) (h : rstripNl t ≠ []) : rstripNl (s ++ t) = s ++ rstripNl t := by
  induction s with
  | nil => rfl
  | cons c s ih =>
    simp only [List.cons_append, rstripNl, ih]
    cases hst : s ++ rstripNl t with
    | nil => exact absurd (List.append_eq_nil_iff.mp hst).2 h
    | cons d r => rfl

theorem rstripNl_line (l : Str) (h : nl ∉ l) : rstripNl (l ++ [nl]) = l := by
  induction l with
  | nil => simp [rstripNl]
  | cons c l ih =>
    simp only [List.mem_cons, not_or] at h
    simp only [List.cons_append, rstripNl, ih h.2]
    cases l with
    | nil =>
      have : (c == nl) = false := by simpa using fun e => h.1 e.symm
      simp [this]
    | cons d r => rfl

theorem lstripNl_eq_self (s : Str) (h : ∀ u, s ≠ nl :: u) : lstripNl s = s := by
  cases s with
  | nil => rfl
  | cons c s =>
    have : (c == nl) = false := by simpa using fun e => h s (by rw [e])
    simp [lstripNl, this]

theorem fileRoundTrip_id : ∀ s : Str, cr ∉ s → fileRoundTrip s = s
  | [], _ => rfl
  | c :: s, h => by
    simp only [List.mem_cons, not_or] at h
    have : (c == cr) = false := by simpa using fun e => h.1 e.symm
    have ih : fileRoundTripGo false s = s := fileRoundTrip_id s h.2
    simp only [fileRoundTrip, fileRoundTripGo, this, Bool.false_eq_true, ↓reduceIte, Bool.and_false, ih]

theorem nl_not_mem_natRepr (n : Nat) : nl ∉ natRepr n := by
  intro h
  have := Nat.isDigit_of_mem_toDigits (by decide) (by decide) h
  simp [nl] at this

theorem natRepr_ne_nil (n : Nat) : natRepr n ≠ [] := Nat.toDigits_ne_nil

theorem pyInt_natRepr (n : Nat) : pyInt (natRepr n) = .ok n := by
  have h1 : (natRepr n).isEmpty = false := by
    cases h : natRepr n with
    | nil => exact absurd h (natRepr_ne_nil n)
    | cons _ _ => rfl
  have h2 : (natRepr n).all Char.isDigit = true :=
    List.all_eq_true.mpr fun c hc => Nat.isDigit_of_mem_toDigits (by decide) (by decide) hc
  simp only [pyInt, h1, h2, Bool.not_false, Bool.and_self, ↓reduceIte]
  exact congrArg _ (Nat.ofDigitChars_toDigits (by decide) (by decide))

theorem widthOf_eq (rows : List (List Bool)) (m : Nat) (hne : rows ≠ [])
    (h : ∀ r ∈ rows, r.length = m) : Cxt.widthOf rows = m := by
  cases rows with
  | nil => exact absurd rfl hne
  | cons r rs => exact h r (by simp)

theorem mkCxt_ok (rows : List (List Bool)) (objs attrs : List Str) (d : Option Str)
    (hne : rows ≠ []) (ho : objs.length = rows.length) (hr : ∀ r ∈ rows, r.length = attrs.length) :
    mkCxt rows (some objs) (some attrs) d = .ok ⟨objs, attrs, rows, d⟩ := by
  have hw := widthOf_eq rows attrs.length hne hr
  have hall : (rows.all fun r => r.length == attrs.length) = true :=
    List.all_eq_true.mpr fun r hr' => by simpa using hr r hr'
  simp only [mkCxt, hw, hall, ho, Bool.not_true, Bool.false_eq_true, ↓reduceIte, Option.getD_some,
    bne_self_eq_false]

end Fca.Codec
