/-
  `POSet._transpose_hierarchy`, once, over what the loop needs of a dictionary `{int: set[int]}`: read with default,
  key test, write, `s | {x}`, and the read-after-write law.  A model of the function, whatever its dictionary is, owes
  the laws and the equation "my loop is `run`".
-/
import Fca.Lemmas.ListAux
namespace Fca.TransposeH

structure Ops (D : Type) where
  /-- `d.get(v, set())` -/
  rd : D → Nat → List Nat
  /-- `k in d` -/
  has : D → Nat → Bool
  /-- `d[k] = s` -/
  wr : D → Nat → List Nat → D
  /-- `s | {x}` -/
  add : List Nat → Nat → List Nat
  rd_wr : ∀ d k s v, rd (wr d k s) v = if v = k then s else rd d v
  has_wr : ∀ d k s v, has (wr d k s) v = true ↔ v = k ∨ has d v = true
  rd_of_not_has : ∀ d k, has d k = false → rd d k = []
  mem_add : ∀ s x k, x ∈ add s k ↔ x ∈ s ∨ x = k

/-- a dictionary given by an `Option`-valued lookup: `rd` reads with default `[]`, `has` asks whether the lookup answers -/
def Ops.ofGet {D : Type} (get : D → Nat → Option (List Nat)) (set : D → Nat → List Nat → D)
    (add : List Nat → Nat → List Nat)
    (get_set : ∀ d k s v, get (set d k s) v = if v = k then some s else get d v)
    (mem_add : ∀ s x k, x ∈ add s k ↔ x ∈ s ∨ x = k) : Ops D where
  rd := fun d v => (get d v).getD []
  has := fun d k => (get d k).isSome
  wr := set
  add := add
  rd_wr := fun d k s v => by
    rw [get_set]
    split <;> rfl
  has_wr := fun d k s v => by
    rw [get_set]
    by_cases e : v = k
    · rw [if_pos e]
      exact ⟨fun _ => Or.inl e, fun _ => rfl⟩
    · rw [if_neg e, or_iff_right e]
  rd_of_not_has := fun d k h => by
    cases hk : get d k with
    | none => rfl
    | some l => rw [hk] at h; cases h
  mem_add := mem_add

variable {D : Type} (O : Ops D)

/-- `for v in vs: d[v] = d.get(v, set()) | {k}` -/
def inner (k : Nat) (d : D) (vs : List Nat) : D := vs.foldl (fun d v => O.wr d v (O.add (O.rd d v) k)) d
/-- `if k not in d: d[k] = set()` -/
def ensure (d : D) (k : Nat) : D := if O.has d k = true then d else O.wr d k []
/-- `_transpose_hierarchy` continued from `d` -/
def run (h : List (Nat × List Nat)) (d : D) : D := h.foldl (fun d p => inner O p.1 (ensure O d p.1) p.2) d

theorem mem_rd_inner (k : Nat) (vs : List Nat) (d : D) (v x : Nat) :
    x ∈ O.rd (inner O k d vs) v ↔ x ∈ O.rd d v ∨ (v ∈ vs ∧ x = k) := by
  refine (ListAux.foldl_iff (m := fun d => x ∈ O.rd d v) (q := fun w => v = w ∧ x = k) (fun d w => ?_) vs d).trans
    (or_congr_right ⟨fun ⟨_, hw, e, hx⟩ => ⟨e ▸ hw, hx⟩, fun ⟨hv, hx⟩ => ⟨v, hv, rfl, hx⟩⟩)
  rw [O.rd_wr]
  by_cases e : v = w
  · rw [if_pos e, O.mem_add, e]
    exact or_congr_right (and_iff_right rfl).symm
  · rw [if_neg e]
    exact ⟨Or.inl, fun h => h.elim id fun h' => absurd h'.1 e⟩

theorem has_inner (k : Nat) (vs : List Nat) (d : D) (v : Nat) :
    O.has (inner O k d vs) v = true ↔ O.has d v = true ∨ v ∈ vs := by
  refine (ListAux.foldl_iff (m := fun d => O.has d v = true) (q := (v = ·)) (fun d w => ?_) vs d).trans
    (or_congr_right exists_eq_right')
  rw [O.has_wr, or_comm]

theorem rd_ensure (d : D) (k v : Nat) : O.rd (ensure O d k) v = O.rd d v := by
  unfold ensure
  by_cases hk : O.has d k = true
  · rw [if_pos hk]
  · rw [if_neg hk, O.rd_wr]
    by_cases e : v = k
    · rw [if_pos e, e, O.rd_of_not_has d k (Bool.eq_false_iff.mpr hk)]
    · rw [if_neg e]

theorem has_ensure (d : D) (k v : Nat) : O.has (ensure O d k) v = true ↔ O.has d v = true ∨ v = k := by
  unfold ensure
  by_cases hk : O.has d k = true
  · rw [if_pos hk]
    exact ⟨Or.inl, fun h => h.elim id fun e => e ▸ hk⟩
  · rw [if_neg hk, O.has_wr, or_comm]

theorem mem_rd_run (h : List (Nat × List Nat)) (d : D) (v x : Nat) :
    x ∈ O.rd (run O h d) v ↔ x ∈ O.rd d v ∨ ∃ p ∈ h, v ∈ p.2 ∧ x = p.1 :=
  ListAux.foldl_iff (m := fun d => x ∈ O.rd d v) (fun d p => by rw [mem_rd_inner, rd_ensure]) h d

theorem has_run (h : List (Nat × List Nat)) (d : D) (v : Nat) :
    O.has (run O h d) v = true ↔ O.has d v = true ∨ ∃ p ∈ h, v = p.1 ∨ v ∈ p.2 :=
  ListAux.foldl_iff (m := fun d => O.has d v = true) (fun d p => by rw [has_inner, has_ensure, or_assoc]) h d

theorem nodup_run (hadd : ∀ s k, s.Nodup → (O.add s k).Nodup) (h : List (Nat × List Nat)) (d : D)
    (hd : ∀ v, (O.rd d v).Nodup) : ∀ v, (O.rd (run O h d) v).Nodup := by
  refine List.foldlRecOn (motive := fun d => ∀ v, (O.rd d v).Nodup) h _ hd fun d hd p _ => ?_
  refine List.foldlRecOn (motive := fun d => ∀ v, (O.rd d v).Nodup) p.2 _ (fun v => ?_) fun d hd w _ v => ?_
  · rw [rd_ensure]
    exact hd v
  · rw [O.rd_wr]
    split
    · exact hadd _ _ (hd w)
    · exact hd v

end Fca.TransposeH
