/-
  What a line-diagram layout has to satisfy (`ChainTo`, `IsLevel`, `Anc`) and why `calc_levels` delivers it:
  levels satisfying the local recursion `goodLevel` are longest-chain lengths; the FIFO loop keeps `Inv`, which
  yields the recursion, and on an acyclic cover relation it places every node within the default fuel (`QueueInv`).
-/
import Fca.Model.LayoutMP
import Fca.Lemmas.ListAux
namespace Fca.Layout

/-- `ChainTo parents i k`: there is a chain of `k` cover steps from a maximal element (one without
    parents) down to `i`.  Every maximal chain of a finite poset consists of cover steps, so the
    longest such chain is the longest chain of the order. -/
inductive ChainTo (parents : List (List Nat)) : Nat → Nat → Prop where
  | top {i : Nat} : i < parents.length → parents.getD i [] = [] → ChainTo parents i 0
  | step {i p k : Nat} : i < parents.length → p ∈ parents.getD i [] → ChainTo parents p k →
      ChainTo parents i (k + 1)

def IsLevel (parents : List (List Nat)) (i k : Nat) : Prop :=
  ChainTo parents i k ∧ ∀ k', ChainTo parents i k' → k' ≤ k

/-- `Anc parents i j`: `j` is a proper ancestor of `i` (transitive closure of the cover relation) -/
inductive Anc (parents : List (List Nat)) : Nat → Nat → Prop where
  | parent {i p : Nat} : p ∈ parents.getD i [] → Anc parents i p
  | trans {i p j : Nat} : p ∈ parents.getD i [] → Anc parents p j → Anc parents i j

theorem goodLevel_iff {parents : List (List Nat)} {lv : List Nat} {i : Nat} :
    goodLevel parents lv i = true ↔
      if parents.getD i [] = [] then lv.getD i 0 = 0
      else (∃ q ∈ parents.getD i [], lv.getD q 0 + 1 = lv.getD i 0) ∧
        ∀ q ∈ parents.getD i [], lv.getD q 0 + 1 ≤ lv.getD i 0 := by
  unfold goodLevel
  split
  · rename_i h0
    rw [if_pos h0, beq_iff_eq]
  · rename_i p ps h0
    rw [if_neg (h0 ▸ List.cons_ne_nil p ps), h0]
    simp only [Bool.and_eq_true, List.any_eq_true, List.all_eq_true, beq_iff_eq, decide_eq_true_eq]

theorem goodLevel_nil {parents : List (List Nat)} {lv : List Nat} {i : Nat}
    (h : goodLevel parents lv i = true) (hp : parents.getD i [] = []) : lv.getD i 0 = 0 := by
  rwa [goodLevel_iff, if_pos hp] at h

theorem goodLevel_cons {parents : List (List Nat)} {lv : List Nat} {i : Nat}
    (h : goodLevel parents lv i = true) (hp : parents.getD i [] ≠ []) :
    (∃ q ∈ parents.getD i [], lv.getD q 0 + 1 = lv.getD i 0) ∧
    ∀ q ∈ parents.getD i [], lv.getD q 0 + 1 ≤ lv.getD i 0 := by
  rwa [goodLevel_iff, if_neg hp] at h

theorem chain_le_of_good {parents : List (List Nat)} {lv : List Nat}
    (hg : ∀ i, i < parents.length → goodLevel parents lv i = true) :
    ∀ {i k}, ChainTo parents i k → k ≤ lv.getD i 0 := by
  intro i k h
  induction h with
  | top _ _ => exact Nat.zero_le _
  | @step i p k hi hp _ ih =>
    exact Nat.le_trans (Nat.succ_le_succ ih) ((goodLevel_cons (hg i hi) (List.ne_nil_of_mem hp)).2 p hp)

theorem chain_of_good {parents : List (List Nat)} {lv : List Nat}
    (hr : ∀ i, i < parents.length → ∀ p ∈ parents.getD i [], p < parents.length)
    (hg : ∀ i, i < parents.length → goodLevel parents lv i = true) :
    ∀ b i, i < parents.length → lv.getD i 0 < b → ChainTo parents i (lv.getD i 0) := by
  intro b
  induction b with
  | zero => exact fun i _ hb => absurd hb (Nat.not_lt_zero _)
  | succ b ih =>
    intro i hi hb
    by_cases hp : parents.getD i [] = []
    · rw [goodLevel_nil (hg i hi) hp]; exact .top hi hp
    · obtain ⟨q, hqm, hq⟩ := (goodLevel_cons (hg i hi) hp).1
      rw [← hq] at hb ⊢
      exact .step hi hqm (ih q (hr i hi q hqm) (Nat.lt_of_succ_lt_succ hb))

theorem isLevel_of_good {parents : List (List Nat)} {lv : List Nat}
    (hr : ∀ i, i < parents.length → ∀ p ∈ parents.getD i [], p < parents.length)
    (hg : ∀ i, i < parents.length → goodLevel parents lv i = true) :
    ∀ i, i < parents.length → IsLevel parents i (lv.getD i 0) :=
  fun i hi => ⟨chain_of_good hr hg _ i hi (Nat.lt_succ_self _), fun _ h => chain_le_of_good hg h⟩

theorem distinctB_nodup {l : List (Rat × Rat)} (h : distinctB l = true) : l.Nodup := by
  induction l with
  | nil => exact List.nodup_nil
  | cons p ps ih =>
    rw [distinctB, Bool.and_eq_true, Bool.not_eq_true', List.contains_eq_mem, decide_eq_false_iff_not] at h
    exact List.nodup_cons.mpr ⟨h.1, ih h.2⟩

theorem holdsLayout_parts {parents : List (List Nat)} {lv : List Nat} {pos : List (Rat × Rat)}
    (h : holdsLayout parents lv pos = true) :
    pos.length = parents.length ∧ lv.length = parents.length ∧ pos.Nodup ∧
    (∀ i, i < parents.length → ∀ p ∈ parents.getD i [], p < parents.length ∧ yOf pos i < yOf pos p) ∧
    (∀ i, i < parents.length → goodLevel parents lv i = true) := by
  simp only [holdsLayout, Bool.and_eq_true, beq_iff_eq, List.all_eq_true, List.mem_range,
    decide_eq_true_eq] at h
  obtain ⟨⟨⟨⟨h1, h2⟩, h3⟩, h4⟩, h5⟩ := h
  exact ⟨h1, h2, distinctB_nodup h3, h4, h5⟩

theorem anc_induction {parents : List (List Nat)} {R : Nat → Nat → Prop} (htr : ∀ {a b c}, R a b → R b c → R a c)
    (hcov : ∀ i, i < parents.length → ∀ p ∈ parents.getD i [], p < parents.length ∧ R i p) :
    ∀ {i j}, Anc parents i j → i < parents.length → j < parents.length ∧ R i j := by
  intro i j h
  induction h with
  | parent hp => exact fun hi => hcov _ hi _ hp
  | trans hp _ ih =>
    intro hi
    obtain ⟨h1, h2⟩ := hcov _ hi _ hp
    obtain ⟨h3, h4⟩ := ih h1
    exact ⟨h3, htr h2 h4⟩

/-- comparing the values of a strictly monotone function is comparing the arguments, so it is injective -/
theorem eq_of_lt_iff {x y : Rat} {a b : Nat} (h₁ : x < y ↔ a < b) (h₂ : y < x ↔ b < a) (e : x = y) : a = b :=
  Nat.le_antisymm (Nat.not_lt.mp fun h => Rat.lt_irrefl (e ▸ h₂.mpr h))
    (Nat.not_lt.mp fun h => Rat.lt_irrefl (e ▸ h₁.mpr h))

/-- every level that occurs is an index of `levels_dict` (and a key of the multipartite layers) -/
theorem getD_lt_foldl_max (l : List Nat) {i : Nat} (hi : i < l.length) : l.getD i 0 < l.foldl max 0 + 1 :=
  Nat.lt_succ_of_le ((ListAux.le_foldl_max l 0).2 _ (ListAux.getD_mem l i 0 hi))

/-- `levels_dict[k]` is the set that networkx's `groups` forms for level `k`, in the same listing -/
theorem levelsDict_eq_map_mpGroup (l : List Nat) :
    levelsDict l = (List.range (l.foldl max 0 + 1)).map (mpGroup l) := rfl

theorem levelsDict_length_pos (l : List Nat) : 0 < (levelsDict l).length := by
  rw [levelsDict_eq_map_mpGroup, List.length_map, List.length_range]
  exact Nat.succ_pos _

theorem mem_mpGroup (l : List Nat) (k v : Nat) : v ∈ mpGroup l k ↔ v < l.length ∧ l.getD v 0 = k := by
  rw [mpGroup, List.mem_filter, List.mem_range, beq_iff_eq]

theorem mpGroup_nodup (l : List Nat) (k : Nat) : (mpGroup l k).Nodup :=
  List.Pairwise.filter _ List.nodup_range

theorem mpGroup_disjoint (l : List Nat) {a b : Nat} (hab : a ≠ b) : ∀ x ∈ mpGroup l a, x ∉ mpGroup l b :=
  fun x ha hb => hab (((mem_mpGroup l a x).mp ha).2.symm.trans ((mem_mpGroup l b x).mp hb).2)

/-- what the theorems assume about the poset interface data -/
structure WFP (P : PosetData) : Prop where
  par_lt  : ∀ i, i < P.n → ∀ p ∈ P.par i, p < P.n
  top_nil : ∀ t ∈ P.tops, P.par t = []
  nil_top : ∀ i, i < P.n → P.par i = [] → i ∈ P.tops

theorem lvAt_set (lv : List Int) (q j : Nat) (v : Int) :
    lvAt (lv.set q v) j = if j = q ∧ q < lv.length then v else lvAt lv j :=
  ListAux.getD_set lv q v (-1) j

theorem lvAt_set_ne (lv : List Int) (q : Nat) (v : Int) (j : Nat) (h : j ≠ q) : lvAt (lv.set q v) j = lvAt lv j := by
  rw [lvAt_set, if_neg (fun e => h e.1)]

theorem set_lvAt_self (lv : List Int) (q : Nat) : lv.set q (lvAt lv q) = lv := by
  by_cases h : q < lv.length
  · rw [lvAt, ListAux.getD_eq_get _ _ _ h, List.set_getElem_self]
  · exact List.set_eq_of_length_le (Nat.le_of_not_lt h)

theorem lvAt_replicate (n i : Nat) : lvAt (List.replicate n (-1)) i = -1 :=
  ListAux.getD_replicate_self n i (-1)

theorem maxL_eq_max? (l : List Int) : maxL l = l.max? := by
  induction l with
  | nil => rfl
  | cons x xs ih =>
    rw [maxL, ih, List.max?_cons]
    cases xs.max? with
    | none => rfl
    | some m => rfl

theorem maxL_isSome {l : List Int} (h : l ≠ []) : ∃ m, maxL l = some m :=
  Option.isSome_iff_exists.mp (maxL_eq_max? l ▸ List.isSome_max?_of_ne_nil h)

theorem maxL_spec {l : List Int} {m : Int} (h : maxL l = some m) : m ∈ l ∧ ∀ x ∈ l, x ≤ m :=
  List.max?_eq_some_iff.mp (maxL_eq_max? l ▸ h)

theorem newLevel_top {P : PosetData} {lv : List Int} {q : Nat} (h : q ∈ P.tops) : newLevel P lv q = some 0 :=
  if_pos h

theorem newLevel_nontop {P : PosetData} {lv : List Int} {q : Nat} (h : q ∉ P.tops) :
    newLevel P lv q = (maxL ((P.par q).map (lvAt lv))).map (· + 1) :=
  if_neg h

theorem newLevel_congr (P : PosetData) (lv lv' : List Int) (i : Nat)
    (h : ∀ p ∈ P.par i, lvAt lv' p = lvAt lv p) : newLevel P lv' i = newLevel P lv i := by
  rw [newLevel, newLevel, List.map_congr_left h]

/-- placed nodes satisfy the assignment formula, with all parents placed -/
def GoodI (P : PosetData) (lv : List Int) (i : Nat) : Prop :=
  0 ≤ lvAt lv i → newLevel P lv i = some (lvAt lv i) ∧ (i ∉ P.tops → ∀ p ∈ P.par i, 0 ≤ lvAt lv p)

def Inv (P : PosetData) (lv : List Int) (queue : List Nat) : Prop :=
  (∀ i, GoodI P lv i) ∧ ∀ q ∈ queue, q ∈ P.tops ∨ ∀ p ∈ P.par q, 0 ≤ lvAt lv p

theorem mem_toVisit {P : PosetData} {lv : List Int} {q c : Nat} :
    c ∈ toVisit P lv q ↔ c ∈ P.chi q ∧ lvAt lv c = -1 ∧ ∀ p ∈ P.par c, 0 ≤ lvAt lv p := by
  simp only [toVisit, List.mem_filter, Bool.and_eq_true, beq_iff_eq, List.all_eq_true, decide_eq_true_eq]

theorem inv_step {P : PosetData} {lv : List Int} {q : Nat} {rest : List Nat} {v : Int}
    (hI : Inv P lv (q :: rest)) (hv : newLevel P lv q = some v) :
    Inv P (lv.set q v) (rest ++ toVisit P (lv.set q v) q) := by
  obtain ⟨hg, hq⟩ := hI
  by_cases h0 : 0 ≤ lvAt lv q
  · -- already placed: the assignment does not change anything
    have : v = lvAt lv q := by
      have := (hg q h0).1
      rw [hv] at this
      exact Option.some.inj this
    subst this
    rw [set_lvAt_self]
    refine ⟨hg, ?_⟩
    intro r hr
    rcases List.mem_append.mp hr with hr | hr
    · exact hq r (List.mem_cons_of_mem _ hr)
    · exact Or.inr (mem_toVisit.mp hr).2.2
  · have hne : ∀ p, 0 ≤ lvAt lv p → lvAt (lv.set q v) p = lvAt lv p :=
      fun p hp => lvAt_set_ne lv q v p (fun e => h0 (e ▸ hp))
    refine ⟨?_, ?_⟩
    · intro i hi
      by_cases hiq : i = q
      · subst hiq
        rw [lvAt_set] at hi ⊢
        split at hi
        · rename_i hc
          simp only [hc, and_self, ↓reduceIte]
          rcases hq i List.mem_cons_self with ht | hp
          · rw [newLevel_top ht] at hv ⊢
            exact ⟨hv, fun hnt => absurd ht hnt⟩
          · refine ⟨?_, fun _ p hp' => by rw [hne p (hp p hp')]; exact hp p hp'⟩
            rw [newLevel_congr P lv _ i (fun p hp' => hne p (hp p hp'))]
            exact hv
        · exact absurd hi h0
      · rw [lvAt_set_ne lv q v i hiq] at hi ⊢
        obtain ⟨h1, h2⟩ := hg i hi
        by_cases ht : i ∈ P.tops
        · rw [newLevel_top ht] at h1 ⊢
          exact ⟨h1, fun hnt => absurd ht hnt⟩
        · refine ⟨?_, fun _ p hp => by rw [hne p (h2 ht p hp)]; exact h2 ht p hp⟩
          rw [newLevel_congr P lv _ i (fun p hp => hne p (h2 ht p hp))]
          exact h1
    · intro r hr
      rcases List.mem_append.mp hr with hr | hr
      · rcases hq r (List.mem_cons_of_mem _ hr) with h | h
        · exact Or.inl h
        · exact Or.inr (fun p hp => by rw [hne p (h p hp)]; exact h p hp)
      · exact Or.inr (mem_toVisit.mp hr).2.2

theorem levelsLoop_cons (P : PosetData) (fuel q : Nat) (rest : List Nat) (lv : List Int) :
    levelsLoop P (fuel + 1) (q :: rest) lv =
      match newLevel P lv q with
      | none => .error .ValueError
      | some v => levelsLoop P fuel (rest ++ toVisit P (lv.set q v) q) (lv.set q v) := rfl

theorem levelsLoop_inv {P : PosetData} (fuel : Nat) (queue : List Nat) (lv lvf : List Int)
    (hI : Inv P lv queue) (h : levelsLoop P fuel queue lv = .ok lvf) :
    (∀ i, GoodI P lvf i) ∧ lvf.length = lv.length := by
  induction fuel generalizing queue lv with
  | zero =>
    cases queue with
    | nil => cases h; exact ⟨hI.1, rfl⟩
    | cons q rest => cases h
  | succ fuel ih =>
    cases queue with
    | nil => cases h; exact ⟨hI.1, rfl⟩
    | cons q rest =>
      rw [levelsLoop_cons] at h
      split at h
      · cases h
      · rename_i v hv
        obtain ⟨a, b⟩ := ih _ _ (inv_step hI hv) h
        exact ⟨a, by rw [b, List.length_set]⟩

theorem calcLevels_ok {P : PosetData} {fuel : Nat} {l : List Nat} {ld : List (List Nat)}
    (h : calcLevels P fuel = .ok (l, ld)) :
    ∃ lvf, levelsLoop P fuel P.tops (List.replicate P.n (-1)) = .ok lvf ∧ (∀ x ∈ lvf, 0 ≤ x) ∧
      l = lvf.map Int.toNat ∧ ld = levelsDict l := by
  unfold calcLevels at h
  split at h
  · cases h
  · rename_i lvf hloop
    split at h
    · cases h
    · split at h
      · cases h
      · rename_i hany
        cases h
        refine ⟨lvf, hloop, fun x hx => Int.not_lt.mp fun hx0 => hany ?_, rfl, rfl⟩
        exact List.any_eq_true.mpr ⟨x, hx, decide_eq_true hx0⟩

theorem inv_init (P : PosetData) : Inv P (List.replicate P.n (-1)) P.tops :=
  ⟨fun i hi => absurd hi (by rw [lvAt_replicate]; decide), fun _ hq => Or.inl hq⟩

theorem calcLevels_good {P : PosetData} (hP : WFP P) {fuel : Nat} {l : List Nat} {ld : List (List Nat)}
    (h : calcLevels P fuel = .ok (l, ld)) :
    l.length = P.n ∧ ld = levelsDict l ∧ ∀ i, i < P.n → goodLevel P.parents l i = true := by
  obtain ⟨lvf, hloop, hpos, rfl, rfl⟩ := calcLevels_ok h
  obtain ⟨hg, hlen⟩ := levelsLoop_inv fuel _ _ lvf (inv_init P) hloop
  rw [List.length_replicate] at hlen
  have hat : ∀ i, i < P.n → 0 ≤ lvAt lvf i ∧ ((lvf.map Int.toNat).getD i 0 : Int) = lvAt lvf i := by
    intro i hi
    have hi' : i < lvf.length := hlen ▸ hi
    have h0 : 0 ≤ lvf[i] := hpos _ (List.getElem_mem hi')
    rw [lvAt, ListAux.getD_eq_get _ _ _ hi', ListAux.getD_map Int.toNat lvf i 0 0 hi', ListAux.getD_eq_get _ _ _ hi']
    exact ⟨h0, Int.toNat_of_nonneg h0⟩
  refine ⟨by rw [List.length_map, hlen], rfl, fun i hi => goodLevel_iff.mpr ?_⟩
  obtain ⟨hnl, _⟩ := hg i (hat i hi).1
  have hil := (hat i hi).2
  show if P.par i = [] then _ else _
  by_cases ht : i ∈ P.tops
  · rw [newLevel_top ht] at hnl
    rw [if_pos (hP.top_nil i ht)]
    exact Int.ofNat_eq_zero.mp (hil.trans (Option.some.inj hnl).symm)
  · rw [newLevel_nontop ht, Option.map_eq_some_iff] at hnl
    obtain ⟨m, hm, hm1⟩ := hnl
    obtain ⟨hmem, hle⟩ := maxL_spec hm
    rw [if_neg (fun e => ht (hP.nil_top i hi e))]
    constructor
    · obtain ⟨q, hq, hqm⟩ := List.mem_map.mp hmem
      refine ⟨q, hq, Int.ofNat_inj.mp ?_⟩
      rw [Int.natCast_add, (hat q (hP.par_lt i hi q hq)).2, hqm, hil, ← hm1]
      rfl
    · intro q hq
      refine Int.ofNat_le.mp ?_
      rw [Int.natCast_add, (hat q (hP.par_lt i hi q hq)).2, hil, ← hm1]
      exact Int.add_le_add_right (hle _ (List.mem_map.mpr ⟨q, hq, rfl⟩)) 1

/-- the hypotheses under which `calc_levels` is shown to return: the data is a finite acyclic cover
    relation seen from both sides -/
structure WFP2 (P : PosetData) : Prop extends WFP P where
  chi_sub    : ∀ q, q < P.n → ∀ c ∈ P.chi q, c < P.n ∧ q ∈ P.par c
  par_sub    : ∀ c, c < P.n → ∀ q ∈ P.par c, c ∈ P.chi q
  tops_nodup : P.tops.Nodup
  tops_lt    : ∀ t ∈ P.tops, t < P.n
  chi_nodup  : ∀ q, q < P.n → (P.chi q).Nodup
  acyclic    : ∃ rk : Nat → Nat, ∀ i, i < P.n → ∀ p ∈ P.par i, rk p < rk i

theorem WFP2.chi_par {P : PosetData} (hP : WFP2 P) (q c : Nat) (hq : q < P.n) :
    c ∈ P.chi q ↔ c < P.n ∧ q ∈ P.par c :=
  ⟨fun h => hP.chi_sub q hq c h, fun h => hP.par_sub c h.1 q h.2⟩

theorem newLevel_ready {P : PosetData} (hP : WFP P) {lv : List Int} {q : Nat} (hq : q < P.n)
    (hr : ∀ p ∈ P.par q, 0 ≤ lvAt lv p) : ∃ v, newLevel P lv q = some v ∧ 0 ≤ v := by
  by_cases ht : q ∈ P.tops
  · exact ⟨0, newLevel_top ht, Int.le_refl _⟩
  · obtain ⟨m, hm⟩ := maxL_isSome (l := (P.par q).map (lvAt lv))
      (fun e => ht (hP.nil_top q hq (List.map_eq_nil_iff.mp e)))
    obtain ⟨p, hp, rfl⟩ := List.mem_map.mp (maxL_spec hm).1
    exact ⟨lvAt lv p + 1, by rw [newLevel_nontop ht, hm]; rfl, Int.le_add_one (hr p hp)⟩

/-- the loop variant is the number of entries `-1`: every placement overwrites one -/
theorem countP_neg_set {lv : List Int} {q : Nat} {v : Int} (hl : q < lv.length)
    (h0 : lvAt lv q < 0) (hv : 0 ≤ v) : (lv.set q v).countP (· < 0) + 1 = lv.countP (· < 0) := by
  rw [lvAt, ListAux.getD_eq_get _ _ _ hl] at h0
  rw [List.countP_set hl, if_pos (decide_eq_true h0), if_neg (by rw [decide_eq_true_eq]; exact Int.not_lt.mpr hv),
    Nat.add_zero, Nat.sub_add_cancel (List.countP_pos_iff.mpr ⟨_, List.getElem_mem hl, decide_eq_true h0⟩)]

/-- the queue lists, once each, the unplaced nodes that can be placed -/
structure QueueInv (P : PosetData) (lv : List Int) (queue : List Nat) : Prop where
  len   : lv.length = P.n
  ge    : ∀ i, -1 ≤ lvAt lv i
  nodup : queue.Nodup
  mem   : ∀ i, i ∈ queue ↔ i < P.n ∧ lvAt lv i < 0 ∧ ∀ p ∈ P.par i, 0 ≤ lvAt lv p

theorem queueInv_step {P : PosetData} (hP : WFP2 P) {lv : List Int} {q : Nat} {rest : List Nat}
    (hQ : QueueInv P lv (q :: rest)) {v : Int} (hv : 0 ≤ v) :
    QueueInv P (lv.set q v) (rest ++ toVisit P (lv.set q v) q) := by
  obtain ⟨hqn, hq0, _⟩ := (hQ.mem q).mp List.mem_cons_self
  obtain ⟨hqrest, hrnd⟩ := List.nodup_cons.mp hQ.nodup
  have hatq : lvAt (lv.set q v) q = v := by rw [lvAt_set, if_pos ⟨rfl, hQ.len ▸ hqn⟩]
  have hmono : ∀ p, 0 ≤ lvAt lv p → 0 ≤ lvAt (lv.set q v) p := by
    intro p hp
    by_cases e : p = q
    · rw [e, hatq]; exact hv
    · rw [lvAt_set_ne lv q v p e]; exact hp
  have htv : ∀ c, c ∈ toVisit P (lv.set q v) q ↔ (c < P.n ∧ q ∈ P.par c) ∧ lvAt (lv.set q v) c = -1 ∧
      ∀ p ∈ P.par c, 0 ≤ lvAt (lv.set q v) p := fun c => by rw [mem_toVisit, hP.chi_par q c hqn]
  refine ⟨by rw [List.length_set]; exact hQ.len, fun i => ?_, ?_, fun i => ⟨fun hi => ?_, fun ⟨hin, hi0, hr⟩ => ?_⟩⟩
  · by_cases e : i = q
    · rw [e, hatq]; exact Int.le_trans (by decide) hv
    · rw [lvAt_set_ne lv q v i e]; exact hQ.ge i
  · refine List.nodup_append.mpr ⟨hrnd, List.Pairwise.filter _ (hP.chi_nodup q hqn), ?_⟩
    -- a queued node has all parents placed, a visited child has the unplaced parent `q`
    intro a ha b hb hab
    subst hab
    exact Int.not_le.mpr hq0 (((hQ.mem a).mp (List.mem_cons_of_mem _ ha)).2.2 q ((htv a).mp hb).1.2)
  · rcases List.mem_append.mp hi with hi | hi
    · obtain ⟨h1, h2, h3⟩ := (hQ.mem i).mp (List.mem_cons_of_mem _ hi)
      exact ⟨h1, by rw [lvAt_set_ne lv q v i (fun e => hqrest (e ▸ hi))]; exact h2,
        fun p hp => hmono p (h3 p hp)⟩
    · obtain ⟨⟨h1, _⟩, h3, h4⟩ := (htv i).mp hi
      exact ⟨h1, by rw [h3]; decide, h4⟩
  · have hiq : i ≠ q := fun e => Int.not_le.mpr hi0 (by rw [e, hatq]; exact hv)
    rw [lvAt_set_ne lv q v i hiq] at hi0
    by_cases hold : ∀ p ∈ P.par i, 0 ≤ lvAt lv p
    · exact List.mem_append_left _ ((List.mem_cons.mp ((hQ.mem i).mpr ⟨hin, hi0, hold⟩)).resolve_left hiq)
    · -- became ready through `q`
      have hqpar : q ∈ P.par i := Classical.byContradiction fun hnq =>
        hold fun p hp => lvAt_set_ne lv q v p (fun e => hnq (e ▸ hp)) ▸ hr p hp
      refine List.mem_append_right _ ((htv i).mpr ⟨⟨hin, hqpar⟩, ?_, hr⟩)
      rw [lvAt_set_ne lv q v i hiq]
      exact Int.le_antisymm (Int.le_of_lt_add_one hi0) (hQ.ge i)

theorem levelsLoop_total {P : PosetData} (hP : WFP2 P) (fuel : Nat) : ∀ (queue : List Nat) (lv : List Int),
    QueueInv P lv queue → lv.countP (· < 0) ≤ fuel →
    ∃ lvf, levelsLoop P fuel queue lv = .ok lvf ∧ QueueInv P lvf [] := by
  induction fuel with
  | zero =>
    intro queue lv hQ hf
    cases queue with
    | nil => exact ⟨lv, rfl, hQ⟩
    | cons q rest =>
      obtain ⟨hqn, hq0, _⟩ := (hQ.mem q).mp List.mem_cons_self
      exact absurd (countP_neg_set (hQ.len ▸ hqn) hq0 (Int.le_refl 0) ▸ hf) (Nat.not_succ_le_zero _)
  | succ fuel ih =>
    intro queue lv hQ hf
    cases queue with
    | nil => exact ⟨lv, rfl, hQ⟩
    | cons q rest =>
      obtain ⟨hqn, hq0, hqr⟩ := (hQ.mem q).mp List.mem_cons_self
      obtain ⟨v, hv, hv0⟩ := newLevel_ready hP.toWFP hqn hqr
      rw [levelsLoop_cons, hv]
      exact ih _ _ (queueInv_step hP hQ hv0) (Nat.le_of_succ_le_succ
        (Nat.le_trans (Nat.le_of_eq (countP_neg_set (hQ.len ▸ hqn) hq0 hv0)) hf))

/-- with an empty queue nothing is left unplaced: an unplaced node of least rank would be queued -/
theorem all_placed {P : PosetData} (hP : WFP2 P) {lv : List Int} (hQ : QueueInv P lv []) (i : Nat) (hi : i < P.n) :
    0 ≤ lvAt lv i := by
  obtain ⟨rk, hrk⟩ := hP.acyclic
  refine Int.not_lt.mp fun hneg => ?_
  obtain ⟨j, ⟨hj, hj0⟩, hmin⟩ := ListAux.exists_min_measure rk (P := fun j => j < P.n ∧ lvAt lv j < 0) ⟨hi, hneg⟩
  exact List.not_mem_nil ((hQ.mem j).mpr ⟨hj, hj0, fun p hp => Int.not_lt.mp fun hp0 =>
    Nat.not_le.mpr (hrk j hj p hp) (hmin p ⟨hP.par_lt j hj p hp, hp0⟩)⟩)

theorem le_defaultFuel (P : PosetData) : P.n ≤ defaultFuel P :=
  Nat.le_succ_of_le (Nat.le_add_left _ _)

/-- one unit of fuel per node is enough: every pop places a node -/
theorem calcLevels_total {P : PosetData} (hP : WFP2 P) (hn : P.n ≠ 0) {fuel : Nat} (hf : P.n ≤ fuel) :
    ∃ l ld, calcLevels P fuel = .ok (l, ld) := by
  have hinit : QueueInv P (List.replicate P.n (-1)) P.tops := by
    refine ⟨List.length_replicate, fun i => by rw [lvAt_replicate]; exact Int.le_refl _, hP.tops_nodup,
      fun i => ⟨fun hi => ⟨hP.tops_lt i hi, by rw [lvAt_replicate]; decide, fun p hp => absurd (hP.top_nil i hi ▸ hp) List.not_mem_nil⟩,
        fun ⟨hi, _, hr⟩ => ?_⟩⟩
    refine hP.nil_top i hi (List.eq_nil_iff_forall_not_mem.mpr fun p hp => ?_)
    have := hr p hp
    rw [lvAt_replicate] at this
    exact absurd this (by decide)
  obtain ⟨lvf, hloop, hQf⟩ := levelsLoop_total hP _ _ _ hinit
    (Nat.le_trans List.countP_le_length (Nat.le_trans (Nat.le_of_eq List.length_replicate) hf))
  have hany : lvf.any (· < 0) = false := by
    refine Bool.eq_false_iff.mpr fun h => ?_
    obtain ⟨x, hx, hx0⟩ := List.any_eq_true.mp h
    obtain ⟨i, hi, rfl⟩ := List.getElem_of_mem hx
    have := all_placed hP hQf i (hQf.len ▸ hi)
    rw [lvAt, ListAux.getD_eq_get _ _ _ hi] at this
    exact Int.not_lt.mpr this (of_decide_eq_true hx0)
  rw [calcLevels, hloop]
  simp only [hn, hany, Bool.false_eq_true, ↓reduceIte]
  exact ⟨_, _, rfl⟩

end Fca.Layout
