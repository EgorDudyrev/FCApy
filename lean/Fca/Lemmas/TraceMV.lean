/-
  The many-valued half of C17.  In a lattice of genuine pattern concepts of an interval training context
  satisfaction is inherited upward for ANY traced interval context: the early exit of `MVContext.extension_i`
  does not change its result, and the interval hull (`IntervalPS.intention_i`) of a sub-extent is narrower,
  entry by entry (the empty extent's `None` is satisfied by nothing).
-/
import Fca.Lemmas.Trace
import Fca.Spec.TraceMV
import Fca.Lemmas.PS
import Fca.Lemmas.MVContext
namespace Fca.Trace

theorem ipsExtensionI_eq_spec (data : List (Int × Int)) (d : Option (Int × Int)) (base : List Nat) :
    ipsExtensionI data d base = Spec.PS.ext Spec.PS.ivCovers data d base := by
  unfold ipsExtensionI Spec.PS.ext
  cases d with
  | none => exact (PS.ext_eq_nil (fun _ => rfl) data base).symm
  | some v =>
    obtain ⟨lo, hi⟩ := v
    apply List.filter_congr
    intro g _
    cases data[g]? with
    | none => simp
    | some w => obtain ⟨a, b⟩ := w; simp [Spec.PS.ivCovers]

theorem mvExtLoop_eq (K : MVCtx) (desc : Spec.MVDesc) (ext : List Nat) :
    mvExtLoop K desc ext
      = ext.filter fun g => desc.all fun pd => ((K.cols.getD pd.1 [])[g]?).any (Spec.PS.ivCovers pd.2) :=
  narrowLoop_eq (fun pd g => ((K.cols.getD pd.1 [])[g]?).any (Spec.PS.ivCovers pd.2)) id (mvExtLoop K) (fun _ => rfl)
    desc (fun ⟨p, d⟩ _ rest ext => by simp only [mvExtLoop, ipsExtensionI_eq_spec, Spec.PS.ext, id]) ext

theorem mem_mvExtensionI_covers (K : MVCtx) (desc : Spec.MVDesc) (g : Nat) :
    g ∈ mvExtensionI K desc ↔
      g < K.nObjects ∧ ∀ pd ∈ desc, ((K.cols.getD pd.1 [])[g]?).any (Spec.PS.ivCovers pd.2) = true := by
  rw [mvExtensionI, mvExtLoop_eq, List.mem_filter, List.mem_range, List.all_eq_true]

theorem mem_mvExtensionI (K : MVCtx) (desc : Spec.MVDesc) (g : Nat) :
    g ∈ mvExtensionI K desc ↔ Spec.mvSatisfies K desc g = true := by
  rw [mem_mvExtensionI_covers]
  unfold Spec.mvSatisfies
  simp only [Bool.and_eq_true, decide_eq_true_eq, List.all_eq_true]
  refine and_congr_right fun _ => forall₂_congr fun pd _ => ?_
  rcases pd.2 with _ | ⟨lo, hi⟩ <;> rcases (K.cols.getD pd.1 [])[g]? with _ | ⟨a, b⟩ <;> rfl

/-- The hull of a sub-extent covers no more than the hull of the extent: it is the most specific description
    covering the sub-extent (`IsHull.covers_least`), and the larger hull covers it too.  The empty sub-extent is
    described by `None`, which covers nothing. -/
theorem ivIntention_anti (data : List (Int × Int)) (A B : List Nat) (hBA : ∀ x ∈ B, x ∈ A) :
    ∀ v, Spec.PS.ivCovers (MV.Col.ivIntention data B) v = true →
      Spec.PS.ivCovers (MV.Col.ivIntention data A) v = true := by
  cases B with
  | nil => exact fun v h => nomatch h
  | cons b bs =>
    cases A with
    | nil => exact nomatch hBA b List.mem_cons_self
    | cons a as =>
      obtain ⟨_, eA, HA⟩ := MV.ivIntention_isHull data a as
      obtain ⟨_, eB, HB⟩ := MV.ivIntention_isHull data b bs
      rw [eA, eB]
      exact HB.covers_least fun g hg => HA.covers g (hBA g hg)

theorem pyIntentionI_eq_mv (data : List (Int × Int)) (A : List Nat) (hA : ∀ g ∈ A, g < data.length) :
    PS.pyIntentionI data A = .ok (MV.Col.ivIntention data A) := by
  rw [PS.pyIntentionI_eq_take, PS.npTake_eq data (0, 0) A hA, MV.ivIntention_eq]
  rfl

/-- On in-range objects `MVContext.intention_i` is the list of the columns' hulls, numbered from `p`.  This closed
    form is what the field `Spec.IsMVTraceLatticeOf.wf` buys: with it every extent is in range of every column
    (`mvExtent_lt`). -/
theorem mvIntLoop_eq (A : List Nat) : ∀ (cols : List (List (Int × Int))) (p : Nat),
    (∀ c ∈ cols, ∀ g ∈ A, g < c.length) →
    Spec.mvIntLoop A cols p = .ok ((cols.zipIdx p).map fun ci => (ci.2, MV.Col.ivIntention ci.1 A))
  | [], _, _ => rfl
  | col :: cols, p, hA => by
    rw [Spec.mvIntLoop, pyIntentionI_eq_mv col A (hA col List.mem_cons_self),
      mvIntLoop_eq A cols (p + 1) fun c hc => hA c (List.mem_cons_of_mem _ hc)]
    rfl

section mv
variable {KTrain : MVCtx} {cs : List (List Nat × Spec.MVDesc)} {L : Lat}
  (hL : Spec.IsMVTraceLatticeOf KTrain cs L)
include hL

theorem mvConcept_at {i : Nat} (hi : i < cs.length) :
    Spec.IsPatternConcept KTrain ((cs.map Prod.fst).getD i [], (cs.map Prod.snd).getD i []) :=
  hL.concepts (_, _) (getD_fst_snd_mem cs hi [] [])

theorem mvExtent_lt {i : Nat} (hi : i < cs.length) :
    ∀ c ∈ KTrain.cols, ∀ g ∈ (cs.map Prod.fst).getD i [], g < c.length := fun c hc g hg =>
  hL.wf c hc ▸ ((mem_mvExtensionI_covers ..).mp ((mvConcept_at hL hi).2.2.1 g hg)).1

theorem mvIntent_eq {i : Nat} (hi : i < cs.length) :
    (cs.map Prod.snd).getD i []
      = (KTrain.cols.zipIdx 0).map fun ci => (ci.2, MV.Col.ivIntention ci.1 ((cs.map Prod.fst).getD i [])) := by
  have h := (mvConcept_at hL hi).2.1
  rw [Spec.mvIntentionI, mvIntLoop_eq _ _ 0 (mvExtent_lt hL hi)] at h
  exact h.symm

theorem mvIntent_keys {i : Nat} (hi : i < cs.length) :
    ((cs.map Prod.snd).getD i []).map Prod.fst = List.range KTrain.cols.length := by
  rw [mvIntent_eq hL hi, List.map_map, List.range_eq_range']
  exact List.zipIdx_map_snd ..

theorem _root_.Fca.Spec.IsMVTraceLatticeOf.orderData : Spec.IsOrderData (cs.map Prod.fst) L := by
  have hlen : (cs.map Prod.fst).length = cs.length := List.length_map ..
  exact ⟨fun i hi => (mvConcept_at hL (hlen ▸ hi)).1, hlen ▸ hL.size,
    fun i hi => hL.covers i (hlen ▸ hi), hlen ▸ hL.top_lt, fun i hi => hL.top_greatest i (hlen ▸ hi)⟩

/-- among genuine pattern concepts of an interval training context, a concept with a larger extent describes
    at least the objects of ANY traced interval context (seen or unseen, whatever its shape) the smaller one does -/
theorem upward_mv (K : MVCtx) :
    Spec.Upward (cs.map Prod.fst) (fun c => mvExtensionI K ((cs.map Prod.snd).getD c [])) := by
  intro i j hi hj hsub g hg
  simp only [List.length_map] at hi hj
  rw [mem_mvExtensionI_covers, mvIntent_eq hL hj] at hg
  rw [mem_mvExtensionI_covers, mvIntent_eq hL hi]
  refine ⟨hg.1, fun pd hpd => ?_⟩
  obtain ⟨ci, hci, rfl⟩ := List.mem_map.mp hpd
  obtain ⟨v, hv, hc⟩ := (Option.any_eq_true ..).mp (hg.2 _ (List.mem_map_of_mem hci))
  exact (Option.any_eq_true ..).mpr ⟨v, hv, ivIntention_anti ci.1 _ _ hsub v hc⟩

end mv

theorem mem_mvDescribing {K : MVCtx} {intents : List Spec.MVDesc} {g i : Nat} :
    i ∈ Spec.mvDescribing K intents g ↔ i < intents.length ∧ g ∈ mvExtensionI K (intents.getD i []) := by
  rw [Spec.mvDescribing, List.mem_filter, List.mem_range, mem_mvExtensionI]

theorem traceMV_spec {KTrain : MVCtx} {cs : List (List Nat × Spec.MVDesc)} {L : Lat}
    (hL : Spec.IsMVTraceLatticeOf KTrain cs L) (hmono : L.isMonotone = false) (K : MVCtx)
    (hnames : K.objNames.length = K.nObjects) (useIdx : Bool) :
    ∃ b t, traceMV L (cs.map Prod.snd) K useIdx = .ok (b, t) ∧
      DictOf b K.nObjects (Spec.keyOf useIdx K.objNames)
        (fun g i => i ∈ Spec.mvMinimalDescribing K (cs.map Prod.fst) (cs.map Prod.snd) g) ∧
      DictOf t K.nObjects (Spec.keyOf useIdx K.objNames)
        (fun g i => i ∈ Spec.mvDescribing K (cs.map Prod.snd) g) :=
  traceContext_spec hL.orderData K.objNames useIdx hmono hnames
    (fun _ g hg => ((mem_mvExtensionI_covers K _ g).mp hg).1) (upward_mv hL K) (Spec.mvDescribing K (cs.map Prod.snd))
    fun g _ i => by rw [mem_mvDescribing, List.length_map, List.length_map]

/-- `ipsExtensionI` of Model/Trace is what the C13 model of `IntervalPS.extension_i` returns on in-range base
    objects (and the C13 theorems say `IntervalNumpyPS.extension_i` returns the same) -/
theorem ipsExtensionI_eq_py (data : List (Int × Int)) (d : Option (Int × Int)) (base : List Nat)
    (hb : ∀ g ∈ base, g < data.length) :
    PS.pyExtensionI data (PS.IvDesc.ofOpt d) (some base) = .ok (ipsExtensionI data d base) := by
  rw [PS.pyExtensionI_exact data _ d (PS.ivDescSem_ofOpt d) (some base)
    (by intro bs h; cases h; exact hb), ipsExtensionI_eq_spec]
  rfl

/-- the interval context of Model/Trace as a C14 many-valued context -/
def toMV (K : MVCtx) : MV.MVCtx := ⟨K.cols.map MV.Col.interval, K.nObjects, K.objNames⟩

/-- a description of Model/Trace as a C14 description -/
def toMVDesc (d : Spec.MVDesc) : MV.Desc := d.map fun pd => (pd.1, MV.DVal.ival pd.2)

/-- the description required by `IsPatternConcept` is the C14 model's `MVContext.intention_i` of the extent -/
theorem mvIntentionI_eq_mv (K : MVCtx) (hwf : Spec.MVWF K) (A : List Nat) (hA : ∀ g ∈ A, g < K.nObjects)
    (d : Spec.MVDesc) (h : Spec.mvIntentionI K A = .ok d) : (toMV K).intentionI A = toMVDesc d := by
  rw [Spec.mvIntentionI, mvIntLoop_eq A K.cols 0 fun c hc g hg => hwf c hc ▸ hA g hg] at h
  cases h
  simp only [MV.MVCtx.intentionI, toMV, toMVDesc, List.zipIdx_map, List.map_map]
  rfl

end Fca.Trace
