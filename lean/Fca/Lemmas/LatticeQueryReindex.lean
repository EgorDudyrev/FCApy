/-
  Fca.Lemmas.LatticeQueryReindex — `ConceptLattice.from_context` (Lindig branch): the map `map_i_isort` is a
  bijection of the positions that carries the concept order of the emitted list to the concept order of the
  sorted list; re-indexing a cache dictionary by it transports descendants / ancestors / children / parents.
-/
import Fca.Lemmas.LatticeQueryClosed
import Fca.Lemmas.LatticeQueryChains
namespace Fca.LC

structure IsIso (leq0 leq1 : Nat → Nat → Bool) (n : Nat) (f : Nat → Nat) : Prop where
  rng : ∀ i, i < n → f i < n
  inj : ∀ i j, i < n → j < n → f i = f j → i = j
  surj : ∀ j, j < n → ∃ i, i < n ∧ f i = j
  hom : ∀ a b, a < n → b < n → leq1 (f a) (f b) = leq0 a b

section
variable {leq0 leq1 : Nat → Nat → Bool} {n : Nat} {f : Nat → Nat}

theorem IsIso.flip (h : IsIso leq0 leq1 n f) : IsIso (fun a b => leq0 b a) (fun a b => leq1 b a) n f :=
  ⟨h.rng, h.inj, h.surj, fun a b ha hb => h.hom b a hb ha⟩

theorem IsIso.slt (h : IsIso leq0 leq1 n f) {a b : Nat} (ha : a < n) (hb : b < n) :
    PQ.slt leq0 a b = PQ.slt leq1 (f a) (f b) := by
  show (leq0 a b && a != b) = (leq1 (f a) (f b) && f a != f b)
  rw [h.hom a b ha hb, Bool.eq_iff_iff, Bool.and_eq_true, Bool.and_eq_true, bne_iff_ne, bne_iff_ne]
  exact and_congr_right fun _ => ⟨fun hne e => hne (h.inj a b ha hb e), fun hne e => hne (e ▸ rfl)⟩

/-- the shape of all four transports: the indexes below `n` with a property that `f` carries over -/
theorem IsIso.image_iff (h : IsIso leq0 leq1 n f) {Q0 Q1 : Nat → Prop} (hQ : ∀ r, r < n → (Q1 (f r) ↔ Q0 r))
    (y : Nat) : y < n ∧ Q1 y ↔ ∃ r, (r < n ∧ Q0 r) ∧ y = f r := by
  constructor
  · rintro ⟨hy, hq⟩
    obtain ⟨r, hr, rfl⟩ := h.surj y hy
    exact ⟨r, ⟨hr, (hQ r hr).mp hq⟩, rfl⟩
  · rintro ⟨r, ⟨hr, hq⟩, rfl⟩
    exact ⟨h.rng r hr, (hQ r hr).mpr hq⟩

theorem IsIso.desc (h : IsIso leq0 leq1 n f) {i : Nat} (hi : i < n) (y : Nat) :
    y ∈ PQ.descendants leq1 n (f i) ↔ ∃ r, r ∈ PQ.descendants leq0 n i ∧ y = f r := by
  simp only [PQ.mem_descendants_iff]
  exact h.image_iff (Q0 := fun r => PQ.slt leq0 r i = true) (Q1 := fun y => PQ.slt leq1 y (f i) = true)
    (fun r hr => by rw [h.slt hr hi]) y

theorem IsIso.anc (h : IsIso leq0 leq1 n f) {i : Nat} (hi : i < n) (y : Nat) :
    y ∈ PQ.ancestors leq1 n (f i) ↔ ∃ r, r ∈ PQ.ancestors leq0 n i ∧ y = f r :=
  h.flip.desc hi y

theorem IsIso.children (h : IsIso leq0 leq1 n f) (po0 : PQ.IsPO leq0 n) (po1 : PQ.IsPO leq1 n)
    {i : Nat} (hi : i < n) (y : Nat) :
    y ∈ PQ.children leq1 n id (f i) ↔ ∃ r, r ∈ PQ.children leq0 n id i ∧ y = f r := by
  simp only [PQ.mem_children_iff po1 PQ.isOrder_id, PQ.mem_children_iff po0 PQ.isOrder_id]
  exact h.image_iff (Q0 := fun r => Ord.Cover n (PQ.slt leq0) r i) (Q1 := fun y => Ord.Cover n (PQ.slt leq1) y (f i))
    (fun r hr => (Ord.cover_relist h.rng h.surj (fun _ _ ha hb => h.slt ha hb) hi hr).symm) y

theorem IsIso.parents (h : IsIso leq0 leq1 n f) (po0 : PQ.IsPO leq0 n) (po1 : PQ.IsPO leq1 n)
    {i : Nat} (hi : i < n) (y : Nat) :
    y ∈ PQ.parents leq1 n id (f i) ↔ ∃ r, r ∈ PQ.parents leq0 n id i ∧ y = f r :=
  h.flip.children (PQ.isPO_flip po0) (PQ.isPO_flip po1) hi y

theorem reindex_good {m : List Nat} (h : IsIso leq0 leq1 n (fun i => m.getD i 0)) {d : Dict}
    {R0 R1 : Nat → List Nat} (g : Good d n R0)
    (hR : ∀ i, i < n → ∀ y, y ∈ R1 (m.getD i 0) ↔ ∃ r, r ∈ R0 i ∧ y = m.getD r 0) :
    ∀ j, j < n → Stores (reindexDict m d) j (R1 j) := by
  intro j hj
  obtain ⟨i, hi, rfl⟩ := h.surj j hj
  obtain ⟨l, hl, hm⟩ := g.stores hi
  refine ⟨image m l, ?_, fun y => ?_⟩
  · exact dget_reindexDict m d g.1 (fun p hp q hq e => h.inj p.1 q.1 (g.2.1 p hp) (g.2.1 q hq) e)
      (mem_of_dget hl) []
  · rw [mem_image, hR i hi y]
    exact exists_congr fun r => and_congr_left fun _ => hm r

end

open LQ in
/-- `map_i_isort = [map_concept_i_sort[ltc[c_i]] for c_i in range(len(ltc))]` -/
theorem mapIsort_ok {t : Table} {cs : Lat} (H : IsConceptSub t cs) :
    ∃ m, (cs.mapM fun c => dictIdx (sortConcepts cs) c) = some m ∧
      IsIso (leq cs) (leq (sortConcepts cs)) cs.length (fun i => m.getD i 0) ∧
      ∀ i j, i < cs.length → j < cs.length → extOf (sortConcepts cs) j = extOf cs i → m.getD i 0 = j := by
  have Hs := H.sort
  have hlen := sortConcepts_length cs
  obtain ⟨b, hb, hpos⟩ := mapM_dictIdx (l := cs) Hs fun c hc => (sortConcepts_perm cs).mem_iff.mpr hc
  rw [hlen] at hpos
  refine ⟨b, hb, ⟨fun i hi => (hpos i hi).1, ?_, ?_, ?_⟩, fun i j hi hj e =>
    Hs.ext_inj (hlen ▸ (hpos i hi).1) (hlen ▸ hj) ((congrArg Prod.fst (hpos i hi).2).trans e.symm)⟩
  · intro i j hi hj e
    have : conc cs i = conc cs j := by
      rw [← (hpos i hi).2, ← (hpos j hj).2]; exact congrArg (conc (sortConcepts cs)) e
    exact (List.getD_inj hi hj H.1).mp this
  · intro j hj
    obtain ⟨i, hi, e⟩ := exists_idx_of_mem ((sortConcepts_perm cs).mem_iff.mp (conc_mem (hlen ▸ hj)))
    exact ⟨i, hi, (List.getD_inj (hlen ▸ (hpos i hi).1) (hlen ▸ hj) Hs.1).mp ((hpos i hi).2.trans e)⟩
  · intro a c ha hc
    show conceptLe (conc (sortConcepts cs) (b.getD a 0)) (conc (sortConcepts cs) (b.getD c 0)) = _
    rw [(hpos a ha).2, (hpos c hc).2]
    rfl

end Fca.LC
