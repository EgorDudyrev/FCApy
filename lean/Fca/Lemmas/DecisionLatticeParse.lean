/-
  `_parse_dt_arrays_to_drules` (`parse`): what a successful call returns, and that on a well-formed tree fitted on
  the context it does not raise and accumulates, for every node, a premise satisfied by exactly the rows whose path
  passes the node.
-/
import Fca.Lemmas.DecisionLatticeTree
import Fca.Lemmas.ListAux
namespace Fca.DL

theorem Ext.le_trans {a b c : Ext} (h1 : Ext.le a b = true) (h2 : Ext.le b c = true) : Ext.le a c = true := by
  cases a <;> cases b <;> cases c <;> simp_all [Ext.le]
  exact Rat.le_trans h1 h2

theorem Ext.le_total (a b : Ext) : Ext.le a b = true ∨ Ext.le b a = true := by
  cases a <;> cases b <;> simp [Ext.le]
  exact Rat.le_total

theorem Ext.le_max2 (a b y : Ext) : Ext.le (Ext.max2 a b) y = (Ext.le a y && Ext.le b y) := by
  unfold Ext.max2
  rw [Bool.eq_iff_iff, Bool.and_eq_true]
  split
  · rename_i h
    exact ⟨fun h1 => ⟨h1, Ext.le_trans h h1⟩, fun h1 => h1.1⟩
  · rename_i h
    have hab := (Ext.le_total a b).resolve_right h
    exact ⟨fun h1 => ⟨Ext.le_trans hab h1, h1⟩, fun h1 => h1.2⟩

theorem Ext.le_min2 (a b y : Ext) : Ext.le y (Ext.min2 a b) = (Ext.le y a && Ext.le y b) := by
  unfold Ext.min2
  rw [Bool.eq_iff_iff, Bool.and_eq_true]
  split
  · rename_i h
    exact ⟨fun h1 => ⟨h1, Ext.le_trans h1 h⟩, fun h1 => h1.1⟩
  · rename_i h
    have hba := (Ext.le_total a b).resolve_left h
    exact ⟨fun h1 => ⟨Ext.le_trans h1 hba, h1⟩, fun h1 => h1.2⟩

theorem sat_of_ne_none {d : Descr} (h : d ≠ .none) (x : Rat) :
    d.sat x = (Ext.le d.ends.1 (.fin x) && Ext.le (.fin x) d.ends.2) := by
  cases d with
  | none => exact absurd rfl h
  | num v => rfl
  | ivl lo hi => rfl

theorem gtd_spec {a b : Descr} (w : Rat) (hwa : a.sat w = true) (hwb : b.sat w = true) :
    ∃ v, gtd a b = .ok v ∧ ∀ y, v.sat y = (a.sat y && b.sat y) := by
  have ha : a ≠ .none := fun e => Bool.false_ne_true (e ▸ hwa : Descr.none.sat w = true)
  have hb : b ≠ .none := fun e => Bool.false_ne_true (e ▸ hwb : Descr.none.sat w = true)
  rw [sat_of_ne_none ha, Bool.and_eq_true] at hwa
  rw [sat_of_ne_none hb, Bool.and_eq_true] at hwb
  have hlo : Ext.le (Ext.max2 a.ends.1 b.ends.1) (.fin w) = true := by
    rw [Ext.le_max2, hwa.1, hwb.1]; rfl
  have hhi : Ext.le (.fin w) (Ext.min2 a.ends.2 b.ends.2) = true := by
    rw [Ext.le_min2, hwa.2, hwb.2]; rfl
  have hle := Ext.le_trans hlo hhi
  have hsat : ∀ y, (Ext.le (Ext.max2 a.ends.1 b.ends.1) (.fin y) && Ext.le (.fin y) (Ext.min2 a.ends.2 b.ends.2))
      = (a.sat y && b.sat y) := by
    intro y
    rw [sat_of_ne_none ha, sat_of_ne_none hb, Ext.le_max2, Ext.le_min2, Bool.and_assoc, Bool.and_assoc,
      Bool.and_left_comm (Ext.le b.ends.1 _)]
  have hg : gtd a b = (if Ext.max2 a.ends.1 b.ends.1 = Ext.min2 a.ends.2 b.ends.2
      then .ok (.num (Ext.max2 a.ends.1 b.ends.1))
      else .ok (.ivl (Ext.max2 a.ends.1 b.ends.1) (Ext.min2 a.ends.2 b.ends.2))) := by
    unfold gtd
    split
    · exact absurd rfl ha
    · exact absurd rfl hb
    · exact if_pos hle
  rw [hg]
  split
  · rename_i heq
    refine ⟨_, rfl, fun y => ?_⟩
    rw [← hsat y, ← heq]
    rfl
  · exact ⟨_, rfl, fun y => (hsat y).symm ▸ rfl⟩

def premSat (p : Prem) (x : List Rat) : Bool := p.all fun jd => jd.2.sat (x.getD jd.1.toNat 0)

def entryOK (m : Nat) (jd : Int × Descr) : Prop := 0 ≤ jd.1 ∧ jd.1 < (m : Int)

def premOK (m : Nat) (p : Prem) : Prop := (∀ jd ∈ p, entryOK m jd) ∧ (p.map Prod.fst).Nodup

theorem premSat_cons (jd : Int × Descr) (p : Prem) (x : List Rat) :
    premSat (jd :: p) x = (jd.2.sat (x.getD jd.1.toNat 0) && premSat p x) := rfl

theorem premSat_append (a b : Prem) (x : List Rat) : premSat (a ++ b) x = (premSat a x && premSat b x) :=
  List.all_append

theorem premGet_none {l : Prem} {j : Int} (h : j ∉ l.map Prod.fst) : premGet l j = none := by
  rw [premGet, List.lookup_eq_none_iff]
  intro p hp
  exact bne_iff_ne.mpr fun e => h (e ▸ List.mem_map_of_mem hp)

theorem premSet_absent {l : Prem} {j : Int} (v : Descr) (h : j ∉ l.map Prod.fst) :
    premSet l j v = l ++ [(j, v)] := by
  induction l with
  | nil => rfl
  | cons a rest ih =>
    rw [List.map_cons, List.mem_cons, not_or] at h
    rw [premSet, if_neg (fun e => h.1 e.symm), ih h.2]
    rfl

theorem pyIdx_ok {m : Nat} {f : Int} (h0 : 0 ≤ f) (h1 : f < (m : Int)) : pyIdx m f = .ok f.toNat := by
  unfold pyIdx
  rw [if_pos h0, if_pos ((Int.toNat_lt h0).mpr h1)]

theorem accumulate_append (m : Nat) (d : Descr) (A R : Prem) : ∀ P : Prem,
    accumulate m d (A ++ R) P = match accumulate m d A P with
      | .ok P' => accumulate m d R P'
      | .error e => .error e := by
  induction A with
  | nil => intro P; rfl
  | cons jpd A ih =>
    intro P
    simp only [List.cons_append, accumulate]
    split
    · split
      · rfl
      · split
        · rfl
        · exact ih _
    · exact ih _

theorem accumulate_absent (m : Nat) (d : Descr) (items : Prem) : ∀ P : Prem, (items.map Prod.fst).Nodup →
    (∀ j ∈ items.map Prod.fst, j ∉ P.map Prod.fst) → accumulate m d items P = .ok (P ++ items) := by
  induction items with
  | nil => intro P _ _; rw [accumulate, List.append_nil]
  | cons jpd items ih =>
    obtain ⟨j, pd⟩ := jpd
    intro P hnd hdis
    rw [List.map_cons, List.nodup_cons] at hnd
    have hj := hdis j List.mem_cons_self
    rw [accumulate, premGet_none hj, premSet_absent pd hj, ih _ hnd.2, List.append_assoc]
    · rfl
    · intro j' hj'
      rw [List.map_append, List.mem_append, not_or]
      exact ⟨hdis j' (List.mem_cons_of_mem _ hj'), fun e => hnd.1 (List.mem_singleton.mp e ▸ hj')⟩

/-- the premise of a node from the premise `Pp` of its parent and the node's own condition `d` on feature `f`:
    `d` is put first, the conditions of `Pp` follow, the one on `f` (if any) intersected with `d`; the row `w` keeps
    the `assert` of `generators_to_description` from failing -/
theorem accumulate_spec (m : Nat) (f : Int) (d : Descr) (w : List Rat)
    (hf0 : 0 ≤ f) (hfm : f < (m : Int)) (hdw : d.sat (w.getD f.toNat 0) = true)
    (Pp : Prem) (hok : premOK m Pp) (hw : premSat Pp w = true) :
    ∃ P', accumulate m d Pp [(f, d)] = .ok P' ∧ premOK m P' ∧
      ∀ x : List Rat, premSat P' x = (d.sat (x.getD f.toNat 0) && premSat Pp x) := by
  by_cases hf : f ∈ Pp.map Prod.fst
  · obtain ⟨⟨f', pd⟩, hmem, rfl⟩ := List.mem_map.mp hf
    obtain ⟨A, B, rfl⟩ := List.append_of_mem hmem
    obtain ⟨hent, hnd⟩ := hok
    simp only [List.map_append, List.map_cons, List.nodup_append, List.nodup_cons, List.mem_cons] at hnd
    obtain ⟨hndA, ⟨hfB, hndB⟩, hAB⟩ := hnd
    simp only [premSat_append, premSat_cons, Bool.and_eq_true] at hw
    obtain ⟨v, hg, hs⟩ := gtd_spec (w.getD f'.toNat 0) hw.2.1 hdw
    have hA : accumulate m d A [(f', d)] = .ok ((f', d) :: A) :=
      accumulate_absent m d A _ hndA fun j hj e => hAB j hj f' (Or.inl rfl) (List.mem_singleton.mp e)
    have hB : accumulate m d B ((f', v) :: A) = .ok ((f', v) :: A ++ B) :=
      accumulate_absent m d B _ hndB fun j hj e => by
        rcases List.mem_cons.mp e with rfl | e
        · exact hfB hj
        · exact hAB j e j (Or.inr hj) rfl
    refine ⟨(f', v) :: A ++ B, ?_, ⟨?_, ?_⟩, fun x => ?_⟩
    · rw [accumulate_append, hA]
      simp only [accumulate, premGet, List.lookup_cons_self, pyIdx_ok hf0 hfm, hg, premSet, if_true]
      exact hB
    · intro jd hjd
      rcases List.mem_cons.mp hjd with rfl | hjd
      · exact ⟨hf0, hfm⟩
      · exact hent jd (by
          rcases List.mem_append.mp hjd with h | h
          · exact List.mem_append_left _ h
          · exact List.mem_append_right _ (List.mem_cons_of_mem _ h))
    · rw [List.cons_append, List.map_cons, List.map_append, List.nodup_cons, List.mem_append, List.nodup_append]
      exact ⟨fun h => h.elim (fun h => hAB f' h f' (Or.inl rfl) rfl) hfB, hndA, hndB,
        fun a ha b hb => hAB a ha b (Or.inr hb)⟩
    · rw [List.cons_append, premSat_cons, hs, premSat_append, premSat_append, premSat_cons, Bool.and_assoc,
        Bool.and_left_comm, Bool.and_left_comm (pd.sat _)]
  · refine ⟨(f, d) :: Pp, ?_, ⟨?_, ?_⟩, fun x => rfl⟩
    · exact accumulate_absent m d Pp _ hok.2 fun j hj e => hf ((List.mem_singleton.mp e : j = f) ▸ hj)
    · intro jd hjd
      rcases List.mem_cons.mp hjd with rfl | hjd
      · exact ⟨hf0, hfm⟩
      · exact hok.1 jd hjd
    · exact List.nodup_cons.mpr ⟨hf, hok.2⟩

theorem sat_left (thr x : Rat) : (Descr.ivl .ninf (.fin thr)).sat x = decide (x ≤ thr) := by
  simp [Descr.sat, Descr.ends, Ext.le]

theorem sat_right (thr nthr x : Rat) (hlt : thr < nthr) (hsep : x ≤ thr ∨ nthr ≤ x) :
    (Descr.ivl (.fin nthr) .pinf).sat x = !decide (x ≤ thr) := by
  simp only [Descr.sat, Descr.ends, Ext.le, Bool.and_true]
  by_cases h : x ≤ thr
  · have : ¬ (nthr ≤ x) := fun h' => Rat.not_lt.mpr (Rat.le_trans h' h) hlt
    simp [h, this]
  · simp [h, hsep.resolve_left h]

section
variable {t : Tree} {X : Rows} {m : Nat} {nxt : Rat → Rat}

theorem directDescr_sat {k p : Nat} {l r f : Int} {thr : Rat} (h : Internal t X m nxt p l r f thr)
    (hk : k = l.toNat ∨ k = r.toNat) {x : List Rat} (hx : x ∈ X) :
    (directDescr t nxt k thr).sat (x.getD f.toNat 0) = (child t x p == some k) := by
  rw [h.child_some x]
  rcases hk with rfl | rfl
  · rw [directDescr, h.isLeft_left, if_pos rfl, sat_left]
    by_cases hx' : x.getD f.toNat 0 ≤ thr
    · rw [if_pos hx', decide_eq_true hx', beq_self_eq_true]
    · rw [if_neg hx', decide_eq_false hx']
      exact (beq_eq_false_iff_ne.mpr fun e => h.ne (Option.some.inj e).symm).symm
  · rw [directDescr, h.isLeft_right, if_neg Bool.false_ne_true, sat_right thr (nxt thr) _ h.grid (h.sep x hx)]
    by_cases hx' : x.getD f.toNat 0 ≤ thr
    · rw [if_pos hx', decide_eq_true hx']
      exact (beq_eq_false_iff_ne.mpr fun e => h.ne (Option.some.inj e)).symm
    · rw [if_neg hx', decide_eq_false hx', beq_self_eq_true]
      rfl

/-- `direct_premises[k]`: the one condition node `k` adds to its parent's premise -/
def premF (t : Tree) (nxt : Rat → Rat) (k : Nat) : Prem :=
  if k = 0 then [] else
  match parentOf t k with
  | some p =>
    match t.threshold[p]?, t.feature[p]? with
    | some thr, some f => [(f, directDescr t nxt k thr)]
    | _, _ => []
  | none => []

theorem premF_eq {k p : Nat} {f : Int} {thr : Rat} (hk : k ≠ 0) (hp : parentOf t k = some p)
    (h3 : t.feature[p]? = some f) (h4 : t.threshold[p]? = some thr) :
    premF t nxt k = [(f, directDescr t nxt k thr)] := by
  simp only [premF, if_neg hk, hp, h3, h4]

theorem range_eq_cons_nodes1 (hn : 0 < t.n) : List.range t.n = 0 :: nodes1 t := by
  obtain ⟨n', hn'⟩ : ∃ n', t.n = n' + 1 := ⟨t.n - 1, (Nat.sub_add_cancel hn).symm⟩
  rw [nodes1, hn', List.range_succ_eq_map]
  rfl

theorem parentsList_eq (t : Tree) : ∀ ks : List Nat,
    parentsList t ks = if ks.all (fun k => (parentOf t k).isSome) then .ok (ks.map (parentOf t)) else .error .KeyError
  | [] => rfl
  | k :: ks => by
    rw [parentsList, parentsList_eq t ks, List.all_cons, List.map_cons]
    cases parentOf t k with
    | none => rfl
    | some p => cases List.all ks fun k => (parentOf t k).isSome <;> rfl

theorem deltas_ok (t : Tree) {ks : List Nat} (hs : ∀ k ∈ ks, k ≠ 0 ∧ (parentOf t k).isSome) :
    ∀ {ds : List Rat}, deltas t.value ks (ks.map (parentOf t)) = .ok ds → ds = ks.map (delta t) := by
  induction ks with
  | nil => intro ds h; cases h; rfl
  | cons k ks ih =>
    intro ds h
    obtain ⟨hk0, hk⟩ := hs k List.mem_cons_self
    obtain ⟨p, hp⟩ := Option.isSome_iff_exists.mp hk
    simp only [List.map_cons, hp, deltas] at h
    split at h
    · rename_i vk vp hvk hvp
      split at h
      · cases h
      · rename_i ds' hds
        cases h
        rw [ih (fun k' hk' => hs k' (List.mem_cons_of_mem _ hk')) hds, List.map_cons, delta_of_parent hp hk0]
        simp only [List.getD_eq_getElem?_getD, hvk, hvp, Option.getD_some]
    · cases h

theorem parseLoop_inv (t : Tree) (m : Nat) (nxt : Rat → Rat) {ks : List Nat} (hk : ∀ k ∈ ks, k ≠ 0) :
    ∀ {dps ps dps' ps' : List Prem}, parseLoop t m nxt ks dps ps = .ok (dps', ps') →
      dps' = dps ++ ks.map (premF t nxt) ∧ ∃ tl, ps' = ps ++ tl ∧ tl.length = ks.length := by
  induction ks with
  | nil =>
    intro dps ps dps' ps' h
    cases h
    exact ⟨(List.append_nil _).symm, [], (List.append_nil _).symm, rfl⟩
  | cons k ks ih =>
    intro dps ps dps' ps' h
    rw [parseLoop] at h
    split at h
    · cases h
    · rename_i p hp
      split at h
      · rename_i thr f ppre h1 h2 h3
        simp only at h
        split at h
        · cases h
        · rename_i premise _
          obtain ⟨e1, tl, e2, e3⟩ := ih (fun k' hk' => hk k' (List.mem_cons_of_mem _ hk')) h
          refine ⟨?_, premise :: tl, ?_, congrArg (· + 1) e3⟩
          · rw [e1, List.map_cons, premF_eq (hk k List.mem_cons_self) hp h2 h1, List.append_assoc]
            rfl
          · rw [e2, List.append_assoc]
            rfl
      · cases h

theorem parse_inv {r : Rules} (hn : 0 < t.n) (h : parse t m nxt = .ok r) :
    r.dparents = none :: (nodes1 t).map (parentOf t) ∧
    r.dprems = (List.range t.n).map (premF t nxt) ∧
    r.dtargets = (List.range t.n).map (delta t) ∧
    ∃ tl, r.premises = [] :: tl ∧ tl.length + 1 = t.n := by
  have hne : ∀ k ∈ nodes1 t, k ≠ 0 := fun k hk => Nat.ne_of_gt (mem_nodes1.mp hk).1
  unfold parse at h
  rw [parentsList_eq] at h
  split at h
  · cases h
  · rename_i pl hpl
    split at hpl
    · cases hpl
      rename_i hsome
      split at h
      · cases h
      · rename_i dps ps hloop
        split at h
        · cases h
        · rename_i ds hds
          cases h
          obtain ⟨e1, tl, e2, e3⟩ := parseLoop_inv t m nxt hne hloop
          have hd := deltas_ok t (fun k hk => ⟨hne k hk, List.all_eq_true.mp hsome k hk⟩) hds
          refine ⟨rfl, ?_, ?_, tl, e2, ?_⟩
          · rw [e1, range_eq_cons_nodes1 hn]
            rfl
          · have hv : t.value.take 1 = [delta t 0] := by
              unfold Tree.n at hn
              cases hval : t.value with
              | nil => rw [hval] at hn; cases hn
              | cons v vs => simp [delta, hval]
            rw [hd, hv, range_eq_cons_nodes1 hn]
            rfl
          · have := range_eq_cons_nodes1 hn ▸ List.length_range (n := t.n)
            rw [e3]
            simpa using this
    · cases hpl

theorem fitted_witness (h : fitted t X = true) {k : Nat} (hk : k < t.n) :
    ∃ g, g < nObjects X ∧ k ∈ pathFrom t (X.getD g []) t.n 0 := by
  obtain ⟨g, hg, hc⟩ := List.any_eq_true.mp (List.all_eq_true.mp h k (List.mem_range.mpr hk))
  exact ⟨g, List.mem_range.mp hg, List.contains_iff_mem.mp hc⟩

def NodeOK (t : Tree) (X : Rows) (m : Nat) (k : Nat) (P : Prem) : Prop :=
  premOK m P ∧ ∀ x ∈ X, premSat P x = (pathFrom t x t.n 0).contains k

theorem parentsList_total (hwf : wellFormed t X m nxt = true) :
    parentsList t (nodes1 t) = .ok ((nodes1 t).map (parentOf t)) := by
  rw [parentsList_eq, if_pos]
  rw [List.all_eq_true]
  intro k hk
  obtain ⟨p, hp⟩ := parents_exist hwf (mem_nodes1.mp hk).1 (mem_nodes1.mp hk).2
  rw [hp]
  rfl

theorem deltas_total (t : Tree) {ks : List Nat} (h : ∀ k ∈ ks, k < t.n ∧ ∃ p, parentOf t k = some p ∧ p < t.n) :
    ∃ ds, deltas t.value ks (ks.map (parentOf t)) = .ok ds := by
  induction ks with
  | nil => exact ⟨[], rfl⟩
  | cons k ks ih =>
    obtain ⟨hk, p, hp, hpn⟩ := h k List.mem_cons_self
    obtain ⟨ds, hds⟩ := ih fun k' hk' => h k' (List.mem_cons_of_mem _ hk')
    have h1 : t.value[k]? = some t.value[k] := List.getElem?_eq_getElem hk
    have h2 : t.value[p]? = some t.value[p] := List.getElem?_eq_getElem hpn
    exact ⟨(t.value[k] - t.value[p]) :: ds, by simp only [List.map_cons, hp, deltas, h1, h2, hds]⟩

/-- a row through the node (the tree is fitted) witnesses that the parent's premise and the node's own condition can
    be met together -/
theorem node_premise (hwf : wellFormed t X m nxt = true) (hfit : fitted t X = true) {k p : Nat} (hk : k < t.n)
    (hp : parentOf t k = some p) {Pp : Prem} (hPp : NodeOK t X m p Pp) :
    ∃ f thr P', t.threshold[p]? = some thr ∧ t.feature[p]? = some f ∧
      accumulate m (directDescr t nxt k thr) Pp [(f, directDescr t nxt k thr)] = .ok P' ∧ NodeOK t X m k P' := by
  obtain ⟨l, r, f, thr, hI, hkc⟩ := node_of_parent hwf hp
  obtain ⟨g, hg, hgk⟩ := fitted_witness hfit hk
  have hw := ListAux.getD_mem X g [] hg
  have hgk' := List.contains_iff_mem.mpr hgk
  rw [path_contains_step hwf hp, Bool.and_eq_true, ← directDescr_sat hI hkc hw, ← hPp.2 _ hw] at hgk'
  obtain ⟨P', hacc, hok', hsem'⟩ := accumulate_spec m f (directDescr t nxt k thr) (X.getD g [])
    hI.feature_nonneg hI.feature_lt hgk'.1 Pp hPp.1 hgk'.2
  refine ⟨f, thr, P', hI.threshold, hI.feature, hacc, hok', fun x hx => ?_⟩
  rw [hsem' x, hPp.2 x hx, directDescr_sat hI hkc hx, path_contains_step hwf hp]

theorem parseLoop_ok (hwf : wellFormed t X m nxt = true) (hfit : fitted t X = true) (len : Nat) :
    ∀ (dps ps : List Prem), 0 < ps.length → ps.length + len = t.n →
      (∀ j (hj : j < ps.length), NodeOK t X m j ps[j]) →
      ∃ dps' ps', parseLoop t m nxt (List.range' ps.length len) dps ps = .ok (dps', ps') ∧
        ps'.length = t.n ∧ ∀ j (hj : j < ps'.length), NodeOK t X m j ps'[j] := by
  induction len with
  | zero =>
    intro dps ps _ hn hps
    exact ⟨dps, ps, rfl, hn, hps⟩
  | succ len ih =>
    intro dps ps hk0 hn hps
    have hk : ps.length < t.n := hn ▸ Nat.lt_add_of_pos_right (Nat.succ_pos len)
    obtain ⟨p, hp⟩ := parents_exist hwf hk0 hk
    have hpk := parent_lt hwf hp
    obtain ⟨f, thr, P', h4, h3, hacc, hok'⟩ := node_premise hwf hfit hk hp (hps p hpk)
    have hlen : (ps ++ [P']).length = ps.length + 1 := List.length_append
    obtain ⟨dps', ps', h1, h2⟩ := ih (dps ++ [[(f, directDescr t nxt ps.length thr)]]) (ps ++ [P'])
      (hlen ▸ Nat.succ_pos _) (by rw [hlen, ← hn, Nat.add_right_comm]; rfl) (by
        intro j hj
        rcases Nat.lt_succ_iff_lt_or_eq.mp (hlen ▸ hj) with hj' | rfl
        · rw [List.getElem_append_left hj']
          exact hps j hj'
        · rw [List.getElem_concat_length rfl]
          exact hok')
    refine ⟨dps', ps', ?_, h2⟩
    rw [hlen] at h1
    simp only [List.range'_succ, parseLoop, hp, h4, h3, List.getElem?_eq_getElem hpk, hacc]
    exact h1

theorem parse_ok (hwf : wellFormed t X m nxt = true) (hfit : fitted t X = true) :
    ∃ r, parse t m nxt = .ok r ∧ r.premises.length = t.n ∧
      ∀ j (hj : j < r.premises.length), NodeOK t X m j r.premises[j] := by
  have hn := wf_pos hwf
  obtain ⟨ds, hds⟩ := deltas_total t (ks := nodes1 t) (by
    intro k hk
    obtain ⟨hk0, hkn⟩ := mem_nodes1.mp hk
    obtain ⟨p, hp⟩ := parents_exist hwf hk0 hkn
    exact ⟨hkn, p, hp, Nat.lt_trans (parent_lt hwf hp) hkn⟩)
  obtain ⟨dps', ps', h1, h2, h3⟩ := parseLoop_ok hwf hfit (t.n - 1) [[]] [[]] Nat.one_pos
    (Nat.add_sub_cancel' hn) (by
      intro j hj
      obtain rfl : j = 0 := Nat.lt_one_iff.mp hj
      refine ⟨⟨fun _ h => (List.not_mem_nil h).elim, List.nodup_nil⟩, fun x _ => ?_⟩
      exact (List.contains_iff_mem.mpr (self_mem_pathFrom t x t.n 0)).symm)
  have hnodes : List.range' [([] : Prem)].length (t.n - 1) = nodes1 t := by
    rw [nodes1, List.range_eq_range', List.drop_range']
    rfl
  rw [hnodes] at h1
  exact ⟨⟨none :: (nodes1 t).map (parentOf t), dps', t.value.take 1 ++ ds, ps'⟩,
    by simp only [parse, parentsList_total hwf, h1, hds], h2, h3⟩

end
end Fca.DL
