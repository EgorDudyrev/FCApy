/-
  Lemmas/SemiLatticeDic — which relation-cache entries are present, in any state (no cache-correctness invariant).
  No query drops a closed-relation entry, and `__delitem__` keeps all but the erased one, re-indexed.  `DIC`:
  wherever `_cache_children[k]` (`_cache_parents[k]`) is present, so is `_cache_descendants[k]`
  (`_cache_ancestors[k]`) - true of the empty caches and kept by every `POSet` operation, since a direct entry is
  only written right after the closed entry of the same key was computed or re-written.  It is what lets
  `add(e, fill_up_cache=True)` on a semilattice, which does not scan `tops / bottoms`, find `_cache_ancestors[el_i]`
  for every traced element.
-/
import Fca.Lemmas.SemiLatticeFrame
namespace Fca.Poset

section
variable {α : Type}

/-- for keys below `n` other than `x` (take `x ≥ n` for "no exception"): a cached direct relation implies the
    cached closed relation -/
def DIC (n x : Nat) (s : St α) : Prop :=
  ∀ d k, k < n → k ≠ x → (alookup k (s.direct d)).isSome = true → (alookup k (s.closed d)).isSome = true

theorem dic_of_same_direct {n x : Nat} {s s' : St α} (h : DIC n x s)
    (hd : ∀ d k, (alookup k (s'.direct d)).isSome = true → (alookup k (s.direct d)).isSome = true)
    (hc : ∀ d k, (alookup k (s.closed d)).isSome = true → (alookup k (s'.closed d)).isSome = true) :
    DIC n x s' := fun d k hk hx hp => hc d k (h d k hk hx (hd d k hp))

theorem dic_leqC {n x : Nat} {s : St α} (h : DIC n x s) (k : Nat × Nat) (b : Bool) :
    DIC n x ({ s with leqC := ainsert k b s.leqC } : St α) :=
  dic_of_same_direct h (fun d k h => by cases d <;> exact h) (fun d k h => by cases d <;> exact h)

end

section
variable {α : Type} [DecidableEq α] {leq : α → α → Bool} {ord : List Nat → List Nat}

structure Pres {β : Type} (m : M α β) : Prop where
  h : ∀ s d k, (alookup k (s.closed d)).isSome = true → (alookup k ((m s).1.closed d)).isSome = true

set_option linter.unusedSectionVars false in
theorem pres_ofExcept {β : Type} (x : Except PyErr β) : Pres (M.ofExcept x : M α β) := by
  cases x <;> exact ⟨fun _ _ _ h => h⟩

theorem step_query_pres (s : St α) (o : Op α) (ho : isMutation o = false) (d : Dir) (k : Nat)
    (hk : (alookup k (s.closed d)).isSome = true) :
    (alookup k ((step leq ord s o).1.closed d)).isSome = true :=
  step_query_keeps (stable_present d k) s o ho hk

theorem isSome_decrementCache {c : Cache} {k j : Nat} (hj : j ≠ k) (h : (alookup j c).isSome = true) :
    (alookup (decrIdx j k) (decrementCache c k)).isSome = true := by
  have h2 := alookup_filterMap (· = k) (decrIdx · k)
    (fun v : List Nat => (v.filter (fun i => i ≠ k)).map (fun i => decrIdx i k))
    (fun _ _ ha hb hab => decr_inj ha hb hab) c j hj
  exact ((congrArg Option.isSome h2).trans Option.isSome_map).trans h

theorem isSome_of_decrementCache {c : Cache} {k j' : Nat} (h : (alookup j' (decrementCache c k)).isSome = true) :
    ∃ j, j ≠ k ∧ decrIdx j k = j' ∧ (alookup j c).isSome = true := by
  obtain ⟨v', hv'⟩ := Option.isSome_iff_exists.mp h
  obtain ⟨j, v, hj, hd, hl, _⟩ := alookup_decrementCache hv'
  exact ⟨j, hj, hd, by rw [hl]; rfl⟩

/-- `del self[k]` on a caching instance: every other closed-relation entry survives, at its shifted key -/
theorem delE_pres {k : Nat} {s : St α} (hk : k < s.elems.length) (hc : s.useCache = true)
    (hok : (delE ord k s).2 = .ok ()) (d : Dir) {j : Nat}
    (hj : j ≠ k) (h : (alookup j (s.closed d)).isSome = true) :
    (alookup (decrIdx j k) ((delE ord k s).1.closed d)).isSome = true := by
  rw [delE_run hk, if_pos hc] at hok ⊢
  -- `reconnect_relatives(k)` pops and rewrites entries at other keys only; then every key is shifted
  refine Tr.ok (P := HasClosed d j) (Qok := fun _ => HasClosed d (decrIdx j k)) (Qerr := fun _ => True)
    (tr_bind (R := fun _ => HasClosed d j)
      ((keeps_reconnectRelatives (stable_present d j) k fun _ d' h => present_eraseClosed hj d' h).weaken_err
        fun _ _ => trivial)
      fun _ => tr_modify _ fun s hs => ?_) ?_ hok
  · cases d <;> exact isSome_decrementCache hj hs
  · cases d <;> exact h

theorem dic_insertClosed {n x : Nat} {s : St α} (h : DIC n x s) (d : Dir) (e : Nat) (r : List Nat) :
    DIC n x (s.setClosed d (ainsert e r (s.closed d))) :=
  dic_of_same_direct h (fun d' k hp => by rw [direct_setClosed] at hp; exact hp)
    (fun d' k hp => present_insertClosed d e r hp)

theorem dic_setDirect_insert {n x : Nat} {s : St α} (h : DIC n x s) (d : Dir) (e : Nat) (r : List Nat)
    (hp : e < n → e ≠ x → (alookup e (s.closed d)).isSome = true) :
    DIC n x (s.setDirect d (ainsert e r (s.direct d))) := by
  intro d' k hk hx hpres
  rw [closed_setDirect]
  rw [direct_setDirect_any] at hpres
  split at hpres
  · rename_i hd
    subst hd
    rw [alookup_ainsert] at hpres
    split at hpres
    · rename_i hke
      subst hke
      exact hp hk hx
    · exact h d' k hk hx hpres
  · exact h d' k hk hx hpres

theorem dic_setDirect_erase {n x : Nat} {s : St α} (h : DIC n x s) (d : Dir) (p : Nat) :
    DIC n x (s.setDirect d (aerase p (s.direct d))) :=
  dic_of_same_direct h (fun d' k hp => by
    rw [direct_setDirect_any] at hp
    split at hp
    · rename_i hd
      subst hd
      rw [alookup_aerase] at hp
      split at hp
      · cases hp
      · exact hp
    · exact hp) (fun d' k hp => by rw [closed_setDirect]; exact hp)

/-- where a direct entry is written, its closed entry is present, or the direct entry is there already and - by
    `DIC` - so is the closed one -/
theorem stable_dic (n x : Nat) : Stable (DIC (α := α) n x) :=
  ⟨fun _ k b h => dic_leqC h k b, fun _ d e r h => dic_insertClosed h d e r,
    fun _ d e r h hp => dic_setDirect_insert h d e r fun h1 h2 => hp.elim id (h d e h1 h2),
    fun _ d p h => dic_setDirect_erase h d p⟩

theorem delE_dic {k n : Nat} {s : St α} (hkn : k < n) (hk : k < s.elems.length) (hc : s.useCache = true)
    (hok : (delE ord k s).2 = .ok ()) (h : DIC n n s) : DIC (n - 1) (n - 1) (delE ord k s).1 := by
  rw [delE_run hk, if_pos hc] at hok ⊢
  -- `reconnect_relatives(k)` keeps `DIC` away from key `k`, whose four entries it pops; then every key is shifted
  refine Tr.ok (P := DIC n k) (Qok := fun _ => DIC (n - 1) (n - 1)) (Qerr := fun _ => True)
    (tr_bind (R := fun _ => DIC n k)
      ((keeps_reconnectRelatives (stable_dic n k) k fun _ d h d' j hj hx hp =>
        present_eraseClosed hx d (h d' j hj hx (by rwa [direct_setClosed] at hp))).weaken_err fun _ _ => trivial)
      fun _ => tr_modify _ fun s' h1 d j' hj' _ hp => ?_) ?_ hok
  · have hp' : (alookup j' (decrementCache (s'.direct d) k)).isSome = true := by cases d <;> exact hp
    obtain ⟨j, hjk, hdj, hpj⟩ := isSome_of_decrementCache hp'
    have hjn : j < n := by
      rw [← up_decr hjk, hdj]
      exact ListAux.upIdx_lt hkn hj'
    have := isSome_decrementCache hjk (h1 d j hjn hjk hpj)
    rw [hdj] at this
    cases d <;> exact this
  · intro d j hj hx hp
    have := h d j hj (Nat.ne_of_lt hj) (by cases d <;> exact hp)
    cases d <;> exact this

end
end Fca.Poset
