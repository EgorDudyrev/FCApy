/-
  The converted lattice meets the specification of the worklist theorem (`TSpec`) on every well-formed context, so
  its trace is, per row, the row's root-to-leaf path; and a path-exact trace whose decisions are the node deltas
  predicts the tree's value.
-/
import Fca.Lemmas.DecisionLatticeConv
import Fca.Lemmas.DecisionLatticeTrace
namespace Fca.DL

section
variable {t : Tree} {X : Rows} {m : Nat} {nxt : Rat → Rat}

theorem EF_trace (hwf : wellFormed t X m nxt = true) {k p : Nat} (hp : parentOf t k = some p) :
    extensionI X m (premF t nxt k) (some (EF t X p)) = .ok (EF t X k) := by
  obtain ⟨l, r, f, thr, h, hkc⟩ := node_of_parent hwf hp
  have hk0 : k ≠ 0 := Nat.ne_of_gt (Nat.zero_lt_of_lt (parent_lt hwf hp))
  rw [premF_eq hk0 hp h.feature h.threshold, extensionI_single X m f _ _ h.feature_nonneg h.feature_lt,
    EF_step hwf hp]
  exact congrArg _ (List.filter_congr fun g hg => directDescr_sat h hkc (ListAux.getD_mem X _ [] (mem_EF.mp hg).1))

/-- nothing points at the root: `direct_parents[k]` is `parentOf t k` for the root too -/
theorem parentOf_zero (hwf : wellFormed t X m nxt = true) : parentOf t 0 = none :=
  Option.eq_none_iff_forall_ne_some.mpr fun p hp => Nat.not_lt_zero p (parent_lt hwf hp)

/-- the parent as the worklist theorem wants it, a total function -/
def parF (t : Tree) (k : Nat) : Nat := (parentOf t k).getD 0

theorem parentOf_eq_parF (hwf : wellFormed t X m nxt = true) {k : Nat} (hk0 : 0 < k) (hkn : k < t.n) :
    parentOf t k = some (parF t k) := by
  obtain ⟨p, hp⟩ := parents_exist hwf hk0 hkn
  rw [parF, hp]
  rfl

/-- the entry of `_generators_dict` for node `k` -/
def genF (t : Tree) (nxt : Rat → Rat) (k : Nat) : GenEntry :=
  match parentOf t k with
  | some p => .cond [(p, [premF t nxt k])]
  | none => .flat (premF t nxt k)

theorem mkGens_map (a : Nat → Option Nat) (b : Nat → Prem) : ∀ ks : List Nat,
    mkGens (ks.map a) (ks.map b) = ks.map fun k =>
      match a k with
      | some p => GenEntry.cond [(p, [b k])]
      | none => GenEntry.flat (b k)
  | [] => rfl
  | k :: ks => by
    simp only [List.map_cons]
    cases hk : a k <;> simp only [mkGens, mkGens_map a b ks]

theorem mkDecisions_map (a : Nat → Option Nat) (b : Nat → Prem) (d : Nat → Rat) : ∀ (len i : Nat),
    mkDecisions i ((List.range' i len).map a) ((List.range' i len).map b) ((List.range' i len).map d)
      = (List.range' i len).map fun k => ((⟨a k, k, b k⟩ : DKey), d k)
  | 0, _ => rfl
  | len + 1, i => by simp only [List.range'_succ, List.map_cons, mkDecisions, mkDecisions_map a b d len]

theorem alGet_map_key {ι α β : Type} [DecidableEq α] (key : ι → α) (v : ι → β)
    (hinj : ∀ a b, key a = key b → a = b) {l : List ι} {k0 : ι} (h : k0 ∈ l) :
    alGet (l.map fun k => (key k, v k)) (key k0) = some (v k0) := by
  induction l with
  | nil => cases h
  | cons k ks ih =>
    simp only [List.map_cons, alGet]
    split
    · rename_i hk
      rw [hinj _ _ hk]
    · rename_i hk
      rcases List.mem_cons.mp h with e | e
      · exact absurd (e ▸ rfl) hk
      · exact ih e

theorem parentOf_range (hwf : wellFormed t X m nxt = true) :
    (List.range t.n).map (parentOf t) = none :: (nodes1 t).map (parentOf t) := by
  rw [range_eq_cons_nodes1 (wf_pos hwf), List.map_cons, parentOf_zero hwf]

/-- `L` converted on `X`, traced on `X'`.  The generator dictionary and the decisions that `from_decision_tree` stores
    depend on the tree arrays and the successor map only, and of the concepts of `X` only the `support` is read again
    (to order the worklist): so only `X'` has to meet `wellFormed`. -/
theorem tspec_of_conv {X' : Rows} {L : DLat}
    (hwf' : wellFormed t X' m nxt = true) (hconv : fromDecisionTree t X m nxt = .ok L) :
    TSpec L.lat X' m t.n (parF t) (premF t nxt) (EF t X') ∧
    L.decisions = (List.range t.n).map (fun k => ((⟨parentOf t k, k, premF t nxt k⟩ : DKey), delta t k)) := by
  have hn := wf_pos hwf'
  obtain ⟨r, hr, hgens, hdec, htop, hclen⟩ := fromDecisionTree_inv hn hconv
  obtain ⟨hdp, hpr, hdt, _⟩ := parse_inv hn hr
  rw [← parentOf_range hwf'] at hdp
  have hgens' : L.lat.gens = (List.range t.n).map (genF t nxt) := by
    rw [hgens, hdp, hpr, mkGens_map]
    rfl
  refine ⟨⟨hn, htop, ?_, ?_, ?_, ?_, ?_, ?_, hclen⟩, ?_⟩
  · rw [hgens', List.length_map, List.length_range]
  · rw [hgens', List.getElem?_map, List.getElem?_range hn, Option.map_some, genF, parentOf_zero hwf']
    rfl
  · intro k hk0 hkn
    rw [hgens', List.getElem?_map, List.getElem?_range hkn, Option.map_some, genF, parentOf_eq_parF hwf' hk0 hkn]
  · intro k hk0 hkn
    exact parent_lt hwf' (parentOf_eq_parF hwf' hk0 hkn)
  · rw [EF_zero]; rfl
  · intro k hk0 hkn
    exact EF_trace hwf' (parentOf_eq_parF hwf' hk0 hkn)
  · rw [hdec, hdp, hpr, hdt, List.range_eq_range', mkDecisions_map]

theorem tracePathOK_of_conv {X' : Rows} {L : DLat}
    (hwf' : wellFormed t X' m nxt = true) (hconv : fromDecisionTree t X m nxt = .ok L)
    (order : List GenRec → List GenRec) (horder : ∀ l, (order l).Perm l) :
    ∃ recs, traceContext L.lat X' m order = .ok recs ∧ tracePathOK t X' recs = true ∧
      traceKeysOK t L.decisions recs = true ∧ (fitted t X' = true → recs.length = t.n) := by
  obtain ⟨hspec, hdec⟩ := tspec_of_conv hwf' hconv
  obtain ⟨ks, hrecs, hnd, hlt, hall⟩ := traceContext_rows hspec order horder
  refine ⟨_, hrecs, ?_, ?_, fun hfit => ?_⟩
  · rw [tracePathOK, List.all_eq_true]
    intro g hg
    rw [List.mem_range] at hg
    rw [decide_eq_true_eq, recOf_filter_map]
    obtain ⟨hprops, hpnd⟩ := pathFrom_props hwf' (X'.getD g []) t.n 0
    apply (List.perm_ext_iff_of_nodup (hnd.filter _) hpnd).mpr
    intro c
    rw [List.mem_filter, List.contains_eq_mem, decide_eq_true_eq, mem_EF]
    exact ⟨fun h => h.2.2, fun hc => ⟨hall c g ((hprops c hc).2 (wf_pos hwf')) (mem_EF.mpr ⟨hg, hc⟩), hg, hc⟩⟩
  · rw [traceKeysOK, List.all_eq_true]
    intro r hr
    obtain ⟨k, hk, rfl⟩ := List.mem_map.mp hr
    have hkn := hlt k hk
    have hkey : (⟨(recOf (parF t) (premF t nxt) (EF t X') k).sup, (recOf (parF t) (premF t nxt) (EF t X') k).concept,
        (recOf (parF t) (premF t nxt) (EF t X') k).gen⟩ : DKey) = ⟨parentOf t k, k, premF t nxt k⟩ := by
      by_cases hk0 : k = 0
      · subst hk0; rw [parentOf_zero hwf']; rfl
      · simp only [recOf, if_neg hk0, parentOf_eq_parF hwf' (Nat.pos_of_ne_zero hk0) hkn]
    rw [hkey, hdec, recOf_concept,
      alGet_map_key (fun k => (⟨parentOf t k, k, premF t nxt k⟩ : DKey)) (delta t)
        (fun a b hab => (DKey.mk.inj hab).2.1) (List.mem_range.mpr hkn)]
    exact beq_self_eq_true _
  · -- every node has a non-empty extent: the nodes of the records are, in some order, `0, …, n - 1`
    rw [List.length_map]
    refine ((List.perm_ext_iff_of_nodup hnd List.nodup_range).mpr fun k => ?_).length_eq.trans List.length_range
    rw [List.mem_range]
    refine ⟨hlt k, fun hk => ?_⟩
    obtain ⟨g, hg⟩ := fitted_witness hfit hk
    exact hall k g hk (mem_EF.mpr hg)

end

theorem sumR_perm {l1 l2 : List Rat} (h : l1.Perm l2) : sumR l1 = sumR l2 := by
  induction h with
  | nil => rfl
  | cons x _ ih => simp [sumR, ih]
  | swap x y l => simp only [sumR]; grind
  | trans _ _ ih1 ih2 => exact ih1.trans ih2

theorem addAt_length (acc : List Rat) (ext : List Nat) (d : Rat) : (addAt acc ext d).length = acc.length := by
  simp [addAt]

theorem addAt_getD (acc : List Rat) (ext : List Nat) (d : Rat) (g : Nat) (hg : g < acc.length) :
    (addAt acc ext d).getD g 0 = if ext.contains g then acc.getD g 0 + d else acc.getD g 0 :=
  ListAux.getD_map_range _ _ _ _ hg

theorem sumDiff_spec (dec : List (DKey × Rat)) (d : Nat → Rat) (recs : List GenRec)
    (hk : ∀ r ∈ recs, alGet dec ⟨r.sup, r.concept, r.gen⟩ = some (d r.concept)) (acc : List Rat) :
    ∃ res, sumDiff dec recs acc = .ok res ∧ res.length = acc.length ∧
      ∀ g < acc.length, res.getD g 0
        = acc.getD g 0 + sumR (((recs.filter fun r => r.ext.contains g).map (·.concept)).map d) := by
  induction recs generalizing acc with
  | nil =>
    refine ⟨acc, rfl, rfl, ?_⟩
    intro g _
    simp [sumR, Rat.add_zero]
  | cons r rs ih =>
    have hr := hk r List.mem_cons_self
    obtain ⟨res, h1, h2, h3⟩ := ih (fun r' h' => hk r' (List.mem_cons_of_mem _ h')) (addAt acc r.ext (d r.concept))
    refine ⟨res, ?_, ?_, ?_⟩
    · simp only [sumDiff, hr]; exact h1
    · rw [h2, addAt_length]
    · intro g hg
      rw [h3 g (by rw [addAt_length]; exact hg), addAt_getD _ _ _ _ hg]
      simp only [List.filter_cons]
      split
      · simp only [List.map_cons, sumR]
        exact Rat.add_assoc _ _ _
      · rfl

theorem predict_of_trace (t : Tree) (X : Rows) (m : Nat) (nxt : Rat → Rat)
    (hwf : wellFormed t X m nxt = true) (L : DLat) (order : List GenRec → List GenRec)
    (recs : List GenRec) (htrace : traceContext L.lat X m order = .ok recs)
    (hkeys : traceKeysOK t L.decisions recs = true) (hpath : tracePathOK t X recs = true) :
    ∃ preds, predict L X m order = .ok preds ∧ preds.length = nObjects X ∧
      ∀ g < nObjects X, preds.getD g 0 = treePredict t (X.getD g []) := by
  have hk : ∀ r ∈ recs, alGet L.decisions ⟨r.sup, r.concept, r.gen⟩ = some (delta t r.concept) := by
    intro r hr
    have := List.all_eq_true.mp hkeys r hr
    simpa using this
  obtain ⟨res, h1, h2, h3⟩ := sumDiff_spec L.decisions (delta t) recs hk (List.replicate (nObjects X) 0)
  refine ⟨res, ?_, ?_, ?_⟩
  · simp only [predict, htrace]; exact h1
  · simpa using h2
  · intro g hg
    have hp := List.all_eq_true.mp hpath g (List.mem_range.mpr hg)
    have hperm := of_decide_eq_true hp
    rw [h3 g (by simpa using hg), sumR_perm (hperm.map (delta t)), telescope hwf,
      ListAux.getD_replicate _ _ _ _ hg, Rat.zero_add]

end Fca.DL
