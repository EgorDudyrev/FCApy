/-
  The specifications of the query accessors: each preserves the cache invariant, keeps the
  elements, returns normally on in-range indexes, and its result is the `Fresh` value.
-/
import Fca.Lemmas.PosetInv
import Fca.Lemmas.ListAux
namespace Fca.Poset
open Fca.Poset.Fresh

section memo
variable {α : Type}

/-- `self.descendants(e)` and `self.children(e)` are one program: return the cached entry of `e`; on a miss
    compute it with `m`, store it and return it; without cache just `m` -/
def memo (sel : St α → Cache) (upd : St α → Cache → St α) (m : M α (List Nat)) (e : Nat) : M α (List Nat) := do
  let s ← M.get
  if s.useCache then
    match alookup e (sel s) with
    | some r => pure r
    | none => do
      let r ← m
      M.modify fun s => upd s (ainsert e r (sel s))
      pure r
  else m

theorem closedE_eq_memo {leq : α → α → Bool} (d : Dir) (e : Nat) :
    closedE leq d e = memo (·.closed d) (·.setClosed d) (closedNocache leq d e) e := rfl

theorem directE_eq_memo {leq : α → α → Bool} {ord : List Nat → List Nat} (d : Dir) (e : Nat) :
    directE leq ord d e = memo (·.direct d) (·.setDirect d) (directNocache leq ord d e) e := rfl

/-- `hm` also asks that storing the computed value keeps `I`; afterwards the entry of `e` is in the cache -/
theorem sat_memo {sel : St α → Cache} {upd : St α → Cache → St α} {m : M α (List Nat)} {e : Nat} {s : St α}
    {I : St α → Prop} {R : List Nat → Prop} {c : Bool} (hsel : ∀ s ca, sel (upd s ca) = ca) (hs : I s)
    (hf : s.useCache = c) (hhit : c = true → ∀ r, alookup e (sel s) = some r → R r)
    (hm : Sat m s (fun s' r => I s' ∧ R r ∧ (c = true → I (upd s' (ainsert e r (sel s')))))) :
    Sat (memo sel upd m e) s (fun s' r => I s' ∧ R r ∧ (c = true → (alookup e (sel s')).isSome = true)) := by
  subst hf
  unfold memo
  apply sat_bind
  apply sat_get
  by_cases hc : s.useCache = true
  · rw [if_pos hc]
    cases h1 : alookup e (sel s) with
    | some r => exact sat_pure ⟨hs, hhit hc r h1, fun _ => by rw [h1]; rfl⟩
    | none =>
      apply sat_bind
      apply sat_mono hm
      rintro s1 r ⟨_, hr, hi⟩
      apply sat_bind
      apply sat_modify
      exact sat_pure ⟨hi hc, hr, fun _ => by rw [hsel, alookup_ainsert, if_pos rfl]; rfl⟩
  · rw [if_neg hc]
    exact sat_mono hm fun s' r h1 => ⟨h1.1, h1.2.1, fun h => absurd h hc⟩

end memo

section
variable {α : Type} [DecidableEq α] {leq : α → α → Bool} {ord : List Nat → List Nat}

theorem indexOf?_eq_idxOf? (e : α) (l : List α) : indexOf? e l = l.idxOf? e := by
  induction l with
  | nil => rfl
  | cons x xs ih =>
    rw [indexOf?, List.idxOf?_cons, ih]
    by_cases h : e = x
    · rw [if_pos h, if_pos (beq_iff_eq.mpr h.symm)]
    · rw [if_neg h, if_neg (fun h' => h (beq_iff_eq.mp h').symm)]

theorem indexOf?_some_of_mem {e : α} {l : List α} (h : e ∈ l) : ∃ i, indexOf? e l = some i := by
  rw [indexOf?_eq_idxOf?]
  exact Option.isSome_iff_exists.mp (List.isSome_idxOf?.mpr h)

theorem indexOf?_none_of_not_mem {e : α} {l : List α} (h : e ∉ l) : indexOf? e l = none := by
  rw [indexOf?_eq_idxOf?]
  exact List.idxOf?_eq_none_iff.mpr h

theorem indexOf?_spec {e : α} {l : List α} {i : Nat} (h : indexOf? e l = some i) : l[i]? = some e := by
  rw [indexOf?_eq_idxOf?, List.idxOf?_eq_some_iff] at h
  obtain ⟨hi, he, _⟩ := h
  rw [List.getElem?_eq_getElem hi, he]

theorem indexOf?_getElem {l : List α} (hnd : l.Nodup) {i : Nat} (hi : i < l.length) :
    indexOf? l[i] l = some i := by
  rw [indexOf?_eq_idxOf?, List.idxOf?_eq_some_iff]
  exact ⟨hi, rfl, fun j hj e => Nat.ne_of_lt hj ((List.getElem_inj hnd).mp e)⟩

theorem indexE_run (s : St α) (e : α) :
    (indexE e) s = (s, match indexOf? e s.elems with
      | some i => .ok i
      | none => .error .KeyError) := by
  unfold indexE
  show M.bind M.get _ s = _
  unfold M.bind M.get
  simp only
  cases indexOf? e s.elems <;> rfl

theorem setEq_congr {a a' b : List Nat} (h : ∀ x, x ∈ a ↔ x ∈ a') : setEq a b = setEq a' b := by
  unfold setEq
  rw [ListAux.all_eq_of_mem_iff h]
  simp only [h]

variable {E : List α} {G : Ghost} {c : Bool}

/-- invariant of the subtraction loops over a list of the `y` with `P y`: after processing `pre`, `acc` = those
    that are not strictly on the `d` side of a processed element -/
def SubInv (leq : α → α → Bool) (d : Dir) (E : List α) (P : Nat → Prop) (pre acc : List Nat) : Prop :=
  acc.Nodup ∧ ∀ y, y ∈ acc ↔ (P y ∧ ∀ x ∈ pre, ltD leq d E y x = false)

theorem subInv_step_in {d : Dir} {P : Nat → Prop} {pre acc a : List Nat} {x : Nat}
    (hJ : SubInv leq d E P pre acc) (ha : SetEq a (closed leq d E x)) :
    SubInv leq d E P (pre ++ [x]) (setDiff acc a) := by
  refine ⟨nodup_setDiff hJ.1, fun y => ?_⟩
  rw [mem_setDiff, hJ.2 y, ha.2 y, mem_closed]
  simp only [List.mem_append, List.mem_singleton]
  constructor
  · rintro ⟨⟨hy, hp⟩, hn⟩
    refine ⟨hy, fun z hz => ?_⟩
    rcases hz with hz | rfl
    · exact hp z hz
    · simpa using hn
  · rintro ⟨hy, hp⟩
    exact ⟨⟨hy, fun z hz => hp z (Or.inl hz)⟩, by simpa using hp x (Or.inr rfl)⟩

variable (hpo : IdxPO leq E)
include hpo

theorem subInv_step_out {d : Dir} {P : Nat → Prop} {pre acc : List Nat} {x : Nat}
    (hJ : SubInv leq d E P pre acc) (hx : P x) (hxa : x ∉ acc) :
    SubInv leq d E P (pre ++ [x]) acc := by
  refine ⟨hJ.1, fun y => ?_⟩
  rw [hJ.2 y]
  simp only [List.mem_append, List.mem_singleton]
  constructor
  · rintro ⟨hy, hp⟩
    refine ⟨hy, fun z hz => ?_⟩
    rcases hz with hz | rfl
    · exact hp z hz
    · -- z was removed by an earlier element x' with z <_d x'; then y <_d z would give y <_d x'
      have : ¬ (P z ∧ ∀ x' ∈ pre, ltD leq d E z x' = false) := fun hh => hxa ((hJ.2 z).mpr hh)
      cases hyz : ltD leq d E y z
      · rfl
      · exfalso
        apply this
        refine ⟨hx, fun x' hx' => ?_⟩
        cases hzx : ltD leq d E z x'
        · rfl
        · have := hp x' hx'
          rw [ltD_trans hpo d hyz hzx] at this; cases this
  · rintro ⟨hy, hp⟩
    exact ⟨hy, fun z hz => hp z (Or.inl hz)⟩

/-- `for y in list(C): acc = f(acc, y)` started with `acc = C`, the `y` with `P y`, where `f` removes from `acc`
    what is strictly on the `d` side of `y` (and may do nothing once `y` itself has been removed): the `d`-maximal
    ones survive -/
theorem sat_foldM_subtract (I : St α → Prop) {d : Dir} {P : Nat → Prop} {C : List Nat} (hC : C.Nodup)
    (hP : ∀ x, x ∈ C ↔ P x) (hord : ∀ l, (ord l).Perm l) (f : List Nat → Nat → M α (List Nat))
    (hf : ∀ acc y s, P y → I s → Sat (f acc y) s (fun s' r => I s' ∧
      ((∃ a, SetEq a (closed leq d E y) ∧ r = setDiff acc a) ∨ (y ∉ acc ∧ r = acc))))
    (s : St α) (hs : I s) :
    Sat (M.foldM f C (ord C)) s (fun s' r => I s' ∧ r.Nodup ∧
      ∀ y, y ∈ r ↔ (P y ∧ ∀ x, P x → ltD leq d E y x = false)) := by
  refine sat_mono (sat_foldM I (fun pre acc => SubInv leq d E P pre acc) f (ord C) ?_ [] C s hs
    ⟨hC, fun y => by simp [hP]⟩) (fun s' r h1 => ⟨h1.1, h1.2.1, fun y =>
      (h1.2.2 y).trans (and_congr_right' (forall_congr' fun x =>
        imp_congr_left ((hord C).mem_iff.trans (hP x))))⟩)
  intro pre y acc s1 hy h1 hJ
  have hyC : P y := (hP y).mp ((hord C).mem_iff.mp hy)
  apply sat_mono (hf acc y s1 hyC h1)
  rintro s2 r ⟨h2, ⟨a, ha, rfl⟩ | ⟨hya, rfl⟩⟩
  · exact ⟨h2, subInv_step_in hJ ha⟩
  · exact ⟨h2, subInv_step_out hpo hJ hyC hya⟩

/-- reading a comparison off a closed entry: `a == b or a in self._cache_descendants[b]` -/
theorem beq_or_contains_eq_relD {d : Dir} {x k : Nat} {v : List Nat} (hk : k < E.length)
    (hv : ∀ y, y ∈ v ↔ ltD leq d E y k = true) : (x == k || v.contains x) = relD leq d E x k := by
  by_cases e : x = k
  · subst e; rw [beq_self_eq_true, Bool.true_or, relD_refl hpo d hk]
  · rw [beq_false_of_ne e, Bool.false_or, Bool.eq_iff_iff, List.contains_iff_mem, hv x, ltD_iff]
    exact and_iff_left e

theorem leqE_spec {s : St α} (h : InvB leq E G c s) {a b : Nat} (ha : a < E.length) (hb : b < E.length) :
    Sat (leqE leq a b) s (fun s' r => InvB leq E G c s' ∧ r = rel leq E a b) := by
  have hnc : leqNocache leq s.elems a b = .ok (rel leq E a b) := by
    unfold leqNocache
    rw [h.elems, List.getElem?_eq_getElem ha, List.getElem?_eq_getElem hb, rel_eq ha hb]
  unfold Sat leqE
  by_cases hc : s.useCache = true
  · have hct : c = true := h.flag.symm.trans hc
    rw [if_pos hc]
    cases h1 : alookup (a, b) s.leqC with
    | some r => exact ⟨s, r, rfl, h, h.leqIn hct a b r ha hb h1⟩
    | none =>
      cases h2 : alookup b s.descC with
      | some dd =>
        exact ⟨s, _, rfl, h, beq_or_contains_eq_relD hpo (d := .desc) hb (h.closedIn hct .desc b dd hb h2).2⟩
      | none =>
        cases h3 : alookup a s.ancC with
        | some an =>
          refine ⟨s, _, rfl, h, ?_⟩
          rw [BEq.comm]
          exact beq_or_contains_eq_relD hpo (d := .anc) ha (h.closedIn hct .anc a an ha h3).2
        | none =>
          simp only [hnc]
          exact ⟨_, _, rfl, h.insertLeq ha hb rfl, rfl⟩
  · rw [if_neg hc, hnc]
    exact ⟨s, _, rfl, h, rfl⟩

theorem leqDir_spec {s : St α} (h : InvB leq E G c s) (d : Dir) {i e : Nat} (hi : i < E.length)
    (he : e < E.length) :
    Sat (leqDir leq d i e) s (fun s' r => InvB leq E G c s' ∧ r = relD leq d E i e) := by
  cases d
  · exact leqE_spec hpo h hi he
  · exact leqE_spec hpo h he hi

theorem closedNocache_spec {s : St α} (h : InvB leq E G c s) (d : Dir) {e : Nat} (he : e < E.length) :
    Sat (closedNocache leq d e) s (fun s' r => InvB leq E G c s' ∧ r = closed leq d E e) := by
  unfold closedNocache
  apply sat_bind
  apply sat_get
  rw [h.elems]
  refine sat_filterM (InvB leq E G c) _ (fun i => ltD leq d E i e) (List.range E.length) (fun i hi s1 h1 => ?_) s h
  apply sat_bind
  apply sat_mono (leqDir_spec hpo h1 d (List.mem_range.mp hi) he)
  rintro s2 r ⟨h2, rfl⟩
  exact sat_pure ⟨h2, rfl⟩

theorem closedE_spec {s : St α} (h : InvB leq E G c s) (d : Dir) {e : Nat} (he : e < E.length) :
    Sat (closedE leq d e) s (fun s' r => InvB leq E G c s' ∧ SetEq r (closed leq d E e) ∧
      (c = true → (alookup e (s'.closed d)).isSome = true)) := by
  rw [closedE_eq_memo]
  refine sat_memo (I := InvB leq E G c) (R := fun r => SetEq r (closed leq d E e))
    (fun s ca => closed_setClosed s d ca) h h.flag ?_ ?_
  · intro hc r h1
    have := h.closedIn hc d e r he h1
    exact ⟨this.1, fun x => by rw [this.2 x, mem_closed]⟩
  · apply sat_mono (closedNocache_spec hpo h d he)
    rintro s1 r ⟨h2, rfl⟩
    exact ⟨h2, ⟨nodup_closed d e, fun _ => Iff.rfl⟩,
      fun _ => h2.insertClosed he (nodup_closed d e) (fun x => mem_closed)⟩

/-- `bottoms`/`tops` leave the closed relation of every element in the cache -/
theorem extremesE_fills_closed {s : St α} (h : InvB leq E G c s) (d : Dir) :
    Sat (extremesE leq d) s (fun s' r =>
      InvB leq E (G.addClosedP d (fun k => k < E.length)) c s' ∧ r = extremes leq d E) := by
  unfold extremesE
  apply sat_bind
  apply sat_get
  rw [h.elems]
  have := sat_filterM_pre (fun pre s1 => InvB leq E (G.addClosedP d (fun k => k ∈ pre)) c s1)
    (fun i => do
      let a ← closedE leq d i
      pure a.isEmpty) (fun i => (closed leq d E i).isEmpty) (List.range E.length) ?_ [] s
    (h.addClosedP d _ (fun _ k hk => by cases hk))
  · apply sat_mono this
    rintro s' r ⟨h1, h2⟩
    refine ⟨?_, h2⟩
    exact h1.dropClosedP.addClosedP d _ (fun hct k hk =>
      h1.closedPres hct d k (Or.inr ⟨rfl, List.mem_range.mpr hk⟩))
  · intro pre i s1 hi h1
    apply sat_bind
    apply sat_mono (closedE_spec hpo h1 d (List.mem_range.mp hi))
    rintro s2 a ⟨h2, ha, hp⟩
    apply sat_pure
    refine ⟨h2.dropClosedP.addClosedP d _ (fun hct k hk => ?_), ha.isEmpty_eq⟩
    rcases List.mem_append.mp hk with hk | hk
    · exact h2.closedPres hct d k (Or.inr ⟨rfl, hk⟩)
    · simp at hk; subst hk; exact hp hct

theorem extremesE_spec {s : St α} (h : InvB leq E G c s) (d : Dir) :
    Sat (extremesE leq d) s (fun s' r => InvB leq E G c s' ∧ r = extremes leq d E) :=
  sat_mono (extremesE_fills_closed hpo h d) fun _ _ h1 => ⟨h1.1.dropClosedP, h1.2⟩

/-- the first loop of `join`/`meet`: intersect with the closed sets (each with its own element) of the selection -/
theorem boundE_intersect_spec {s : St α} (h : InvB leq E G c s) (d : Dir) {j0 xs : List Nat} (hj0 : j0.Nodup)
    (hxs : ∀ y ∈ xs, y < E.length) :
    Sat (M.foldM (fun acc y => do
        let a ← closedE leq d y
        pure (setInter acc (setInsert y a))) j0 xs) s
      (fun s' j1 => InvB leq E G c s' ∧ j1.Nodup ∧
        ∀ z, z ∈ j1 ↔ z ∈ j0 ∧ ∀ y ∈ xs, z = y ∨ ltD leq d E z y = true) := by
  refine sat_foldM (InvB leq E G c)
    (fun pre acc => acc.Nodup ∧ ∀ z, z ∈ acc ↔ z ∈ j0 ∧ ∀ y ∈ pre, z = y ∨ ltD leq d E z y = true)
    _ xs ?_ [] j0 s h ⟨hj0, fun z => by simp⟩
  intro pre y acc s2 hy h2 hJ
  apply sat_bind
  apply sat_mono (closedE_spec hpo h2 d (hxs y hy))
  rintro s3 a ⟨h3, ha, -⟩
  apply sat_pure
  refine ⟨h3, nodup_setInter hJ.1, fun z => ?_⟩
  rw [mem_setInter, hJ.2 z, mem_setInsert, ha.2 z, mem_closed]
  simp only [List.mem_append, List.mem_singleton]
  constructor
  · rintro ⟨⟨h0, h1⟩, h2⟩
    exact ⟨h0, fun w hw => hw.elim (h1 w) (fun e => e ▸ h2)⟩
  · rintro ⟨h0, hh⟩
    exact ⟨⟨h0, fun w hw => hh w (Or.inl hw)⟩, hh y (Or.inr rfl)⟩

theorem eqLoop_spec (O : List α) (hEO : ∀ x ∈ E, x ∈ O) (l : List Nat) (hl : ∀ i ∈ l, i < E.length)
    {s : St α} (h : InvB leq E G c s) :
    Sat (eqLoop leq O l) s (fun s' r => InvB leq E G c s' ∧
      r = l.all (eqAt leq E O)) := by
  induction l generalizing s with
  | nil => exact sat_pure ⟨h, rfl⟩
  | cons i is ih =>
    have hi : i < E.length := hl i List.mem_cons_self
    unfold eqLoop
    apply sat_bind
    apply sat_get
    apply sat_bind
    apply sat_mono (closedE_spec hpo h .desc hi)
    rintro s1 mine ⟨h1, hmine, -⟩
    rw [h.elems]
    obtain ⟨oi, hoi⟩ := indexOf?_some_of_mem (hEO _ (List.getElem_mem hi))
    simp only [List.getElem?_eq_getElem hi, hoi, List.all_cons, eqAt]
    rw [setEq_congr hmine.2]
    split
    · rename_i hh
      rw [hh, Bool.true_and]
      exact ih (fun j hj => hl j (List.mem_cons_of_mem _ hj)) h1
    · rename_i hh
      apply sat_pure
      refine ⟨h1, ?_⟩
      simp only [Bool.not_eq_true] at hh
      rw [hh, Bool.false_and]

theorem eqE_spec (O : List α) {s : St α} (h : InvB leq E G c s) :
    Sat (eqE leq O) s (fun s' r => InvB leq E G c s' ∧ r = eqOther leq E O) := by
  unfold eqE
  apply sat_bind
  apply sat_get
  rw [h.elems]
  unfold eqOther
  split
  · rename_i hh
    rw [hh, Bool.true_and]
    have hEO : ∀ x ∈ E, x ∈ O := by
      simp only [Bool.and_eq_true, List.all_eq_true, decide_eq_true_eq] at hh
      exact hh.1
    exact eqLoop_spec hpo O hEO _ (fun i hi => List.mem_range.mp hi) h
  · rename_i hh
    simp only [Bool.not_eq_true] at hh
    rw [hh, Bool.false_and]
    exact sat_pure ⟨h, rfl⟩

theorem fillLeq_spec {s : St α} (h : InvB leq E G c s) :
    Sat (fillLeq leq) s (fun s' _ => InvB leq E G c s') := by
  unfold fillLeq
  apply sat_bind
  apply sat_get
  rw [h.elems]
  apply sat_forM (InvB leq E G c) _ _ ?_ s h
  intro i hi s1 h1
  apply sat_forM (InvB leq E G c) _ _ ?_ s1 h1
  intro j hj s2 h2
  apply sat_bind
  apply sat_get
  split
  · exact sat_pure h2
  · apply sat_bind
    apply sat_mono (leqE_spec hpo h2 (List.mem_range.mp hi) (List.mem_range.mp hj))
    rintro s3 r ⟨h3, _⟩
    exact sat_pure h3

theorem fillClosed_spec (d : Dir) {s : St α} (h : InvB leq E G c s) :
    Sat (fillClosed leq d) s (fun s' _ => InvB leq E G c s') := by
  unfold fillClosed
  apply sat_bind
  apply sat_get
  rw [h.elems]
  apply sat_forM (InvB leq E G c) _ _ ?_ s h
  intro i hi s1 h1
  apply sat_bind
  apply sat_mono (closedE_spec hpo h1 d (List.mem_range.mp hi))
  rintro s3 r ⟨h3, _⟩
  exact sat_pure h3

variable (hord : ∀ l, (ord l).Perm l)
include hord

theorem directNocache_spec {s : St α} (h : InvB leq E G c s) (d : Dir) {e : Nat} (he : e < E.length) :
    Sat (directNocache leq ord d e) s (fun s' r => InvB leq E G c s' ∧ SetEq r (direct leq d E e)) := by
  unfold directNocache
  apply sat_bind
  apply sat_mono (closedE_spec hpo h d he)
  rintro s1 xs ⟨h1, hxs, -⟩
  refine sat_mono (sat_foldM_subtract hpo (d := d) (InvB leq E G c) hxs.1
    (fun x => (hxs.2 x).trans mem_closed) hord _ ?_ s1 h1) ?_
  · intro acc x s2 hxC h2
    by_cases hxa : x ∈ acc
    · rw [if_pos hxa]
      apply sat_bind
      apply sat_mono (closedE_spec hpo h2 d (ltD_lt_length hxC).1)
      rintro s3 a ⟨h3, ha, -⟩
      exact sat_pure ⟨h3, Or.inl ⟨a, ha, rfl⟩⟩
    · rw [if_neg hxa]
      exact sat_pure ⟨h2, Or.inr ⟨hxa, rfl⟩⟩
  · rintro s2 r ⟨h2, hnd, hmem⟩
    exact ⟨h2, hnd, fun y => by rw [hmem y, mem_direct, isCover_iff_max]⟩

theorem directE_spec {s : St α} (h : InvB leq E G c s) (d : Dir) {e : Nat} (he : e < E.length) :
    Sat (directE leq ord d e) s (fun s' r => InvB leq E G c s' ∧ SetEq r (direct leq d E e) ∧
      (c = true → (alookup e (s'.direct d)).isSome = true)) := by
  rw [directE_eq_memo]
  refine sat_memo (I := InvB leq E G c) (R := fun r => SetEq r (direct leq d E e))
    (fun s ca => direct_setDirect s d ca) h h.flag ?_ ?_
  · intro hc r h1
    have := h.directIn hc d e r he h1
    exact ⟨this.1, fun x => by rw [this.2 x, mem_direct]⟩
  · apply sat_mono (directNocache_spec hpo hord h d he)
    rintro s1 r ⟨h2, hr⟩
    exact ⟨h2, hr, fun _ => h2.insertDirect he hr.1 (fun x => by rw [hr.2 x, mem_direct])⟩

theorem boundE_spec {s : St α} (h : InvB leq E G c s) (d : Dir) (S : List Nat)
    (hne : E.length ≠ 0) (hS : ∀ y ∈ S, y < E.length) :
    Sat (boundE leq ord d S) s (fun s' r => InvB leq E G c s' ∧ r = bound leq d E S) := by
  unfold boundE
  apply sat_bind
  apply sat_get
  rw [h.elems]
  unfold bound
  simp only
  generalize hS' : (if S.isEmpty = true then List.range E.length else S) = S'
  have hS'r : ∀ y ∈ S', y < E.length := by
    subst hS'
    split
    · intro y hy; exact List.mem_range.mp hy
    · exact hS
  have hS'ne : S' ≠ [] := by
    subst hS'
    split
    · intro e
      have := congrArg List.length e
      rw [List.length_range] at this; exact hne this
    · rename_i hh; simpa using hh
  match S', hS'ne, hS'r with
  | x :: xs, hne', hS'r =>
    simp only
    apply sat_bind
    apply sat_mono (closedE_spec hpo h d (hS'r x List.mem_cons_self))
    rintro s1 a0 ⟨h1, ha0, -⟩
    apply sat_bind
    apply sat_mono (boundE_intersect_spec hpo h1 d (nodup_setInsert ha0.1) fun y hy => hS'r y (List.mem_cons_of_mem _ hy))
    rintro s2 j1 ⟨h2, hj1n, hj1⟩
    have hj1B : ∀ z, z ∈ j1 ↔ z ∈ bounds leq d E (x :: xs) := fun z => by
      rw [hj1 z, mem_bounds hne' hS'r, mem_setInsert, ha0.2 z, mem_closed, List.forall_mem_cons]
    apply sat_bind
    refine sat_mono (sat_foldM_subtract hpo (d := d) (InvB leq E G c) hj1n hj1B hord _ ?_ s2 h2) ?_
    · intro acc y s3 hy h3
      apply sat_bind
      apply sat_mono (closedE_spec hpo h3 d (List.mem_range.mp (List.mem_filter.mp hy).1))
      rintro s4 a ⟨h4, ha, -⟩
      exact sat_pure ⟨h4, Or.inl ⟨a, ha, rfl⟩⟩
    · rintro s3 j2 ⟨h3, hnd, hmem⟩
      apply sat_pure
      refine ⟨h3, ?_⟩
      apply SetEq.single_eq
      · refine ⟨hnd, fun y => ?_⟩
        rw [hmem y]
        simp only [List.mem_filter, List.all_eq_true, Bool.not_eq_true']
      · exact (List.nodup_range.filter _).filter _

theorem fillDirect_spec (d : Dir) {s : St α} (h : InvB leq E G c s) :
    Sat (fillDirect leq ord d) s (fun s' _ => InvB leq E G c s') := by
  unfold fillDirect
  apply sat_bind
  apply sat_get
  rw [h.elems]
  apply sat_forM (InvB leq E G c) _ _ ?_ s h
  intro i hi s1 h1
  apply sat_bind
  apply sat_mono (directE_spec hpo hord h1 d (List.mem_range.mp hi))
  rintro s3 r ⟨h3, _⟩
  exact sat_pure h3

theorem fillE_spec (k : FillKind) {s : St α} (h : InvB leq E G true s) :
    Sat (fillE leq ord k) s (fun s' _ => InvB leq E G true s') := by
  unfold fillE
  apply sat_bind
  apply sat_get
  rw [h.flag]
  simp only [↓reduceIte]
  cases k
  · exact fillLeq_spec hpo h
  · exact fillClosed_spec hpo .desc h
  · exact fillClosed_spec hpo .anc h
  · exact fillDirect_spec hpo hord .desc h
  · exact fillDirect_spec hpo hord .anc h
  · simp only
    apply sat_bind
    apply sat_mono (fillLeq_spec hpo h)
    intro s1 _ h1
    apply sat_bind
    apply sat_mono (fillClosed_spec hpo .desc h1)
    intro s2 _ h2
    apply sat_bind
    apply sat_mono (fillClosed_spec hpo .anc h2)
    intro s3 _ h3
    apply sat_bind
    apply sat_mono (fillDirect_spec hpo hord .desc h3)
    intro s4 _ h4
    exact fillDirect_spec hpo hord .anc h4

end
end Fca.Poset
