/-
  `add_concept`.  Its two breadth-first searches (downwards from the top, upwards from the bottom) may queue an index
  many times; they still end within the closed-form fuel, by a potential, and return the good nodes none of whose
  neighbours is good: the upper / lower covers of the new concept.  The dictionary updates then turn the cover relation
  of the list into that of the enlarged list.  All of it is shown once for a strict order `L` on `0 … n` (`n` the new
  index) and used for the order of the enlarged list and for its reverse.
-/
import Fca.Lemmas.ConstructTopBottom
namespace Fca.Construct
open Fca.Spec

/-- what either search of `add_concept` is run on: `adj` lists the lower covers w.r.t. `lt`, `good` is up-closed,
    every good node is below `start`, and `B` exceeds every adjacency size -/
structure BfsCtx (n : Nat) (lt : Nat → Nat → Bool) (rank : Nat → Nat) (adj : List (List Nat))
    (good : Nat → Bool) (start B : Nat) : Prop where
  ord : StrictOrd lt rank
  adjOK : CoverDictBy n lt adj
  adjSmall : ∀ c, c < n → (adj.getD c []).length < B
  upClosed : ∀ s c, s < n → c < n → good s = true → lt s c = true → good c = true
  top : Ord.Greatest n lt start
  startGood : good start = true

/-- invariant of `bfsDirect`: the search stays among the `good` nodes reached from `start`, and `direct` holds the visited
    ones none of whose neighbours is `good` -/
structure BfsInv (n : Nat) (adj : List (List Nat)) (good : Nat → Bool) (start : Nat)
    (queue visited direct : List Nat) : Prop where
  qGood : ∀ c ∈ queue, c < n ∧ good c = true
  vGood : ∀ c ∈ visited, c < n ∧ good c = true
  dNodup : direct.Nodup
  dChar : ∀ x, x ∈ direct ↔ x ∈ visited ∧ ∀ s ∈ adj.getD x [], good s = false
  closed : ∀ c ∈ visited, ∀ s ∈ adj.getD c [], good s = true → s ∈ visited ∨ s ∈ queue
  start : start ∈ visited ∨ start ∈ queue

/-- the potential of the queue: it drops in every round although the queue may hold an index many times, which
    is where the closed-form fuel `addFuel` comes from -/
def phi (B : Nat) (rank : Nat → Nat) (q : List Nat) : Nat := (q.map fun c => B ^ rank c).sum

theorem phi_append (B : Nat) (rank : Nat → Nat) (a b : List Nat) :
    phi B rank (a ++ b) = phi B rank a + phi B rank b := by
  rw [phi, List.map_append, List.sum_append]; rfl

theorem phi_cons (B : Nat) (rank : Nat → Nat) (c : Nat) (q : List Nat) :
    phi B rank (c :: q) = B ^ rank c + phi B rank q := rfl

/-- fewer than `B` nodes of rank below `r` weigh less than one node of rank `r` -/
theorem phi_lt_pow {B : Nat} {rank : Nat → Nat} {l : List Nat} {r : Nat} (hlen : l.length < B)
    (hr : ∀ x ∈ l, rank x < r) : phi B rank l < B ^ r := by
  have hB : 0 < B := Nat.zero_lt_of_lt hlen
  cases r with
  | zero =>
    cases l with
    | nil => exact Nat.one_pos
    | cons x _ => exact absurd (hr x (List.mem_cons_self ..)) (Nat.not_lt_zero _)
  | succ r =>
    have hle : phi B rank l ≤ l.length * B ^ r := by
      clear hlen
      induction l with
      | nil => exact Nat.zero_le _
      | cons x xs ih =>
        have h1 := Nat.pow_le_pow_right hB (Nat.le_of_lt_succ (hr x (List.mem_cons_self ..)))
        have h2 := ih (fun y hy => hr y (List.mem_cons_of_mem _ hy))
        rw [phi_cons, List.length_cons, Nat.add_mul, Nat.one_mul, Nat.add_comm]
        exact Nat.add_le_add h2 h1
    calc phi B rank l ≤ l.length * B ^ r := hle
      _ < B * B ^ r := Nat.mul_lt_mul_of_pos_right hlen (Nat.pow_pos hB)
      _ = B ^ (r + 1) := by rw [Nat.pow_succ, Nat.mul_comm]

section
variable {n : Nat} {lt : Nat → Nat → Bool} {rank : Nat → Nat} {adj : List (List Nat)}
  {good : Nat → Bool} {start B : Nat}

/-- induction down the order: an upper cover of a good node is good, hence visited, and lists the node -/
theorem bfs_visited_all (ctx : BfsCtx n lt rank adj good start B) {visited direct : List Nat}
    (inv : BfsInv n adj good start [] visited direct) :
    ∀ c, c < n → good c = true → c ∈ visited := by
  refine (ctx.ord.strict (n := n)).flip.induction fun c hc ih hg => ?_
  rcases ctx.top.le hc with rfl | hlt
  · exact inv.start.resolve_right nofun
  · obtain ⟨b, hb, hcb, _⟩ := (ctx.ord.strict (n := n)).exists_upper_cover_le ctx.top.1 hlt
    exact (inv.closed b (ih b hb hcb.1 (ctx.upClosed c b hc hb hg hcb.1)) c
      ((ctx.adjOK.mem_iff hb).mpr (mem_coversBy_iff.mpr ⟨hc, hcb⟩)) hg).resolve_right nofun

theorem bfs_step_inv (ctx : BfsCtx n lt rank adj good start B) (ord : List Nat → List Nat)
    (hord : OrdOK ord) {c : Nat} {queue visited direct : List Nat}
    (inv : BfsInv n adj good start (c :: queue) visited direct) :
    (((adj.getD c []).filter good).length > 0 →
      BfsInv n adj good start (queue ++ ord (diff ((adj.getD c []).filter good) (addSet visited c)))
        (addSet visited c) direct) ∧
    (¬ ((adj.getD c []).filter good).length > 0 →
      BfsInv n adj good start queue (addSet visited c) (addSet direct c)) := by
  have hc := inv.qGood c (List.mem_cons_self ..)
  have hvG : ∀ x ∈ addSet visited c, x < n ∧ good x = true := forall_mem_addSet.mpr ⟨inv.vGood, hc⟩
  -- what was visited or queued still is, with `c` moved from the queue to the visited set
  have hmove : ∀ {x : Nat} {q' : List Nat}, (∀ y ∈ queue, y ∈ q') → x ∈ visited ∨ x ∈ c :: queue →
      x ∈ addSet visited c ∨ x ∈ q' := by
    rintro x q' hq (h | h)
    · exact Or.inl (mem_addSet_of_mem h)
    · exact (List.mem_cons.mp h).elim (fun e => Or.inl (mem_addSet.mpr (Or.inr e))) (fun h => Or.inr (hq x h))
  constructor
  · intro hpos
    obtain ⟨s0, hs0⟩ := List.exists_mem_of_length_pos hpos
    have hs0' := List.mem_filter.mp hs0
    have hq : ∀ y ∈ queue, y ∈ queue ++ ord (diff ((adj.getD c []).filter good) (addSet visited c)) :=
      fun y hy => List.mem_append_left _ hy
    refine ⟨fun x hx => ?_, hvG, inv.dNodup, fun x => ?_, fun c' hc' s hs hg => ?_, hmove hq inv.start⟩
    · rcases List.mem_append.mp hx with hx | hx
      · exact inv.qGood x (List.mem_cons_of_mem _ hx)
      · have hx2 := List.mem_filter.mp (mem_diff.mp (hord.mem_iff.mp hx)).1
        exact ⟨(mem_coversBy.mp ((ctx.adjOK.mem_iff hc.1).mp hx2.1)).1, hx2.2⟩
    · rw [inv.dChar x, mem_addSet]
      refine ⟨fun h => ⟨Or.inl h.1, h.2⟩, fun ⟨h1, h2⟩ => ⟨h1.resolve_right fun e => ?_, h2⟩⟩
      have := h2 s0 (e ▸ hs0'.1)
      rw [hs0'.2] at this; cases this
    · rcases mem_addSet.mp hc' with hc' | rfl
      · exact hmove hq (inv.closed c' hc' s hs hg)
      · by_cases hv : s ∈ addSet visited c'
        · exact Or.inl hv
        · exact Or.inr (List.mem_append_right _
            (hord.mem_iff.mpr (mem_diff.mpr ⟨List.mem_filter.mpr ⟨hs, hg⟩, hv⟩)))
  · intro hzero
    have hnone : ∀ s ∈ adj.getD c [], good s = false := fun s hs =>
      Bool.eq_false_iff.mpr fun hg => hzero (List.length_pos_of_mem (List.mem_filter.mpr ⟨hs, hg⟩))
    refine ⟨fun x hx => inv.qGood x (List.mem_cons_of_mem _ hx), hvG, nodup_addSet inv.dNodup, fun x => ?_,
      fun c' hc' s hs hg => ?_, hmove (fun _ h => h) inv.start⟩
    · rw [mem_addSet, mem_addSet, inv.dChar x]
      constructor
      · rintro (h | rfl)
        · exact ⟨Or.inl h.1, h.2⟩
        · exact ⟨Or.inr rfl, hnone⟩
      · rintro ⟨h1 | rfl, h2⟩
        · exact Or.inl ⟨h1, h2⟩
        · exact Or.inr rfl
    · rcases mem_addSet.mp hc' with hc' | rfl
      · exact hmove (fun _ h => h) (inv.closed c' hc' s hs hg)
      · have := hnone s hs; rw [hg] at this; cases this

theorem bfs_phi_drop (ctx : BfsCtx n lt rank adj good start B) (ord : List Nat → List Nat)
    (hord : OrdOK ord) {c : Nat} (hc : c < n) (visited' : List Nat) :
    phi B rank (ord (diff ((adj.getD c []).filter good) visited')) < B ^ rank c := by
  refine phi_lt_pow ?_ (fun x hx => ?_)
  · rw [(hord _).length_eq]
    exact Nat.lt_of_le_of_lt (Nat.le_trans (List.length_filter_le _ _) (List.length_filter_le _ _))
      (ctx.adjSmall c hc)
  · have hx2 := List.mem_filter.mp (mem_diff.mp (hord.mem_iff.mp hx)).1
    exact ctx.ord.rank_lt x c (mem_coversBy.mp ((ctx.adjOK.mem_iff hc).mp hx2.1)).2.1

theorem bfsDirect_ok (ctx : BfsCtx n lt rank adj good start B) (ord : List Nat → List Nat)
    (hord : OrdOK ord) :
    ∀ fuel queue visited direct, BfsInv n adj good start queue visited direct →
      phi B rank queue < fuel →
      ∃ res, bfsDirect adj good ord fuel queue visited direct = .ok res ∧ res.Nodup ∧
        ∀ x, x ∈ res ↔ x < n ∧ good x = true ∧ ∀ s ∈ adj.getD x [], good s = false := by
  intro fuel
  induction fuel with
  | zero => intro queue visited direct _ hf; exact absurd hf (Nat.not_lt_zero _)
  | succ f ih =>
    intro queue visited direct inv hf
    cases queue with
    | nil =>
      refine ⟨direct, by rw [bfsDirect], inv.dNodup, fun x => ?_⟩
      rw [inv.dChar x]
      exact ⟨fun ⟨h1, h2⟩ => ⟨(inv.vGood x h1).1, (inv.vGood x h1).2, h2⟩,
        fun ⟨h1, h2, h3⟩ => ⟨bfs_visited_all ctx inv x h1 h2, h3⟩⟩
    | cons c queue =>
      have hc := inv.qGood c (List.mem_cons_self ..)
      obtain ⟨s1, s2⟩ := bfs_step_inv ctx ord hord inv
      rw [phi_cons] at hf
      have hone : 1 ≤ B ^ rank c := Nat.pow_pos (Nat.zero_lt_of_lt (ctx.adjSmall c hc.1))
      rw [bfsDirect, ListAux.getElem?_eq_some_getD [] (ctx.adjOK.1 ▸ hc.1)]
      by_cases hpos : ((adj.getD c []).filter good).length > 0
      · simp only [hpos, if_true]
        apply ih _ _ _ (s1 hpos)
        rw [phi_append]
        have := bfs_phi_drop ctx ord hord hc.1 (addSet visited c)
        omega
      · simp only [hpos, if_false]
        apply ih _ _ _ (s2 hpos)
        omega

theorem bfsInv_init (ctx : BfsCtx n lt rank adj good start B) :
    BfsInv n adj good start [start] [] [] :=
  ⟨fun _ hc => List.mem_singleton.mp hc ▸ ⟨ctx.top.1, ctx.startGood⟩, nofun, List.nodup_nil,
    fun _ => ⟨nofun, fun h => nomatch h.1⟩, nofun, Or.inr (List.mem_singleton_self _)⟩

end

variable {n : Nat} {L : Nat → Nat → Bool} {rk : Nat → Nat}

/-- the upper covers of the new index `n` are what the downward search collects -/
theorem mem_upper_new_iff (h : StrictOrd L rk) {x : Nat} :
    x ∈ upperCoversBy (n + 1) L n ↔ x < n ∧ L n x = true ∧ ∀ s ∈ coversBy n L x, ¬ L n s = true := by
  rw [mem_upperCoversBy]
  constructor
  · rintro ⟨h1, h2, h3⟩
    exact ⟨lt_of_lt_succ_of_ne h1 (h.ne_of_lt h2).symm, h2, fun s hs hns =>
      h3 s (Nat.lt_succ_of_lt (mem_coversBy.mp hs).1) hns (mem_coversBy.mp hs).2.1⟩
  · rintro ⟨h1, h2, h3⟩
    refine ⟨Nat.lt_succ_of_lt h1, h2, fun k hk hnk hkx => ?_⟩
    obtain ⟨b, hb, hkb⟩ := exists_lower_cover_ge (n := n) h k (lt_of_lt_succ_of_ne hk (h.ne_of_lt hnk).symm) hkx
    exact h3 b hb (hkb.elim (fun e => e ▸ hnk) (h.trans _ _ _ hnk))

theorem mem_covers_succ_of_not_upper (h : StrictOrd L rk) {c x : Nat} (hc : c < n)
    (hU : c ∉ upperCoversBy (n + 1) L n) : x ∈ coversBy (n + 1) L c ↔ x ∈ coversBy n L c := by
  rw [mem_coversBy_iff, mem_coversBy_iff, Ord.cover_succ]
  constructor
  · rintro ⟨h1, h2, _⟩
    refine ⟨lt_of_lt_succ_of_ne h1 fun e => hU (mem_upperCoversBy_iff.mpr ⟨Nat.lt_succ_of_lt hc, ?_⟩), h2⟩
    exact Ord.cover_succ.mpr ⟨e ▸ h2, fun hh => h.irrefl _ hh.1⟩
  · rintro ⟨h1, h2⟩
    refine ⟨Nat.lt_succ_of_lt h1, h2, fun hh => ?_⟩
    obtain ⟨m, hm, hkm, hmc⟩ := exists_between_of_not_upper (Nat.lt_succ_of_lt hc) hh.2 hU
    exact h2.2 m (lt_of_lt_succ_of_ne hm (h.ne_of_lt hkm).symm) (h.trans _ _ _ hh.1 hkm) hmc

theorem mem_covers_succ_of_upper (h : StrictOrd L rk) {c x : Nat}
    (hU : c ∈ upperCoversBy (n + 1) L n) :
    x ∈ coversBy (n + 1) L c ↔ (x ∈ coversBy n L c ∧ x ∉ coversBy (n + 1) L n) ∨ x = n := by
  obtain ⟨_, hnc⟩ := mem_upperCoversBy_iff.mp hU
  rw [mem_coversBy_iff, mem_coversBy_iff, Ord.cover_succ, and_iff_left hnc.1]
  constructor
  · rintro ⟨h1, h2, h3⟩
    by_cases hxn : x = n
    · exact Or.inr hxn
    · exact Or.inl ⟨⟨lt_of_lt_succ_of_ne h1 hxn, h2⟩, fun hxD => h3 (mem_coversBy.mp hxD).2.1⟩
  · rintro (⟨⟨h1, h2⟩, hxD⟩ | rfl)
    · -- otherwise `x` would be a lower cover of the new index
      refine ⟨Nat.lt_succ_of_lt h1, h2, fun hxk => hxD (mem_coversBy.mpr ⟨Nat.lt_succ_of_lt h1, hxk,
        fun m hm hxm hmk => ?_⟩)⟩
      exact h2.2 m (lt_of_lt_succ_of_ne hm (h.ne_of_lt hmk)) hxm (h.trans _ _ _ hmk hnc.1)
    · exact ⟨Nat.lt_succ_self x, (Ord.cover_succ.mp hnc).1, h.irrefl _⟩

/-- one of the two update loops of `addFinish`, followed by `d[n] = Dn` -/
theorem update_covers (h : StrictOrd L rk) {D : List (List Nat)} (hD : CoverDictBy n L D)
    {U Dn ordU : List Nat} (hUnd : U.Nodup) (hU : SameSetC U (upperCoversBy (n + 1) L n))
    (hDnnd : Dn.Nodup) (hDn : SameSetC Dn (coversBy (n + 1) L n)) (hordU : ordU.Perm U) :
    CoverDictBy (n + 1) L ((ordU.foldl (fun d s => d.set s (addSet (diff (d.getD s []) Dn) n)) D) ++ [Dn]) := by
  have hmemU : ∀ s, s ∈ ordU ↔ s ∈ upperCoversBy (n + 1) L n := fun s => (hordU.mem_iff).trans (hU s)
  obtain ⟨f1, f2⟩ := ListAux.foldl_update_getD (fun x => addSet (diff x Dn) n) [] ordU D
    (hordU.nodup_iff.mpr hUnd) (fun s hs => hD.1 ▸ ((mem_upper_new_iff h).mp ((hmemU s).mp hs)).1)
  generalize (ordU.foldl (fun d s => d.set s (addSet (diff (d.getD s []) Dn) n)) D) = F at f1 f2 ⊢
  have hFlen : F.length = n := f1.trans hD.1
  refine ⟨by rw [List.length_append, hFlen]; rfl, fun c hc => ?_⟩
  by_cases hcn : c = n
  · rw [hcn, ← hFlen, ListAux.getD_append_length, hFlen]
    exact ⟨hDnnd, hDn⟩
  · have hc' : c < n := lt_of_lt_succ_of_ne hc hcn
    have : (F ++ [Dn]).getD c [] = if c ∈ ordU then addSet (diff (D.getD c []) Dn) n else D.getD c [] := by
      rw [ListAux.getD_append_left _ _ _ _ (hFlen.symm ▸ hc')]
      exact f2 c
    rw [this]
    obtain ⟨d1, d2⟩ := hD.2 c hc'
    by_cases hcU : c ∈ ordU
    · rw [if_pos hcU]
      refine ⟨nodup_addSet (nodup_diff d1), fun x => ?_⟩
      rw [mem_covers_succ_of_upper h ((hmemU c).mp hcU), mem_addSet, mem_diff, d2 x, hDn x]
    · rw [if_neg hcU]
      refine ⟨d1, fun x => ?_⟩
      rw [mem_covers_succ_of_not_upper h hc' (fun e => hcU ((hmemU c).mpr e)), d2 x]

/-- branch `new > top` -/
theorem new_above_top (h : StrictOrd L rk) {t0 : Nat} (ht : Ord.Greatest n L t0) (hA : L t0 n = true) :
    Ord.Greatest (n + 1) L n ∧ SameSetC [] (upperCoversBy (n + 1) L n) ∧
      SameSetC [t0] (coversBy (n + 1) L n) := by
  have hall : ∀ j, j < n → L j n = true := fun j hj =>
    (ht.le hj).elim (fun e => e ▸ hA) (fun hj => h.trans _ _ _ hj hA)
  refine ⟨⟨Nat.lt_succ_self n, fun j hj hne => hall j (lt_of_lt_succ_of_ne hj hne)⟩, fun x => ⟨nofun, fun hx => ?_⟩,
    fun x => ?_⟩
  · obtain ⟨h1, h2, _⟩ := mem_upperCoversBy.mp hx
    exact absurd (hall x (lt_of_lt_succ_of_ne h1 (h.ne_of_lt h2).symm)) (h.asymm h2)
  · rw [List.mem_singleton, mem_coversBy]
    constructor
    · rintro rfl
      refine ⟨Nat.lt_succ_of_lt ht.1, hA, fun k hk hxk hkn => ?_⟩
      exact (ht.le (lt_of_lt_succ_of_ne hk (h.ne_of_lt hkn))).elim (fun e => h.irrefl x (e ▸ hxk)) (h.asymm hxk)
    · rintro ⟨h1, h2, h3⟩
      exact (ht.le (lt_of_lt_succ_of_ne h1 (h.ne_of_lt h2))).elim id (fun hx => absurd hA (h3 t0 (Nat.lt_succ_of_lt ht.1) hx))

theorem new_below_top (h : StrictOrd L rk) {t0 : Nat} (ht : Ord.Greatest n L t0)
    (hex : ∃ t', Ord.Greatest (n + 1) L t') (hnA : ¬ L t0 n = true) : L n t0 = true := by
  obtain ⟨t', ht'⟩ := hex
  have ht0 := ht.1
  have ht'n : t' ≠ n := fun e => hnA (e ▸ ht'.2 t0 (Nat.lt_succ_of_lt ht0) (e ▸ Nat.ne_of_lt ht0))
  have : t' = t0 := (h.strict (n := n)).greatest_unique ht ⟨lt_of_lt_succ_of_ne ht'.1 ht'n, fun j hj => ht'.2 j (Nat.lt_succ_of_lt hj)⟩
  exact this ▸ ht'.2 n (Nat.lt_succ_self n) (Ne.symm ht'n)

/-- in-between branch: the search from the old top with `good s` = "the new index is below `s`" -/
theorem bfs_upper_new (h : StrictOrd L rk) {adj : List (List Nat)} (hadj : CoverDictBy n L adj)
    {good : Nat → Bool} (hgood : ∀ s, s < n → good s = L n s) {t0 : Nat} (ht : Ord.Greatest n L t0)
    (hnt : L n t0 = true) {B : Nat} (hB : ∀ c, c < n → (adj.getD c []).length < B)
    (ord : List Nat → List Nat) (hord : OrdOK ord) {fuel : Nat} (hf : B ^ rk t0 < fuel) :
    ∃ d, bfsDirect adj good ord fuel [t0] [] [] = .ok d ∧ d.Nodup ∧
      SameSetC d (upperCoversBy (n + 1) L n) := by
  have ctx : BfsCtx n L rk adj good t0 B :=
    ⟨h, hadj, hB,
      fun s c hs hc hg hsc => (hgood c hc).trans (h.trans _ _ _ ((hgood s hs).symm.trans hg) hsc), ht,
      (hgood t0 ht.1).trans hnt⟩
  obtain ⟨d, e, nd, ch⟩ := bfsDirect_ok ctx ord hord fuel [t0] [] [] (bfsInv_init ctx) hf
  refine ⟨d, e, nd, fun x => ?_⟩
  rw [ch x, mem_upper_new_iff h]
  refine and_congr_right fun hx => ?_
  rw [hgood x hx]
  refine and_congr_right fun _ => ⟨fun h3 s hs => ?_, fun h3 s hs => ?_⟩
  · rw [← hgood s (mem_coversBy.mp hs).1, h3 s ((hadj.mem_iff hx).mpr hs)]; exact Bool.noConfusion
  · have hs' := (hadj.mem_iff hx).mp hs
    rw [hgood s (mem_coversBy.mp hs').1]
    exact Bool.eq_false_iff.mpr (h3 s hs')

theorem getD_length_le_edges (d : List (List Nat)) (c : Nat) :
    (d.getD c []).length ≤ (d.map List.length).foldl (· + ·) 0 := by
  rw [List.getD_eq_getElem?_getD]
  cases hc : d[c]? with
  | none => exact Nat.zero_le _
  | some e =>
    exact (ListAux.le_foldl Nat.le_add_right (fun a b => Nat.le_add_left b a) (d.map List.length) 0).2 e.length
      (List.mem_map.mpr ⟨e, List.mem_of_getElem? hc, rfl⟩)

/-- what `add_concept` is given: the correct cover relation of a list with a greatest and a least concept,
    the true extreme indexes (or `None`), and a new concept that keeps both extremes unique -/
structure AddInput (cs : List Ext) (new : Ext) (r : Rel) (t0 b0 : Nat) : Prop where
  nodup : ExtsNodup (cs ++ [new])
  len : 2 ≤ cs.length
  fresh : ∀ c ∈ cs, eqC new c = false
  sub : IsCoverDict cs r.sub
  sup : IsUpperCoverDict cs r.sup
  top : IsTop cs t0
  bot : IsBottom cs b0
  rtop : r.top = none ∨ r.top = some t0
  rbot : r.bot = none ∨ r.bot = some b0
  top' : ∃ t', IsTop (cs ++ [new]) t'
  bot' : ∃ b', IsBottom (cs ++ [new]) b'

section
variable {cs : List Ext} {new : Ext} {r : Rel} {t0 b0 : Nat}

theorem AddInput.nodupCs (hin : AddInput cs new r t0 b0) : ExtsNodup cs :=
  fun e he => hin.nodup e (List.mem_append_left _ he)

theorem ltAt_append_old (cs : List Ext) (new : Ext) (i j : Nat) (hi : i < cs.length) (hj : j < cs.length) :
    ltAt cs i j = ltAt (cs ++ [new]) i j := by
  unfold ltAt; rw [ListAux.getD_append_left _ _ _ _ hi, ListAux.getD_append_left _ _ _ _ hj]

theorem ltAt_new_left (cs : List Ext) (new : Ext) {s : Nat} (hs : s < cs.length) :
    ltAt (cs ++ [new]) cs.length s = ltC new (cs.getD s []) := by
  unfold ltAt; rw [ListAux.getD_append_length, ListAux.getD_append_left _ _ _ _ hs]

theorem ltAt_new_right (cs : List Ext) (new : Ext) {s : Nat} (hs : s < cs.length) :
    ltAt (cs ++ [new]) s cs.length = ltC (cs.getD s []) new := by
  unfold ltAt; rw [ListAux.getD_append_length, ListAux.getD_append_left _ _ _ _ hs]

theorem AddInput.tb (hin : AddInput cs new r t0 b0) : addTopBottom cs new r = (some t0, some b0) :=
  topBottom_of_given hin.nodupCs hin.top hin.bot hin.rtop hin.rbot _

theorem pow_lt_addFuel {fuel e : Nat} (hf : addFuel cs new r ≤ fuel)
    (he : e ≤ walkFuel (cs ++ [new])) :
    ((r.sub.map List.length).foldl (· + ·) 0 + (r.sup.map List.length).foldl (· + ·) 0 + 2) ^ e < fuel :=
  Nat.lt_of_lt_of_le (Nat.lt_succ_of_le (Nat.pow_le_pow_right (Nat.succ_pos _) he)) hf

theorem addDirect_ok (hin : AddInput cs new r t0 b0) (ord : List Nat → List Nat)
    (hord : OrdOK ord) {fuel : Nat} (hf : addFuel cs new r ≤ fuel) :
    ∃ dsup dsub t' b', addDirect cs new r ord fuel t0 b0 = .ok (dsup, dsub, t', b') ∧
      dsup.Nodup ∧ SameSetC dsup (upperCoversBy (cs.length + 1) (ltAt (cs ++ [new])) cs.length) ∧
      dsub.Nodup ∧ SameSetC dsub (coversBy (cs.length + 1) (ltAt (cs ++ [new])) cs.length) ∧
      Ord.Greatest (cs.length + 1) (ltAt (cs ++ [new])) t' ∧
      Ord.Greatest (cs.length + 1) (Ord.flipR (ltAt (cs ++ [new]))) b' := by
  have hnd := hin.nodupCs
  have hlen' : (cs ++ [new]).length = cs.length + 1 := List.length_append
  have so := ltAt_strictOrd (cs ++ [new])
  have soF := so.flip (suppAt_lt_walkFuel (cs ++ [new]))
  -- the old extremes and dictionaries in terms of the enlarged order
  have gt : Ord.Greatest cs.length (ltAt (cs ++ [new])) t0 :=
    ((isTop_iff hnd).mp hin.top).congr (ltAt_append_old cs new)
  have gb : Ord.Greatest cs.length (Ord.flipR (ltAt (cs ++ [new]))) b0 :=
    ((isBottom_iff hnd).mp hin.bot).congr fun i j hi hj => ltAt_append_old cs new j i hj hi
  have ht0 := gt.1
  have hb0 := gb.1
  unfold addDirect
  by_cases hA : ltC (cs.getD t0 []) new = true
  · rw [if_pos hA]
    rw [← ltAt_new_right cs new ht0] at hA
    obtain ⟨gN, eU, eD⟩ := new_above_top so gt hA
    exact ⟨[], [t0], cs.length, b0, rfl, List.nodup_nil, eU, List.pairwise_singleton _ _, eD, gN,
      gb.succ (gN.2 b0 (Nat.lt_succ_of_lt hb0) (Nat.ne_of_lt hb0))⟩
  · rw [if_neg hA]
    by_cases hB : ltC new (cs.getD b0 []) = true
    · rw [if_pos hB]
      rw [← ltAt_new_left cs new hb0] at hB
      obtain ⟨gN, eU, eD⟩ := new_above_top soF gb hB
      exact ⟨[b0], [], t0, cs.length, rfl, List.pairwise_singleton _ _,
        coversBy_flip ▸ eD, List.nodup_nil, upperCoversBy_flip ▸ eU, gt.succ (gN.2 t0 (Nat.lt_succ_of_lt ht0) (Nat.ne_of_lt ht0)), gN⟩
    · rw [if_neg hB]
      rw [← ltAt_new_right cs new ht0] at hA
      rw [← ltAt_new_left cs new hb0] at hB
      -- the new concept lies strictly between bottom and top
      have hnt := new_below_top so gt
        (hin.top'.imp fun t' ht' => hlen' ▸ (isTop_iff hin.nodup).mp ht') hA
      have hbn := new_below_top soF gb
        (hin.bot'.imp fun b' hb' => hlen' ▸ (isBottom_iff hin.nodup).mp hb') hB
      obtain ⟨dsup, e1, nd1, s1⟩ := bfs_upper_new so
        (((isCoverDict_iff hnd).mp hin.sub).congr (ltAt_append_old cs new))
        (fun s hs => (ltAt_new_left cs new hs).symm) gt hnt
        (fun c _ => Nat.lt_of_le_of_lt (getD_length_le_edges r.sub c)
          (Nat.lt_of_le_of_lt (Nat.le_add_right _ _) (Nat.lt_add_of_pos_right (Nat.succ_pos 1)))) ord hord
        (pow_lt_addFuel hf (Nat.le_of_lt (suppAt_lt_walkFuel _ t0)))
      obtain ⟨dsub, e2, nd2, s2⟩ := bfs_upper_new soF
        (((isUpperCoverDict_iff hnd).mp hin.sup).congr fun i j hi hj => ltAt_append_old cs new j i hj hi)
        (fun s hs => (ltAt_new_right cs new hs).symm) gb hbn
        (fun c _ => Nat.lt_of_le_of_lt (getD_length_le_edges r.sup c)
          (Nat.lt_of_le_of_lt (Nat.le_add_left _ _) (Nat.lt_add_of_pos_right (Nat.succ_pos 1)))) ord hord
        (pow_lt_addFuel hf (Nat.sub_le _ _))
      rw [e1, e2]
      exact ⟨dsup, dsub, t0, b0, rfl, nd1, s1, nd2, upperCoversBy_flip ▸ s2, gt.succ hnt, gb.succ hbn⟩

end

end Fca.Construct
