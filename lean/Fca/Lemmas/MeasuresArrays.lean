/-
  The `concept.measures` dictionaries and the `measures` property.  A dictionary whose values are a function of the
  key (`row`) stays one when such a value is stored, so a table of rows is known by its key list; its arrays are its
  columns, `key ↦ [v key i for i < n]`.
-/
import Fca.Model.Measures
import Fca.Lemmas.ListAux
namespace Fca.Measures

theorem lookup_dictSet (d : MDict) (k : String) (v : Val) (k' : String) :
    (dictSet d k v).lookup k' = if k' = k then some v else d.lookup k' :=
  ListAux.get_set (get := fun d j => d.lookup j) (set := dictSet) (fun _ _ _ _ => ListAux.lookup_cons_ite ..)
    (fun _ _ => rfl) (fun _ _ _ _ _ => by rw [dictSet]; simp only [beq_iff_eq]; split <;> simp_all) d k v k'

def addKeys (keys : List String) (ks : List String) : List String :=
  ks.foldl (fun acc k => if k ∈ acc then acc else acc ++ [k]) keys

theorem addKeys_append (keys ks₁ ks₂ : List String) :
    addKeys keys (ks₁ ++ ks₂) = addKeys (addKeys keys ks₁) ks₂ :=
  List.foldl_append

theorem nodup_addKeys {keys : List String} (h : keys.Nodup) (ks : List String) : (addKeys keys ks).Nodup :=
  ListAux.foldl_inv (fun _ _ => ListAux.nodup_addNew Iff.rfl) ks keys h

theorem mem_addKeys {k : String} (ks : List String) {keys : List String} :
    k ∈ addKeys keys ks ↔ k ∈ keys ∨ k ∈ ks :=
  (ListAux.foldl_iff (m := (k ∈ ·)) (q := (k = ·)) (fun _ _ => ListAux.mem_addNew Iff.rfl) ks keys).trans
    (or_congr_right exists_eq_right')

/-- the dictionary of concept `i` once the keys `keys` have been computed (in the order of their first
    computation), when the value stored under `k` for concept `i` is `v k i` -/
def row (v : String → Nat → Val) (keys : List String) (i : Nat) : MDict := keys.map fun k => (k, v k i)

/-- storing the value of `k` again overwrites it with itself, so a row stays a row whether or not `k` is new -/
theorem dictSet_row (v : String → Nat → Val) (i : Nat) (k : String) (keys : List String) :
    dictSet (row v keys i) k (v k i) = row v (if k ∈ keys then keys else keys ++ [k]) i := by
  induction keys with
  | nil => rfl
  | cons k₀ rest ih =>
    rw [row, List.map_cons, dictSet]
    by_cases hk : k₀ = k
    · subst hk
      rw [if_pos (beq_self_eq_true _), if_pos List.mem_cons_self]
      rfl
    · rw [if_neg (mt beq_iff_eq.mp hk), show dictSet (rest.map fun k => (k, v k i)) k (v k i) = _ from ih]
      by_cases hm : k ∈ rest
      · rw [if_pos hm, if_pos (List.mem_cons_of_mem _ hm)]
        rfl
      · rw [if_neg hm, if_neg fun h => (List.mem_cons.mp h).elim (fun e => hk e.symm) hm]
        rfl

theorem foldl_dictSet_row (v : String → Nat → Val) (i : Nat) (ks keys : List String) :
    (ks.map fun k => (k, v k i)).foldl (fun d p => dictSet d p.1 p.2) (row v keys i)
      = row v (addKeys keys ks) i := by
  induction ks generalizing keys with
  | nil => rfl
  | cons k ks ih =>
    rw [List.map_cons, List.foldl_cons, dictSet_row, ih]
    rfl

theorem map_row_nil (v : String → Nat → Val) (n : Nat) :
    (List.range n).map (row v []) = List.replicate n [] := by
  rw [show row v [] = fun _ => [] from rfl, List.map_const', List.length_range]

theorem hasKey_iff (md : MArrays) (k : String) : hasKey md k = true ↔ k ∈ md.map Prod.fst := by
  simp only [hasKey, List.any_eq_true, beq_iff_eq, List.mem_map]

theorem appendAt_of_not_mem (md : MArrays) (k : String) (x : Option Val) (h : k ∉ md.map Prod.fst) :
    appendAt md k x = md := by
  induction md with
  | nil => rfl
  | cons p rest ih =>
    rw [List.map_cons, List.mem_cons, not_or] at h
    rw [appendAt, if_neg (mt beq_iff_eq.mp (Ne.symm h.1)), ih h.2]

theorem appendAt_map (keys : List String) (hnd : keys.Nodup) (F : String → List (Option Val)) (k : String)
    (x : Option Val) :
    appendAt (keys.map fun k' => (k', F k')) k x
      = keys.map fun k' => (k', if k' = k then F k' ++ [x] else F k') := by
  induction keys with
  | nil => rfl
  | cons k₀ rest ih =>
    obtain ⟨h0, hrest⟩ := List.nodup_cons.mp hnd
    rw [List.map_cons, List.map_cons, appendAt]
    by_cases hk : k₀ = k
    · subst hk
      rw [if_pos (beq_self_eq_true k₀), if_pos rfl]
      exact congrArg _ (List.map_congr_left fun k' hk' => by rw [if_neg fun (e : k' = k₀) => h0 (e ▸ hk')])
    · rw [if_neg (mt beq_iff_eq.mp hk), if_neg hk, ih hrest]

theorem appendAt_append_new (md : MArrays) (k : String) (vs : List (Option Val)) (x : Option Val)
    (h : k ∉ md.map Prod.fst) : appendAt (md ++ [(k, vs)]) k x = md ++ [(k, vs ++ [x])] := by
  induction md with
  | nil => rw [List.nil_append, appendAt, if_pos (beq_self_eq_true k)]; rfl
  | cons p rest ih =>
    rw [List.map_cons, List.mem_cons, not_or] at h
    rw [List.cons_append, appendAt, if_neg (mt beq_iff_eq.mp (Ne.symm h.1)), ih h.2, List.cons_append]

/-- a row of keys not yet present: each array starts with the `[None] * i` of the concepts before (`i = 0` and
    no arrays yet: the first concept) -/
theorem measItems_row_new (v : String → Nat → Val) (i : Nat) (ks : List String) (hnd : ks.Nodup) (md : MArrays)
    (hdis : ∀ k ∈ ks, k ∉ md.map Prod.fst) :
    measItems i (row v ks i) md = md ++ ks.map fun k => (k, List.replicate i none ++ [some (v k i)]) := by
  induction ks generalizing md with
  | nil => exact (List.append_nil md).symm
  | cons k rest ih =>
    obtain ⟨hk0, hnd⟩ := List.nodup_cons.mp hnd
    have hk : k ∉ md.map Prod.fst := hdis k List.mem_cons_self
    rw [row, List.map_cons, measItems, if_neg (mt (hasKey_iff md k).mp hk), appendAt_append_new md k _ _ hk,
      show measItems i (rest.map fun k => (k, v k i)) _ = _ from ih hnd _ ?_, List.append_assoc]
    · rfl
    · intro k' hk'
      rw [List.map_append, List.mem_append, not_or]
      exact ⟨hdis k' (List.mem_cons_of_mem _ hk'), fun e => hk0 ((List.mem_singleton.mp e : k' = k) ▸ hk')⟩

theorem measItems_row (v : String → Nat → Val) (i : Nat) {keys : List String} (hnd : keys.Nodup) (ks : List String)
    (hks : ks.Nodup) (hsub : ∀ k ∈ ks, k ∈ keys) (F : String → List (Option Val)) :
    measItems i (row v ks i) (keys.map fun k => (k, F k))
      = keys.map fun k => (k, if k ∈ ks then F k ++ [some (v k i)] else F k) := by
  induction ks generalizing F with
  | nil => rfl
  | cons k rest ih =>
    obtain ⟨hk0, hks⟩ := List.nodup_cons.mp hks
    have hh : hasKey (keys.map fun k => (k, F k)) k = true := by
      rw [hasKey_iff, List.map_map]
      exact List.mem_map.mpr ⟨k, hsub k List.mem_cons_self, rfl⟩
    rw [row, List.map_cons, measItems, if_pos hh, appendAt_map keys hnd F k,
      show measItems i (rest.map fun k => (k, v k i)) _ = _ from
        ih hks (fun k' hk' => hsub k' (List.mem_cons_of_mem _ hk')) _]
    refine List.map_congr_left fun k' _ => ?_
    by_cases h : k' = k
    · rw [if_pos h, h, if_neg hk0, if_pos List.mem_cons_self]
    · rw [if_neg h]
      exact congrArg _ (ite_congr (by rw [List.mem_cons, or_iff_right h]) (fun _ => rfl) fun _ => rfl)

theorem measLoop_rows (v : String → Nat → Val) {keys : List String} (hnd : keys.Nodup) (len i : Nat) :
    measLoop i ((List.range' i len).map (row v keys))
        (keys.map fun k => (k, (List.range i).map fun j => some (v k j)))
      = keys.map fun k => (k, (List.range (i + len)).map fun j => some (v k j)) := by
  induction len generalizing i with
  | zero => rfl
  | succ len ih =>
    rw [List.range'_succ, List.map_cons, measLoop, measItems_row v i hnd keys hnd (fun _ hk => hk),
      ← Nat.add_assoc, Nat.add_right_comm, ← ih (i + 1)]
    refine congrArg _ (List.map_congr_left fun k hk => ?_)
    rw [if_pos hk, List.range_succ, List.map_append]
    rfl

theorem dedup_replicate (n x : Nat) : dedup (List.replicate (n + 1) x) = [x] := by
  induction n with
  | zero => rfl
  | succ n ih =>
    rw [List.replicate_succ, dedup, ih]
    simp

/-- on a table of rows the `assert` of `measures` passes and the arrays are the columns:
    `key ↦ [v key i for i < n]` -/
theorem measures_rows (v : String → Nat → Val) {keys : List String} (hnd : keys.Nodup) {n : Nat} (hn : n ≠ 0) :
    measures ((List.range n).map (row v keys))
      = .ok (keys.map fun k => (k, (List.range n).map fun i => some (v k i))) := by
  obtain ⟨m, rfl⟩ := Nat.exists_eq_succ_of_ne_zero hn
  have hloop : measLoop 0 ((List.range (m + 1)).map (row v keys)) []
      = keys.map fun k => (k, (List.range (m + 1)).map fun i => some (v k i)) := by
    conv => lhs; rw [List.range_eq_range', List.range'_succ, List.map_cons, measLoop,
      measItems_row_new v 0 keys hnd [] (fun _ _ h => nomatch h)]
    exact Nat.add_comm 1 m ▸ measLoop_rows v hnd m 1
  unfold measures
  rw [hloop]
  cases keys with
  | nil => rfl
  | cons k ks =>
    have : (List.map (fun p : String × List (Option Val) => p.2.length)
        (List.map (fun k => (k, List.map (fun i => some (v k i)) (List.range (m + 1)))) (k :: ks)))
        = List.replicate (ks.length + 1) (m + 1) := by
      rw [List.map_map, List.eq_replicate_iff]
      simp
    simp only [this, distinctCount, dedup_replicate, List.length_singleton, beq_self_eq_true, Bool.true_or,
      if_true]

end Fca.Measures
