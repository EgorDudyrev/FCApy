/-
  Fca.Lemmas.LatticeQueryC04 — the reduced labelling: an object labels the node of its object concept, an attribute
  that of its attribute concept, and `g I a` iff the first node is below the second — in any duplicate-free list of
  concepts that keeps these nodes.  The checker `Spec.holdsC04` says exactly this of the lists it is given;
  "below" may be read off the drawn cover edges, reachability along `parents` being the ancestor sets; and a list
  that has the top extent and is closed under cutting an extent by one attribute has every extent `B′`
  (`exists_ext_of_closed`), which is why the completeness test `Spec.isConceptListFast` enumerates no attribute subsets.
-/
import Fca.Spec.C04Diagram
import Fca.Lemmas.LatticeQueryConcept
namespace Fca.LQ
open Fca.Spec

/-- what a reduced labelling with ancestor sets must satisfy (the three statements of C04, for arbitrary label
    lists): `k = newExt.length` nodes -/
def C04Holds (t : Table) (newExt newInt anc : List (List Nat)) : Prop :=
  newInt.length = newExt.length ∧ anc.length = newExt.length ∧
  (∀ g, g < t.height → ∃ i, i < newExt.length ∧ g ∈ newExt.getD i [] ∧
    ∀ i', i' < newExt.length → g ∈ newExt.getD i' [] → i' = i) ∧
  (∀ a, a < t.width → ∃ j, j < newExt.length ∧ a ∈ newInt.getD j [] ∧
    ∀ j', j' < newExt.length → a ∈ newInt.getD j' [] → j' = j) ∧
  (∀ i, i < newExt.length → (∀ g ∈ newExt.getD i [], g < t.height) ∧ (∀ a ∈ newInt.getD i [], a < t.width)) ∧
  (∀ g a i j, g < t.height → a < t.width → i < newExt.length → j < newExt.length →
    g ∈ newExt.getD i [] → a ∈ newInt.getD j [] →
    (t.get g a = true ↔ (i = j ∨ j ∈ anc.getD i [])))

theorem mem_nodesOf {k : Nat} {labels : List (List Nat)} {x i : Nat} :
    i ∈ nodesOf k labels x ↔ i < k ∧ x ∈ labels.getD i [] := by
  simp only [nodesOf, List.mem_filter, List.mem_range, List.contains_eq_mem, decide_eq_true_eq]

theorem nodesOf_eq_singleton {k : Nat} {labels : List (List Nat)} {x i : Nat}
    (h1 : i < k) (h2 : x ∈ labels.getD i []) (h3 : ∀ i', i' < k → x ∈ labels.getD i' [] → i' = i) :
    nodesOf k labels x = [i] :=
  ListAux.eq_singleton_of_nodup (List.Nodup.sublist List.filter_sublist List.nodup_range) fun y =>
    mem_nodesOf.trans ⟨fun h => h3 y h.1 h.2, fun e => e ▸ ⟨h1, h2⟩⟩

theorem nodesOf_one_iff {k : Nat} {labels : List (List Nat)} {x : Nat} :
    (nodesOf k labels x).length = 1 ↔
      ∃ i, i < k ∧ x ∈ labels.getD i [] ∧ ∀ i', i' < k → x ∈ labels.getD i' [] → i' = i := by
  constructor
  · intro h
    obtain ⟨i, hl⟩ := List.length_eq_one_iff.mp h
    have hmem : ∀ j, j < k ∧ x ∈ labels.getD j [] ↔ j = i := fun j => by
      rw [← mem_nodesOf, hl, List.mem_singleton]
    exact ⟨i, ((hmem i).mpr rfl).1, ((hmem i).mpr rfl).2, fun i' h1 h2 => (hmem i').mp ⟨h1, h2⟩⟩
  · rintro ⟨i, h1, h2, h3⟩
    rw [nodesOf_eq_singleton h1 h2 h3]
    rfl

theorem beq_or_contains {i j : Nat} {l : List Nat} : (i == j || l.contains j) = true ↔ i = j ∨ j ∈ l := by
  rw [Bool.or_eq_true, beq_iff_eq, List.contains_iff_mem]

theorem holdsC04_iff (t : Table) (newExt newInt anc : List (List Nat)) :
    Spec.holdsC04 t newExt newInt anc = true ↔ C04Holds t newExt newInt anc := by
  unfold Spec.holdsC04 C04Holds
  simp only [Bool.and_eq_true, beq_iff_eq, List.all_eq_true, List.mem_range, nodesOf_one_iff,
    decide_eq_true_eq]
  -- only the last parts differ: the checker compares the unique nodes of `g` and of `a`
  constructor
  · rintro ⟨⟨⟨⟨⟨h1, h2⟩, h3⟩, h4⟩, h5⟩, h6⟩
    refine ⟨h1, h2, h3, h4, h5, ?_⟩
    intro g a i j hg ha hi hj hgi haj
    obtain ⟨i0, a1, a2, a3⟩ := h3 g hg
    obtain ⟨j0, b1, b2, b3⟩ := h4 a ha
    obtain rfl := a3 i hi hgi
    obtain rfl := b3 j hj haj
    have := h6 g hg a ha
    rw [nodesOf_eq_singleton a1 a2 a3, nodesOf_eq_singleton b1 b2 b3] at this
    rw [this]
    exact beq_or_contains
  · rintro ⟨h1, h2, h3, h4, h5, h6⟩
    refine ⟨⟨⟨⟨⟨h1, h2⟩, h3⟩, h4⟩, h5⟩, ?_⟩
    intro g hg a ha
    obtain ⟨i0, a1, a2, a3⟩ := h3 g hg
    obtain ⟨j0, b1, b2, b3⟩ := h4 a ha
    rw [nodesOf_eq_singleton a1 a2 a3, nodesOf_eq_singleton b1 b2 b3, Bool.eq_iff_iff,
      h6 g a i0 j0 hg ha a1 b1 a2 b2]
    exact beq_or_contains.symm

theorem mem_stepRel {rel : List (List Nat)} {s : List Nat} {x : Nat} :
    x ∈ stepRel rel s ↔ x ∈ s ∨ ∃ y ∈ s, x ∈ rel.getD y [] := by
  unfold stepRel
  rw [List.mem_eraseDups, List.mem_append, List.mem_flatMap]

theorem stepRel_mono {rel : List (List Nat)} {s s' : List Nat} (h : ∀ x ∈ s, x ∈ s') :
    ∀ x ∈ stepRel rel s, x ∈ stepRel rel s' := by
  intro x hx
  rcases mem_stepRel.mp hx with hx | ⟨y, hy, hxy⟩
  · exact mem_stepRel.mpr (Or.inl (h x hx))
  · exact mem_stepRel.mpr (Or.inr ⟨y, h y hy, hxy⟩)

theorem closeRel_mono {rel : List (List Nat)} (f : Nat) :
    ∀ {s s' : List Nat}, (∀ x ∈ s, x ∈ s') → ∀ x ∈ closeRel rel f s, x ∈ closeRel rel f s' := by
  induction f with
  | zero => exact fun h => h
  | succ f ih => exact fun h => ih (stepRel_mono h)

theorem subset_closeRel {rel : List (List Nat)} (f : Nat) :
    ∀ (s : List Nat), ∀ x ∈ s, x ∈ closeRel rel f s := by
  induction f with
  | zero => exact fun _ _ hx => hx
  | succ f ih => exact fun s x hx => ih (stepRel rel s) x (mem_stepRel.mpr (Or.inl hx))

theorem closeRel_fuel_mono {rel : List (List Nat)} {f f' : Nat} (h : f ≤ f') (s : List Nat) :
    ∀ x ∈ closeRel rel f s, x ∈ closeRel rel f' s := by
  induction f generalizing f' s with
  | zero => exact subset_closeRel f' s
  | succ f ih =>
    obtain ⟨f'', rfl⟩ := Nat.exists_eq_add_one_of_ne_zero (Nat.ne_of_gt (Nat.lt_of_lt_of_le (Nat.succ_pos f) h))
    exact ih (Nat.le_of_succ_le_succ h) (stepRel rel s)

theorem closeRel_inv {rel : List (List Nat)} (P : Nat → Prop)
    (hstep : ∀ y, P y → ∀ x ∈ rel.getD y [], P x) (f : Nat) :
    ∀ (s : List Nat), (∀ x ∈ s, P x) → ∀ x ∈ closeRel rel f s, P x := by
  induction f with
  | zero => exact fun _ hs => hs
  | succ f ih =>
    refine fun s hs => ih (stepRel rel s) fun x hx => ?_
    rcases mem_stepRel.mp hx with hx | ⟨y, hy, hxy⟩
    · exact hs x hx
    · exact hstep y (hs y hy) x hxy

/-- `parents_dict` of the model, as the list of parent sets -/
def parentsRel (cs : Lat) (ord : List Nat → List Nat) : List (List Nat) :=
  (List.range cs.length).map (parents cs ord)

theorem parentsRel_length (cs : Lat) (ord : List Nat → List Nat) : (parentsRel cs ord).length = cs.length := by
  rw [parentsRel, List.length_map, List.length_range]

theorem parentsRel_getD {cs : Lat} {ord : List Nat → List Nat} {i : Nat} (hi : i < cs.length) :
    (parentsRel cs ord).getD i [] = parents cs ord i :=
  ListAux.getD_map_range _ _ i [] hi

theorem parentsRel_getD_ge {cs : Lat} {ord : List Nat → List Nat} {i : Nat} (hi : cs.length ≤ i) :
    (parentsRel cs ord).getD i [] = [] :=
  ListAux.getD_of_ge _ i [] (by rw [parentsRel_length]; exact hi)

namespace IsConceptSub
variable {t : Table} {cs : Lat} (H : IsConceptSub t cs)
include H

theorem reach_sound (ord : List Nat → List Nat) {i : Nat} (hi : i < cs.length) (f : Nat) :
    ∀ x ∈ closeRel (parentsRel cs ord) f (parents cs ord i), x ∈ ancestors cs i := by
  apply closeRel_inv (fun x => x ∈ ancestors cs i)
  · intro y hy x hx
    rw [parentsRel_getD (PQ.mem_ancestors.mp hy).1] at hx
    exact PQ.ancestors_trans H.isPO hi y hy x (PQ.parents_sub ord y x hx)
  · exact PQ.parents_sub ord i

/-- as much fuel as there are ancestors will do: an ancestor `k` is, or lies above, a parent `j`, and `j` has
    fewer ancestors -/
theorem reach_complete {ord : List Nat → List Nat} (ho : PQ.IsOrder ord) :
    ∀ (m i : Nat), i < cs.length → (ancestors cs i).length ≤ m →
      ∀ k ∈ ancestors cs i, k ∈ closeRel (parentsRel cs ord) m (parents cs ord i) := by
  intro m
  induction m with
  | zero =>
    intro i _ hm k hk
    rw [List.eq_nil_of_length_eq_zero (Nat.le_zero.mp hm)] at hk
    cases hk
  | succ m ih =>
    intro i hi hm k hk
    obtain ⟨j, hj, hjk⟩ := PQ.exists_parent_below H.isPO ho hk
    have hjn := (parents_lt hj).1
    by_cases e : j = k
    · exact e ▸ subset_closeRel _ _ j hj
    · have hkj : k ∈ ancestors cs j := PQ.mem_ancestors.mpr ⟨(PQ.mem_ancestors.mp hk).1, hjk, Ne.symm e⟩
      have hlt : (ancestors cs j).length < (ancestors cs i).length :=
        PQ.ancestors_length_lt H.isPO hi (PQ.parents_sub ord i j hj)
      apply closeRel_mono m _ k (ih j hjn (Nat.le_of_lt_succ (Nat.lt_of_lt_of_le hlt hm)) k hkj)
      intro x hx
      exact mem_stepRel.mpr (Or.inr ⟨j, hj, by rw [parentsRel_getD hjn]; exact hx⟩)

theorem mem_reachFrom {ord : List Nat → List Nat} (ho : PQ.IsOrder ord) {i : Nat} (hi : i < cs.length) (k : Nat) :
    k ∈ reachFrom (parentsRel cs ord) i ↔ k ∈ ancestors cs i := by
  unfold reachFrom
  rw [parentsRel_length, parentsRel_getD hi]
  exact ⟨H.reach_sound ord hi _ k, H.reach_complete ho cs.length i hi (PQ.ancestors_length_le i) k⟩

/-- an object labels the node of its object concept `({g}″, {g}′)`, if the list keeps it: `g` is in the extents of
    the nodes at or above that one -/
theorem mem_newExtentI_iff_objConcept {ord : List Nat → List Nat} (ho : PQ.IsOrder ord) {g : Nat} (hg : g < t.height)
    {k : Nat} (hk : k < cs.length) (he : extOf cs k = closure t [g]) {i : Nat} (hi : i < cs.length) :
    g ∈ newExtentI cs ord i ↔ i = k := by
  have hr : ∀ x ∈ [g], x < t.height := fun x hx => List.mem_singleton.mp hx ▸ hg
  have hgk : g ∈ extOf cs k := he ▸ subset_closure t hr g List.mem_cons_self
  refine PQ.mem_reduced_iff H.isPO ho hk (fun j hj => ?_) hi
  rw [H.leq_iff hk j]
  exact ⟨fun hgj => he ▸ closure_subset_of_isConcept (H.isConcept hj) (fun x hx => List.mem_singleton.mp hx ▸ hgj), fun h => h g hgk⟩

/-- an attribute labels the node of its attribute concept `({a}′, {a}″)`, if the list keeps it: `a` is in the intents
    of the nodes at or below that one, which is the same fact for the reversed order -/
theorem mem_newIntentI_iff_attrConcept {ord : List Nat → List Nat} (ho : PQ.IsOrder ord) {a : Nat} (ha : a < t.width)
    {k : Nat} (hk : k < cs.length) (he : extOf cs k = extAll t [a]) {i : Nat} (hi : i < cs.length) :
    a ∈ newIntentI cs ord i ↔ i = k := by
  have hr : ∀ x ∈ [a], x < t.width := fun x hx => List.mem_singleton.mp hx ▸ ha
  have hak : a ∈ intOf cs k := by
    rw [← H.int_eq hk, he]
    exact subset_closureAttr t hr a List.mem_cons_self
  refine PQ.mem_reduced_iff (PQ.isPO_flip H.isPO) ho hk (fun j hj => ⟨fun haj => ?_, fun hjk => ?_⟩) hi
  · rw [H.leq_iff hj k, he, ← H.ext_eq hj]
    exact extAll_antitone t (fun x hx => List.mem_singleton.mp hx ▸ haj)
  · exact (H.leq_iff_int hj hk).mp hjk a hak

/-- `g I a` iff the object concept of `g` is below the attribute concept of `a` -/
theorem get_iff_leq {g a : Nat} (hg : g < t.height) {i j : Nat} (hi : i < cs.length) (hj : j < cs.length)
    (hei : extOf cs i = closure t [g]) (hej : extOf cs j = extAll t [a]) :
    t.get g a = true ↔ leq cs i j = true := by
  have hr : ∀ x ∈ [g], x < t.height := fun x hx => List.mem_singleton.mp hx ▸ hg
  rw [H.leq_iff hi j, hei]
  constructor
  · intro hga
    apply closure_subset_of_isConcept (H.isConcept hj)
    intro x hx
    rw [List.mem_singleton.mp hx, hej]
    exact (mem_extAll t).mpr ⟨hg, fun b hb => by rw [List.mem_singleton.mp hb]; exact hga⟩
  · intro hsub
    have := hsub g (subset_closure t hr g List.mem_cons_self)
    rw [hej] at this
    exact ((mem_extAll t).mp this).2 a List.mem_cons_self

/-- the labels of a list that keeps every object concept and every attribute concept satisfy the three statements
    of C04, with any sets `A i` that have the members of `ancestors cs i` -/
theorem c04Holds {ord : List Nat → List Nat} (ho : PQ.IsOrder ord)
    (hobj : ∀ g, g < t.height → ∃ k, k < cs.length ∧ extOf cs k = closure t [g])
    (hattr : ∀ a, a < t.width → ∃ k, k < cs.length ∧ extOf cs k = extAll t [a])
    {A : Nat → List Nat} (hA : ∀ i, i < cs.length → ∀ j, j ∈ A i ↔ j ∈ ancestors cs i) :
    C04Holds t ((List.range cs.length).map (newExtentI cs ord))
      ((List.range cs.length).map (newIntentI cs ord)) ((List.range cs.length).map A) := by
  have hget : ∀ (f : Nat → List Nat) i, i < cs.length → ((List.range cs.length).map f).getD i [] = f i :=
    fun f i hi => ListAux.getD_map_range f _ i [] hi
  unfold C04Holds
  simp only [List.length_map, List.length_range, true_and]
  refine ⟨fun g hg => ?_, fun a ha => ?_, fun i hi => ?_, fun g a i j hg ha hi hj hgi haj => ?_⟩
  · obtain ⟨k, hk, he⟩ := hobj g hg
    refine ⟨k, hk, by rw [hget _ k hk]; exact (H.mem_newExtentI_iff_objConcept ho hg hk he hk).mpr rfl,
      fun i' hi' h => ?_⟩
    rw [hget _ i' hi'] at h
    exact (H.mem_newExtentI_iff_objConcept ho hg hk he hi').mp h
  · obtain ⟨k, hk, he⟩ := hattr a ha
    refine ⟨k, hk, by rw [hget _ k hk]; exact (H.mem_newIntentI_iff_attrConcept ho ha hk he hk).mpr rfl,
      fun j' hj' h => ?_⟩
    rw [hget _ j' hj'] at h
    exact (H.mem_newIntentI_iff_attrConcept ho ha hk he hj').mp h
  · rw [hget _ i hi, hget _ i hi]
    exact ⟨fun g hg => H.ext_lt hi g (mem_newExtentI.mp hg).1, fun a ha => H.int_lt hi a (mem_newIntentI.mp ha).1⟩
  · rw [hget _ i hi] at hgi ⊢
    rw [hget _ j hj] at haj
    obtain ⟨kg, hkg, heg⟩ := hobj g hg
    obtain ⟨ka, hka, hea⟩ := hattr a ha
    obtain rfl : i = kg := (H.mem_newExtentI_iff_objConcept ho hg hkg heg hi).mp hgi
    obtain rfl : j = ka := (H.mem_newIntentI_iff_attrConcept ho ha hka hea hj).mp haj
    rw [hA i hi j]
    exact (H.get_iff_leq hg hi hj heg hea).trans (PQ.leq_iff_eq_or_mem_ancestors H.isPO hi hj)

end IsConceptSub

theorem extAll_cons (t : Table) (a : Nat) (B : List Nat) :
    extAll t (a :: B) = cutBy t (extAll t B) a := by
  unfold cutBy extAll ext
  rw [List.filter_filter]
  apply List.filter_congr
  intro g _
  rw [List.all_cons, Bool.and_comm]

theorem exists_ext_of_closed {t : Table} {cs : Lat}
    (htop : ∃ d ∈ cs, d.1 = extAll t [])
    (hcl : ∀ c ∈ cs, ∀ a, a < t.width → ∃ d ∈ cs, d.1 = cutBy t c.1 a) :
    ∀ B : List Nat, (∀ a ∈ B, a < t.width) → ∃ d ∈ cs, d.1 = extAll t B := by
  intro B
  induction B with
  | nil => exact fun _ => htop
  | cons a B ih =>
    intro hB
    obtain ⟨c, hc, ec⟩ := ih (fun x hx => hB x (List.mem_cons_of_mem _ hx))
    obtain ⟨d, hd, ed⟩ := hcl c hc a (hB a List.mem_cons_self)
    exact ⟨d, hd, by rw [ed, ec, extAll_cons]⟩

end Fca.LQ
