/-
  The work list of `POSet._closed_relation_cache_by_direct_cache`, once, over lookup functions.  `lt` is a strict order
  on the indexes below `n`; the state is the work list, the visited list and the lookup function of the closed
  dictionary.  One round pops an entry all of whose lower covers are visited, stores for it its lower covers together
  with what is stored for them, and appends its upper covers.  A model of the loop, whatever its dictionaries are, owes
  per round only that: the entry it pops is ready, what it stores and appends is as said, and its unfolding equation.
-/
import Fca.Lemmas.FinOrder
namespace Fca.WL
open Fca.Ord

structure Inv (n : Nat) (lt : Nat → Nat → Bool) (tv vis : List Nat) (cl : Nat → Option (List Nat)) : Prop where
  clOk : ∀ k v, cl k = some v → k < n ∧ ∀ x, x ∈ v ↔ x < n ∧ lt x k = true
  visCl : ∀ k ∈ vis, (cl k).isSome = true
  tvLt : ∀ x ∈ tv, x < n
  visDown : ∀ x ∈ vis, ∀ c, c < n → Cover n lt c x → c ∈ vis
  ready : ∀ m, m < n → m ∉ vis → (∀ c, c < n → Cover n lt c m → c ∈ vis) → m ∈ tv

section
variable {n : Nat} {lt : Nat → Nat → Bool}

theorem Inv.start {l : List Nat} (hlt : ∀ x ∈ l, x < n)
    (hmin : ∀ m, m < n → (∀ c, c < n → ¬ Cover n lt c m) → m ∈ l) : Inv n lt l [] fun _ => none :=
  ⟨nofun, nofun, hlt, nofun, fun m hm _ hch => hmin m hm fun c hc hcov => nomatch hch c hc hcov⟩

variable (h : Strict n lt) {tv vis : List Nat} {cl : Nat → Option (List Nat)}
include h

theorem Inv.exists_open (I : Inv n lt tv vis cl) {w : Nat} (hw : w < n) (hwv : w ∉ vis) :
    ∃ m ∈ tv, ∀ c, c < n → Cover n lt c m → c ∈ vis :=
  let ⟨m, hm, hmv, _, hmin⟩ := h.exists_least_open (· ∈ vis) hw hwv
  have hch : ∀ c, c < n → Cover n lt c m → c ∈ vis := fun c hc hcov => hmin c hc hcov.1
  ⟨m, I.ready m hm hmv hch, hch⟩

/-- what keeps the loop going: some entry of a non-empty work list is ready -/
theorem Inv.exists_ready {t : Nat} {ts : List Nat} (I : Inv n lt (t :: ts) vis cl) :
    ∃ x ∈ t :: ts, ∀ c, c < n → Cover n lt c x → c ∈ vis :=
  Classical.byCases (fun ht : t ∈ vis => ⟨t, List.mem_cons_self, I.visDown t ht⟩)
    (I.exists_open h (I.tvLt t List.mem_cons_self))

theorem Inv.final (I : Inv n lt [] vis cl) {k : Nat} (hk : k < n) :
    ∃ v, cl k = some v ∧ ∀ x, x ∈ v ↔ x < n ∧ lt x k = true :=
  have hvis : k ∈ vis := Classical.not_not.mp fun hkv => (I.exists_open h hk hkv).elim fun _ hm => nomatch hm.1
  let ⟨v, hv⟩ := Option.isSome_iff_exists.mp (I.visCl k hvis)
  ⟨v, hv, (I.clOk k v hv).2⟩

/-- one round: the ready entry `el` at position `j` leaves the work list, its upper covers `T` are appended, it
    becomes visited and gets `v`, its lower covers `dr` and what is stored for them -/
theorem Inv.step {vis' : List Nat} {cl' : Nat → Option (List Nat)} (I : Inv n lt tv vis cl) {j el : Nat}
    {dr T v : List Nat} (hel : tv[j]? = some el) (hdr : ∀ c, c ∈ dr ↔ c < n ∧ Cover n lt c el)
    (hready : ∀ c ∈ dr, c ∈ vis) (hT : ∀ p, p ∈ T ↔ p < n ∧ Cover n lt el p)
    (hvis : ∀ x, x ∈ vis' ↔ x = el ∨ x ∈ vis)
    (hmem : ∀ x, x ∈ v ↔ x ∈ dr ∨ ∃ r ∈ dr, x ∈ (cl r).getD [])
    (hcl : ∀ k, cl' k = if k = el then some v else cl k) :
    Inv n lt (tv.eraseIdx j ++ T) vis' cl' := by
  have heln : el < n := I.tvLt el (List.mem_of_getElem? hel)
  have hst : ∀ r ∈ dr, ∀ x, x ∈ (cl r).getD [] ↔ x < n ∧ lt x r = true := fun r hr x => by
    obtain ⟨c, hc⟩ := Option.isSome_iff_exists.mp (I.visCl r (hready r hr))
    rw [hc]
    exact (I.clOk r c hc).2 x
  refine ⟨fun k w hk => ?_, fun k hk => ?_, fun x hx => ?_, fun x hx c hc hcov => ?_, fun m hm hmv hch => ?_⟩
  · rw [hcl] at hk
    split at hk
    · rename_i e
      subst e
      cases hk
      refine ⟨heln, fun x => (hmem x).trans ⟨?_, fun ⟨hx, hxk⟩ => ?_⟩⟩
      · rintro (hx | ⟨r, hr, hx⟩)
        · exact ⟨((hdr x).mp hx).1, ((hdr x).mp hx).2.1⟩
        · obtain ⟨hxn, hxr⟩ := (hst r hr x).mp hx
          exact ⟨hxn, h.trans x r k hxn ((hdr r).mp hr).1 heln hxr ((hdr r).mp hr).2.1⟩
      · -- a strict descendant is a lower cover or below one
        obtain ⟨c, hc, hcov, hxc⟩ := h.exists_lower_cover_ge hx hxk
        have hcdr := (hdr c).mpr ⟨hc, hcov⟩
        exact hxc.elim (fun e => Or.inl (e ▸ hcdr)) fun hxc => Or.inr ⟨c, hcdr, (hst c hcdr x).mpr ⟨hx, hxc⟩⟩
    · exact I.clOk k w hk
  · rw [hcl]
    split
    · rfl
    · rename_i hne
      exact I.visCl k (((hvis k).mp hk).resolve_left hne)
  · exact (List.mem_append.mp hx).elim (fun hx => I.tvLt x (List.mem_of_mem_eraseIdx hx)) fun hx => ((hT x).mp hx).1
  · refine (hvis c).mpr (Or.inr (((hvis x).mp hx).elim (fun e => ?_) fun hx => I.visDown x hx c hc hcov))
    exact hready c ((hdr c).mpr ⟨hc, e ▸ hcov⟩)
  · have hmv' : m ∉ vis := fun hv => hmv ((hvis m).mpr (Or.inr hv))
    have hne : m ≠ el := fun e => hmv ((hvis m).mpr (Or.inl e))
    by_cases hall : ∀ c, c < n → Cover n lt c m → c ∈ vis
    · obtain ⟨i, hi⟩ := List.mem_iff_getElem?.mp (I.ready m hm hmv' hall)
      exact List.mem_append_left _ (List.mem_eraseIdx_iff_getElem?.mpr
        ⟨i, fun e => hne (Option.some.inj ((e ▸ hi).symm.trans hel)), hi⟩)
    · -- the lower cover of `m` visited in this round is `el`, so `m` is one of the upper covers appended
      obtain ⟨c, hc⟩ := Classical.not_forall.mp hall
      obtain ⟨hcn, hc⟩ := Classical.not_imp.mp hc
      obtain ⟨hcov, hcv⟩ := Classical.not_imp.mp hc
      obtain rfl : c = el := ((hvis c).mp (hch c hcn hcov)).resolve_right hcv
      exact List.mem_append_right _ ((hT m).mpr ⟨hm, hcov⟩)

end

/-! Termination.  `up x` lists the strict up-set of `x`.  Popping `x` takes `2 ^ |up x|` from the potential, its upper
  covers `p₁ … p_k` add `Σ 2 ^ |up pᵢ|`, and `1 + Σ 2 ^ |up pᵢ| ≤ 2 ^ |up x|` because they are an antichain inside
  `up x`. -/

def wsum (up : Nat → List Nat) (l : List Nat) : Nat := (l.map fun x => 2 ^ (up x).length).sum

section
variable {up : Nat → List Nat}

theorem wsum_cons (x : Nat) (l : List Nat) : wsum up (x :: l) = 2 ^ (up x).length + wsum up l := rfl

theorem wsum_append (a b : List Nat) : wsum up (a ++ b) = wsum up a + wsum up b := by
  rw [wsum, List.map_append, List.sum_append_nat]
  rfl

theorem wsum_eraseIdx (l : List Nat) (j el : Nat) (h : l[j]? = some el) :
    wsum up (l.eraseIdx j) + 2 ^ (up el).length = wsum up l := by
  induction l generalizing j with
  | nil => cases h
  | cons x xs ih =>
    cases j with
    | zero =>
      cases h
      exact Nat.add_comm _ _
    | succ j => rw [List.eraseIdx_cons_succ, wsum_cons, wsum_cons, Nat.add_assoc, ih j h]

variable {n : Nat} {lt : Nat → Nat → Bool} (h : Strict n lt)
  (hup : ∀ x, (up x).Nodup ∧ ∀ a, a ∈ up x ↔ a < n ∧ lt x a = true)
include h hup

/-- An antichain `T` that lies, together with the up-sets of its members, inside `S` weighs less than `2 ^ |S|`.
    (This is "a cover-path is determined by its vertex set" in arithmetic form.) -/
theorem antichain_weight (T : List Nat) : ∀ (S : List Nat), T.Nodup → (∀ p ∈ T, p < n ∧ p ∈ S) →
    (∀ p ∈ T, ∀ a ∈ up p, a ∈ S) → (∀ p ∈ T, ∀ q ∈ T, ¬ lt q p = true) → 1 + wsum up T ≤ 2 ^ S.length := by
  induction T with
  | nil => exact fun S _ _ _ _ => Nat.one_le_two_pow
  | cons p T ih =>
    intro S hn hT hA hX
    have hn' := List.nodup_cons.mp hn
    obtain ⟨hpn, hp⟩ := hT p List.mem_cons_self
    -- the rest of the antichain and the up-set of `p` both live in `S` without `p`
    have h1 := ih (S.erase p) hn'.2
      (fun q hq => ⟨(hT q (List.mem_cons_of_mem _ hq)).1,
        (List.mem_erase_of_ne fun (e : q = p) => hn'.1 (e ▸ hq)).mpr (hT q (List.mem_cons_of_mem _ hq)).2⟩)
      (fun q hq a ha => (List.mem_erase_of_ne fun (e : a = p) => hX p List.mem_cons_self q (List.mem_cons_of_mem _ hq)
        (((hup q).2 p).mp (e ▸ ha)).2).mpr (hA q (List.mem_cons_of_mem _ hq) a ha))
      (fun q hq r hr => hX q (List.mem_cons_of_mem _ hq) r (List.mem_cons_of_mem _ hr))
    have h3 : 2 ^ (up p).length ≤ 2 ^ (S.erase p).length := Nat.pow_le_pow_right (by decide)
      ((hup p).1.length_le_of_subset fun a ha =>
        (List.mem_erase_of_ne fun (e : a = p) => h.irrefl p hpn (((hup p).2 p).mp (e ▸ ha)).2).mpr
          (hA p List.mem_cons_self a ha))
    rw [List.length_erase_of_mem hp] at h1 h3
    obtain ⟨m, hm⟩ : ∃ m, S.length = m + 1 := ⟨S.length - 1, (Nat.sub_add_cancel (List.length_pos_of_mem hp)).symm⟩
    rw [hm, Nat.add_sub_cancel] at h1 h3
    rw [hm, wsum_cons, Nat.pow_succ, Nat.mul_two, Nat.add_left_comm]
    exact Nat.add_le_add h3 h1

theorem wsum_step {tv : List Nat} {j el : Nat} {T : List Nat} (hel : tv[j]? = some el) (heln : el < n)
    (hTn : T.Nodup) (hT : ∀ p ∈ T, p < n ∧ Cover n lt el p) : wsum up (tv.eraseIdx j ++ T) + 1 ≤ wsum up tv := by
  have h1 := antichain_weight h hup T (up el) hTn
    (fun p hp => ⟨(hT p hp).1, ((hup el).2 p).mpr ⟨(hT p hp).1, (hT p hp).2.1⟩⟩)
    (fun p hp a ha =>
      have ha := ((hup p).2 a).mp ha
      ((hup el).2 a).mpr ⟨ha.1, h.trans el p a heln (hT p hp).1 ha.1 (hT p hp).2.1 ha.2⟩)
    -- `el < q < p` contradicts `p` covering `el`
    (fun p hp q hq hqp => (hT p hp).2.2 q (hT q hq).1 (hT q hq).2.1 hqp)
  rw [wsum_append, ← wsum_eraseIdx tv j el hel, Nat.add_assoc, Nat.add_comm (wsum up T)]
  exact Nat.add_le_add_left h1 _

theorem wsum_start_lt {l : List Nat} (hnd : l.Nodup) (hlt : ∀ x ∈ l, x < n)
    (hmin : ∀ q ∈ l, ∀ c, c < n → ¬ Cover n lt c q) : wsum up l < 2 ^ n := by
  have h1 := antichain_weight h hup l (List.range n) hnd (fun p hp => ⟨hlt p hp, List.mem_range.mpr (hlt p hp)⟩)
    (fun p hp a ha => List.mem_range.mpr (((hup p).2 a).mp ha).1)
    fun p hp q hq hqp =>
      -- below `p` there would be a lower cover of `p`
      let ⟨c, hc, hcov, _⟩ := h.exists_lower_cover_ge (hlt q hq) hqp
      hmin p hp c hc hcov
  rw [List.length_range, Nat.add_comm] at h1
  exact h1

end

/-- the search for a ready entry, whatever the test `r` and the dictionaries behind it: a search that answers with the
    position of the first entry passing `r` finds one if there is one -/
theorem find_first {find : List Nat → Nat → Option Nat} {r : Nat → Bool} (l : List Nat) (i : Nat)
    (hf : ∀ x ∈ l, ∀ xs i, find (x :: xs) i = if r x = true then some i else find xs (i + 1))
    (hex : ∃ z ∈ l, r z = true) : ∃ j el, find l i = some (i + j) ∧ l[j]? = some el ∧ r el = true := by
  induction l generalizing i with
  | nil => exact hex.elim fun _ h => nomatch h.1
  | cons a rest ih =>
    rw [hf a List.mem_cons_self]
    by_cases ha : r a = true
    · exact ⟨0, a, if_pos ha, rfl, ha⟩
    · obtain ⟨z, hz, hr⟩ := hex
      obtain ⟨j, el, hj, hel, hrel⟩ := ih (i + 1) (fun x hx => hf x (List.mem_cons_of_mem _ hx))
        ⟨z, (List.mem_cons.mp hz).resolve_left fun e => ha (e ▸ hr), hr⟩
      exact ⟨j + 1, el, (if_neg ha).trans (hj.trans (by rw [Nat.add_assoc, Nat.add_comm 1 j])), hel, hrel⟩

end Fca.WL
