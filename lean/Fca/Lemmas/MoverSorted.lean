/-
  The geometric reading of the Mover: `Sorted` (every row of peer coordinates is strictly ascending, i.e.
  rank order = left-to-right order) is established by `setPos` on pairwise distinct positions and kept by
  every operation; under it ranks compare like coordinates.
-/
import Fca.Lemmas.MoverShift
namespace Fca.Mover
open Fca.Layout (VErr)

def Sorted (m : St) : Prop := ∀ l, (m.row l).Pairwise (· < ·)

theorem sorted_lt_iff {l : List Rat} (hs : l.Pairwise (· < ·)) {a b : Nat} (ha : a < l.length) (hb : b < l.length) :
    l[a] < l[b] ↔ a < b :=
  ListAux.pairwise_getElem_iff (fun _ _ h h' => Rat.lt_irrefl (Std.lt_trans h h')) hs ha hb

theorem sorted_le_iff {l : List Rat} (hs : l.Pairwise (· < ·)) {a b : Nat} (ha : a < l.length) (hb : b < l.length) :
    l[a] ≤ l[b] ↔ a ≤ b := by
  rw [← Rat.not_lt, sorted_lt_iff hs hb ha, Nat.not_lt]

theorem pairwise_set_lt {l : List Rat} {q : Nat} {x : Rat} (hs : l.Pairwise (· < ·))
    (hlo : ∀ a (h : a < l.length), a < q → l[a] < x) (hhi : ∀ b (h : b < l.length), q < b → x < l[b]) :
    (l.set q x).Pairwise (· < ·) := by
  apply List.pairwise_iff_getElem.mpr
  intro a b ha hb hab
  rw [List.length_set] at ha hb
  rw [List.getElem_set, List.getElem_set]
  by_cases h1 : q = a
  · rw [if_pos h1, if_neg (fun e : q = b => Nat.ne_of_lt hab (h1.symm.trans e))]
    exact hhi b hb (h1 ▸ hab)
  · rw [if_neg h1]
    by_cases h2 : q = b
    · rw [if_pos h2]; exact hlo a ha (h2 ▸ hab)
    · rw [if_neg h2]; exact (sorted_lt_iff hs ha hb).mpr hab

/-- in a strictly ascending list the elements satisfying a downward closed predicate form a prefix,
    whose length is the number of such elements -/
theorem filter_prefix (P : Rat → Bool) (l : List Rat) (hs : l.Pairwise (· < ·))
    (hP : ∀ x y, x < y → P y = true → P x = true) (j : Nat) (h : j < l.length) :
    j < (l.filter P).length ↔ P l[j] = true := by
  induction l generalizing j with
  | nil => exact absurd h (Nat.not_lt_zero _)
  | cons a as ih =>
    obtain ⟨ha, has⟩ := List.pairwise_cons.mp hs
    by_cases hpa : P a = true
    · rw [List.filter_cons_of_pos hpa, List.length_cons]
      cases j with
      | zero => exact ⟨fun _ => hpa, fun _ => Nat.zero_lt_succ _⟩
      | succ j =>
        rw [List.getElem_cons_succ, Nat.succ_lt_succ_iff]
        exact ih has j (Nat.lt_of_succ_lt_succ h)
    · have hnone : ∀ y ∈ as, ¬ P y = true := fun y hy hpy => hpa (hP a y (ha y hy) hpy)
      rw [List.filter_cons_of_neg hpa, List.filter_eq_nil_iff.mpr hnone]
      refine ⟨fun h0 => absurd h0 (Nat.not_lt_zero _), fun hp => ?_⟩
      cases j with
      | zero => exact absurd hp hpa
      | succ j => exact absurd hp (hnone _ (List.getElem_mem _))

theorem le_add_of_nonneg {a d : Rat} (h : 0 ≤ d) : a ≤ a + d := by
  have := (Rat.add_le_add_left (c := a)).mpr h
  rwa [Rat.add_zero] at this

theorem add_lt_of_neg {a d : Rat} (h : d < 0) : a + d < a := by
  have := (Rat.add_lt_add_left (c := a)).mpr h
  rwa [Rat.add_zero] at this

theorem stays_sorted {pp : List Rat} (hs : pp.Pairwise (· < ·)) {p : Nat} (hp : p < pp.length) {x dx : Rat}
    (hx : pp[p] + dx = x) (h : Stays pp p x dx) : (pp.set p x).Pairwise (· < ·) := by
  unfold Stays at h
  split at h
  · rename_i hdx
    have hle : pp[p] ≤ x := hx ▸ le_add_of_nonneg hdx
    refine pairwise_set_lt hs (fun a ha hap => Std.lt_of_lt_of_le ((sorted_lt_iff hs ha hp).mpr hap) hle)
      (fun b hb hpb => ?_)
    rcases h with h | h
    · exact absurd hb (Nat.not_lt.mpr (h ▸ hpb))
    · have hp1 : p + 1 < pp.length := Nat.lt_of_le_of_lt hpb hb
      rw [ListAux.getD_eq_get _ _ _ hp1] at h
      exact Std.lt_of_lt_of_le h ((sorted_le_iff hs hp1 hb).mpr hpb)
  · rename_i hdx
    have hlt : x < pp[p] := hx ▸ add_lt_of_neg (Rat.not_le.mp hdx)
    refine pairwise_set_lt hs (fun a ha hap => ?_)
      (fun b hb hpb => Std.lt_trans hlt ((sorted_lt_iff hs hp hb).mpr hpb))
    rcases h with h | h
    · exact absurd hap (h ▸ Nat.not_lt_zero a)
    · have hp1 : p - 1 < pp.length := Nat.lt_of_le_of_lt (Nat.sub_le p 1) hp
      rw [ListAux.getD_eq_get _ _ _ hp1] at h
      exact Std.lt_of_le_of_lt ((sorted_le_iff hs ha hp1).mpr (Nat.le_sub_one_of_lt hap)) h

/-- in a strictly ascending row without `x`, writing `x` over an entry keeps the order when the entry's slot, or
    the next one, is the number `c` of entries below `x`: slots `< c` hold the entries below `x` -/
theorem set_sorted_of_count {pp : List Rat} (hs : pp.Pairwise (· < ·)) {x : Rat} (hx : x ∉ pp) {q : Nat}
    (h1 : q ≤ (pp.filter (· < x)).length) (h2 : (pp.filter (· < x)).length ≤ q + 1) :
    (pp.set q x).Pairwise (· < ·) := by
  have hpre := filter_prefix (· < x) pp hs
    (fun y z hyz hz => decide_eq_true (Std.lt_trans hyz (of_decide_eq_true hz)))
  refine pairwise_set_lt hs (fun a ha haq => of_decide_eq_true ((hpre a ha).mp (Nat.lt_of_lt_of_le haq h1)))
    (fun b hb hqb => Rat.lt_of_le_of_ne (Rat.not_lt.mp fun h => ?_) (fun e => hx (e ▸ List.getElem_mem hb)))
  exact Nat.not_lt.mpr (Nat.le_trans h2 hqb) ((hpre b hb).mpr (decide_eq_true h))

/-- a node that jumps to the right over the later entries smaller than `x` lands where `x` belongs: the entries up
    to its slot are below `x` too -/
theorem overtake_right_sorted {pp : List Rat} (hs : pp.Pairwise (· < ·)) {p : Nat} (hp : p < pp.length)
    {x : Rat} (hle : pp[p] ≤ x) (hx : x ∉ pp) :
    (pp.set (p + ((pp.drop (p + 1)).filter (· < x)).length) x).Pairwise (· < ·) := by
  suffices hc : (pp.filter (· < x)).length = p + ((pp.drop (p + 1)).filter (· < x)).length + 1 from
    set_sorted_of_count hs hx (hc ▸ Nat.le_succ _) (Nat.le_of_eq hc)
  have hlt := Rat.lt_of_le_of_ne hle fun e => hx (e ▸ List.getElem_mem hp)
  have hall : ∀ y ∈ pp.take (p + 1), decide (y < x) = true := by
    intro y hy
    obtain ⟨a, ha, rfl⟩ := List.getElem_of_mem hy
    rw [List.length_take] at ha
    rw [List.getElem_take]
    exact decide_eq_true (Std.lt_of_le_of_lt ((sorted_le_iff hs _ hp).mpr
      (Nat.le_of_lt_succ (Nat.lt_of_lt_of_le ha (Nat.min_le_left _ _)))) hlt)
  conv => lhs; rw [← List.take_append_drop (p + 1) pp]
  rw [List.filter_append, List.length_append, List.filter_eq_self.mpr hall, List.length_take, Nat.min_eq_left hp,
    Nat.add_right_comm]

/-- the same to the left, over the earlier entries greater than `x`: the other earlier entries are those below `x` -/
theorem overtake_left_sorted {pp : List Rat} (hs : pp.Pairwise (· < ·)) {p : Nat} (hp : p < pp.length)
    {x : Rat} (hlt : x < pp[p]) (hx : x ∉ pp) :
    (pp.set (p - ((pp.take p).filter (x < ·)).length) x).Pairwise (· < ·) := by
  suffices hc : (pp.filter (· < x)).length + ((pp.take p).filter (x < ·)).length = p by
    rw [Nat.sub_eq_of_eq_add hc.symm]
    exact set_sorted_of_count hs hx (Nat.le_refl _) (Nat.le_succ _)
  have hnone : (pp.drop p).filter (· < x) = [] := by
    refine List.filter_eq_nil_iff.mpr fun y hy h => ?_
    obtain ⟨a, ha, rfl⟩ := List.getElem_of_mem hy
    rw [List.getElem_drop] at h
    rw [List.length_drop] at ha
    exact Rat.lt_irrefl (Std.lt_trans (Std.lt_of_lt_of_le hlt
      ((sorted_le_iff hs hp (Nat.add_lt_of_lt_sub' ha)).mpr (Nat.le_add_right p a))) (of_decide_eq_true h))
  have hc : (pp.take p).filter (· < x) = (pp.take p).filter fun y => decide ¬ decide (x < y) = true := by
    refine List.filter_congr fun y hy => ?_
    exact decide_eq_decide.mpr ⟨fun h h' => Rat.lt_irrefl (Std.lt_trans h (of_decide_eq_true h')), fun h =>
      Rat.lt_of_le_of_ne (Rat.not_lt.mp fun h' => h (decide_eq_true h')) fun e => hx (e ▸ List.mem_of_mem_take hy)⟩
  conv => lhs; arg 1; rw [← List.take_append_drop p pp]
  rw [List.filter_append, hnone, List.append_nil, hc, ← List.countP_eq_length_filter, ← List.countP_eq_length_filter,
    Nat.add_comm, ← List.length_eq_countP_add_countP, List.length_take, Nat.min_eq_left (Nat.le_of_lt hp)]

theorem loadState_sorted (d : Dir) (val : List (Rat × Rat)) (hnd : val.Nodup) : Sorted (loadState d val) := by
  obtain ⟨LC, levels, hlev, _, _, _, _, _, hrow, hrow0⟩ := loadState_fields d val
  intro l
  rcases Nat.lt_or_ge l LC.length with hl | hl
  · rw [hrow l hl]
    refine (sortByKey_isSort (keyOf val)).sorted_lt (fun _ _ h => Rat.le_of_lt (Rat.not_le.mp h))
      (fun _ _ _ => Rat.le_trans) (List.Pairwise.filter _ List.nodup_range) ?_
    intro a ha b hb hle hne
    rw [List.mem_filter, List.mem_range, beq_iff_eq] at ha hb
    refine Rat.lt_of_le_of_ne hle (fun hk => hne ((List.getD_inj ha.1 hb.1 hnd).mp (Prod.ext hk ?_)))
    rw [← (hlev a ha.1).2, ← (hlev b hb.1).2, ha.2, hb.2]
  · rw [hrow0 l hl]
    exact List.Pairwise.nil

theorem setRow_sorted {m : St} (hs : Sorted m) {l q : Nat} {x : Rat} (hl : l < m.posPeers.length)
    (h : ((m.row l).set q x).Pairwise (· < ·)) : Sorted (setRow m l q x) := by
  intro l'
  by_cases e : l = l'
  · subst e; rw [setRow_row_same _ _ _ _ hl]; exact h
  · rw [setRow_row_other _ _ _ _ _ e]; exact hs l'

theorem sorted_of_posPeers_eq {m m1 : St} (h : m1.posPeers = m.posPeers) (hs : Sorted m) : Sorted m1 :=
  fun l => row_congr h l ▸ hs l

theorem jitter_sorted {m m' : St} {i : Nat} {dx : Rat} (hw : WF m) (hb : Bij m) (hs : Sorted m)
    (h : jitterNode m i dx = .ok m') : Sorted m' := by
  obtain ⟨hi, hc⟩ := jitterNode_cases h rfl rfl rfl
  have hl := hw.lvl_lt i hi
  have hp := hw.ord_lt i hi
  have hx : (m.row (m.lvl i))[m.ord i] + dx = m.peerCoord i + dx := by
    rw [St.peerCoord, ListAux.getD_eq_get _ _ _ hp]
  rcases hc with ⟨hst, rfl⟩ | ⟨hmem, m1, hsh, rfl⟩
  · exact setRow_sorted hs hl (stays_sorted (hs _) hp hx hst)
  · have hpp1 := shift_posPeers hsh
    refine setRow_sorted (sorted_of_posPeers_eq hpp1 hs) (hpp1 ▸ hl) ?_
    rw [row_congr hpp1]
    by_cases hdx : 0 ≤ dx
    · rw [if_pos hdx] at hsh
      rw [(shift_right hw hb (Int.natCast_nonneg _) hsh rfl).1, Int.natAbs_natCast, Nat.min_eq_left]
      · exact overtake_right_sorted (hs _) hp (hx ▸ le_add_of_nonneg hdx) hmem
      · rw [← List.length_drop]; exact List.length_filter_le _ _
    · rw [if_neg hdx] at hsh
      rw [(shift_left hw hb (Int.neg_nonpos_iff _ |>.mpr (Int.natCast_nonneg _)) hsh rfl).1, Int.natAbs_neg,
        Int.natAbs_natCast, Nat.min_eq_left]
      · exact overtake_left_sorted (hs _) hp (hx ▸ add_lt_of_neg (Rat.not_le.mp hdx)) hmem
      · refine Nat.le_trans (List.length_filter_le _ _) ?_
        rw [List.length_take]; exact Nat.min_le_left _ _

theorem step_sorted {m m' : St} {o : Op} (hw : WF m) (hb : Bij m) (hs : Sorted m) (h : step m o = .ok m') :
    Sorted m' := by
  cases o with
  | swap a b => exact sorted_of_posPeers_eq (swap_posPeers h) hs
  | shift i k => exact sorted_of_posPeers_eq (shift_posPeers h) hs
  | jitter i dx => exact jitter_sorted hw hb hs h
  | place i x => exact jitter_sorted hw hb hs (placeNode_ok h).2

theorem peerCoord_lt_slot {m : St} (hw : WF m) (hs : Sorted m) {j : Nat} (hj : j < m.n) {q : Nat}
    (hq : q < (m.row (m.lvl j)).length) :
    (m.peerCoord j < (m.row (m.lvl j)).getD q 0 ↔ m.ord j < q) ∧
    ((m.row (m.lvl j)).getD q 0 < m.peerCoord j ↔ q < m.ord j) := by
  have hp := hw.ord_lt j hj
  rw [St.peerCoord, ListAux.getD_eq_get _ _ _ hp, ListAux.getD_eq_get _ _ _ hq]
  exact ⟨sorted_lt_iff (hs _) hp hq, sorted_lt_iff (hs _) hq hp⟩

theorem rank_geometric {m : St} (hw : WF m) (hs : Sorted m) {a b : Nat} (ha : a < m.n) (hb : b < m.n)
    (hl : m.lvl a = m.lvl b) : m.ord a < m.ord b ↔ m.peerCoord a < m.peerCoord b := by
  have hpb := hw.ord_lt b hb
  rw [← hl] at hpb
  show m.ord a < m.ord b ↔ m.peerCoord a < (m.row (m.lvl b)).getD (m.ord b) 0
  rw [← hl]
  exact (peerCoord_lt_slot hw hs ha hpb).1.symm

end Fca.Mover
