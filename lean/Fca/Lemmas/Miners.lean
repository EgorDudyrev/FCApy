/-
  Fca.Lemmas.Miners — facts shared by all miners: exactness is invariant under reordering
  (`sort_concepts`), and every record's name views are the name images of its index views.
-/
import Fca.Lemmas.LindigComplete
import Fca.Lemmas.Sofia
import Fca.Lemmas.CbOTable
namespace Fca.MinersL
open Fca.Spec

theorem exact_perm {t : Table} {cs cs' : List ConceptRec} (hp : cs'.Perm cs) (h : ExactConcepts t cs) :
    ExactConcepts t cs' := by
  have hm := hp.map conceptKey
  exact ⟨hm.nodup_iff.mpr h.1, fun A B => by rw [hm.mem_iff]; exact h.2 A B⟩

theorem soundNodup_perm {t : Table} {cs cs' : List ConceptRec} (hp : cs'.Perm cs) (h : SoundNodup t cs) :
    SoundNodup t cs' := by
  have hm := hp.map conceptKey
  exact ⟨hm.nodup_iff.mpr h.1, fun A B hx => h.2 A B (hm.mem_iff.mp hx)⟩

theorem sortConcepts_perm (cs : List ConceptRec) : (sortConcepts cs).Perm cs :=
  List.mergeSort_perm cs sortKeyLe

theorem exact_soundNodup {t : Table} {cs : List ConceptRec} (h : ExactConcepts t cs) : SoundNodup t cs :=
  ⟨h.1, fun A B hx => (h.2 A B).mp hx⟩

theorem views_fromObjects (K : Ctx) (objs : List Nat) (b : Bool) :
    ViewsAgree K.objNames K.attrNames (K.fromObjects objs b) := ⟨rfl, rfl⟩

/-- every miner builds its list by mapping a record constructor over something -/
theorem views_map {on an : List String} {α : Type} {f : α → ConceptRec} (h : ∀ x, ViewsAgree on an (f x))
    (l : List α) : ∀ c ∈ l.map f, ViewsAgree on an c := fun c hc => by
  obtain ⟨x, _, rfl⟩ := List.mem_map.mp hc
  exact h x

theorem views_cboFbarray (K : Ctx) (fuel : Nat) (cs : List ConceptRec) (h : cboFbarray K fuel = .ok cs) :
    ∀ c ∈ cs, ViewsAgree K.objNames K.attrNames c := by
  unfold cboFbarray at h
  split at h
  · cases h
  · cases h; exact views_map (fun _ => views_fromObjects K _ _) _

theorem views_closeByOne (K : Ctx) (fuel : Nat) (cs : List ConceptRec) (h : closeByOne K fuel = .ok cs) :
    ∀ c ∈ cs, ViewsAgree K.objNames K.attrNames c := by
  unfold closeByOne at h
  split at h
  · exact views_cboFbarray K fuel cs h
  · split at h
    · cases h
    · cases h; exact views_map (fun _ => views_fromObjects K _ _) _

theorem views_lindig (K : Ctx) (iter : Option Bool) (ord : List Nat → List Nat) (pick : List Nat → Nat)
    (fuel : Nat) (r : LindigOut) (h : lindigAlgorithm K iter ord pick fuel = .ok r) :
    ∀ c ∈ r.concepts, ViewsAgree K.objNames K.attrNames c := by
  unfold lindigAlgorithm at h
  simp only at h
  split at h
  · cases h
  · cases hit : iter.getD (decide (K.nObjects < K.nAttributes))
    · simp only [hit, Bool.false_eq_true, ↓reduceIte] at h
      cases h
      rw [List.map_map]
      exact views_map (fun _ => ⟨rfl, rfl⟩) _
    · simp only [hit, ↓reduceIte] at h
      cases h
      exact views_map (fun _ => ⟨rfl, rfl⟩) _

theorem views_sofia (K : Ctx) (tie : List (List Bool) → List (List Bool)) (lMax minSupp : Nat) :
    ∀ c ∈ sofia K tie lMax minSupp, ViewsAgree K.objNames K.attrNames c :=
  views_map (fun _ => views_fromObjects K _ _) _

theorem views_sorted {K : Ctx} {cs : List ConceptRec} (h : ∀ c ∈ cs, ViewsAgree K.objNames K.attrNames c) :
    ∀ c ∈ sortConcepts cs, ViewsAgree K.objNames K.attrNames c :=
  fun c hc => h c ((sortConcepts_perm cs).mem_iff.mp hc)

end Fca.MinersL
