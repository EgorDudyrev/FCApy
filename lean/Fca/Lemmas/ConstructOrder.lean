/-
  Strict orders on the indexes `0 … n-1`, given by a Boolean relation and a rank that it increases (the rank is the
  fuel of the routines): `Spec.coversBy` and `Spec.upperCoversBy` list the covers of `Fca.Ord`, so that the order facts
  come from there; cover dictionaries.  No extents and no model: whatever is shown of a relation holds of its reverse
  `Ord.flipR` by the same lemma.
-/
import Fca.Spec.Covers
import Fca.Lemmas.ListAux
import Fca.Lemmas.FinOrder
namespace Fca.Construct
open Fca.Spec

/-- a transitive relation along which `rank` increases (for `concepts[i] < concepts[j]`: the support) -/
structure StrictOrd (lt : Nat → Nat → Bool) (rank : Nat → Nat) : Prop where
  trans : ∀ i j k, lt i j = true → lt j k = true → lt i k = true
  rank_lt : ∀ i j, lt i j = true → rank i < rank j

namespace StrictOrd
variable {lt : Nat → Nat → Bool} {rank : Nat → Nat}

theorem irrefl (h : StrictOrd lt rank) (i : Nat) : ¬ lt i i = true :=
  fun hi => Nat.lt_irrefl _ (h.rank_lt i i hi)

theorem asymm (h : StrictOrd lt rank) {i j : Nat} (hij : lt i j = true) : ¬ lt j i = true :=
  fun hji => Nat.lt_asymm (h.rank_lt i j hij) (h.rank_lt j i hji)

theorem ne_of_lt (h : StrictOrd lt rank) {i j : Nat} (hij : lt i j = true) : i ≠ j :=
  fun e => h.irrefl j (e ▸ hij)

theorem strict (h : StrictOrd lt rank) {n : Nat} : Ord.Strict n lt :=
  ⟨fun i _ => h.irrefl i, fun i j k _ _ _ => h.trans i j k⟩

end StrictOrd

/-- the reversed order is ranked by the distance to any bound `W` of the ranks -/
theorem StrictOrd.flip {L : Nat → Nat → Bool} {rk : Nat → Nat} (h : StrictOrd L rk) {W : Nat}
    (hW : ∀ i, rk i < W) : StrictOrd (Ord.flipR L) (fun i => W - rk i) where
  trans := fun i j k h1 h2 => h.trans k j i h2 h1
  rank_lt := fun i j hij =>
    Nat.sub_lt_sub_left (Nat.lt_trans (h.rank_lt j i hij) (hW i)) (h.rank_lt j i hij)

theorem lt_of_lt_succ_of_ne {x n : Nat} (h : x < n + 1) (hne : x ≠ n) : x < n :=
  Nat.lt_of_le_of_ne (Nat.le_of_lt_succ h) hne

variable {n : Nat} {lt : Nat → Nat → Bool} {rank : Nat → Nat}

theorem mem_coversBy {i j : Nat} :
    j ∈ coversBy n lt i ↔ j < n ∧ lt j i = true ∧ ∀ k, k < n → lt j k = true → ¬ lt k i = true := by
  simp only [coversBy, List.mem_filter, List.mem_range, Bool.and_eq_true, Bool.not_eq_true',
    List.any_eq_false, not_and]

theorem mem_upperCoversBy {i j : Nat} :
    j ∈ upperCoversBy n lt i ↔ j < n ∧ lt i j = true ∧ ∀ k, k < n → lt i k = true → ¬ lt k j = true := by
  simp only [upperCoversBy, List.mem_filter, List.mem_range, Bool.and_eq_true, Bool.not_eq_true',
    List.any_eq_false, not_and]

theorem mem_coversBy_iff {i j : Nat} : j ∈ coversBy n lt i ↔ j < n ∧ Ord.Cover n lt j i := mem_coversBy

theorem mem_upperCoversBy_iff {i j : Nat} : j ∈ upperCoversBy n lt i ↔ j < n ∧ Ord.Cover n lt i j := mem_upperCoversBy

theorem pairwise_lt_coversBy {i : Nat} : (coversBy n lt i).Pairwise (· < ·) := List.pairwise_lt_range.filter _

theorem pairwise_lt_upperCoversBy {i : Nat} : (upperCoversBy n lt i).Pairwise (· < ·) :=
  List.pairwise_lt_range.filter _

theorem nodup_coversBy {i : Nat} : (coversBy n lt i).Nodup := List.nodup_range.filter _

theorem nodup_upperCoversBy {i : Nat} : (upperCoversBy n lt i).Nodup := List.nodup_range.filter _

theorem coversBy_flip : coversBy n (Ord.flipR lt) = upperCoversBy n lt := by
  funext i
  refine List.filter_congr fun j _ => ?_
  congr 3
  funext k
  exact Bool.and_comm _ _

theorem upperCoversBy_flip : upperCoversBy n (Ord.flipR lt) = coversBy n lt :=
  (coversBy_flip (lt := Ord.flipR lt)).symm

theorem mem_upperCoversBy_comm {i j : Nat} (hi : i < n) (hj : j < n) :
    j ∈ upperCoversBy n lt i ↔ i ∈ coversBy n lt j := by
  rw [mem_upperCoversBy_iff, mem_coversBy_iff, and_iff_right hi, and_iff_right hj]

theorem coversBy_congr {lt' : Nat → Nat → Bool} (hL : ∀ i j, i < n → j < n → lt i j = lt' i j)
    {c : Nat} (hc : c < n) : coversBy n lt c = coversBy n lt' c := by
  refine List.filter_congr fun j hj => ?_
  have hj := List.mem_range.mp hj
  rw [hL j c hj hc]
  congr 2
  refine ListAux.any_congr_of_mem fun k hk => ?_
  rw [hL j k hj (List.mem_range.mp hk), hL k c (List.mem_range.mp hk) hc]

/-- covers are carried along a re-listing `σ` of the indexes with inverse `τ`: the lower covers of `τ c` in the
    re-listed order, read through `σ`, are the lower covers of `c` -/
theorem mem_map_coversBy_relist {L L' : Nat → Nat → Bool} {σ τ : Nat → Nat} (hσ : ∀ a, a < n → σ a < n)
    (hτ : ∀ a, a < n → τ a < n) (hστ : ∀ a, a < n → σ (τ a) = a)
    (hL : ∀ a b, a < n → b < n → L' a b = L (σ a) (σ b)) {c : Nat} (hc : c < n) {y : Nat} :
    y ∈ (coversBy n L' (τ c)).map σ ↔ y ∈ coversBy n L c := by
  have key : ∀ x, x < n → (x ∈ coversBy n L' (τ c) ↔ σ x ∈ coversBy n L c) := fun x hx => by
    rw [mem_coversBy_iff, mem_coversBy_iff, and_iff_right hx, and_iff_right (hσ x hx),
      Ord.cover_relist hσ (fun b hb => ⟨τ b, hτ b hb, hστ b hb⟩) hL (hτ c hc) hx, hστ c hc]
  rw [List.mem_map]
  constructor
  · rintro ⟨x, hx, rfl⟩
    exact (key x (mem_coversBy.mp hx).1).mp hx
  · intro hy
    have hyn := (mem_coversBy.mp hy).1
    exact ⟨τ y, (key _ (hτ y hyn)).mpr ((hστ y hyn).symm ▸ hy), hστ y hyn⟩

theorem exists_lower_cover_ge (h : StrictOrd lt rank) {a : Nat} (k : Nat) (hk : k < n) (hka : lt k a = true) :
    ∃ b, b ∈ coversBy n lt a ∧ (b = k ∨ lt k b = true) :=
  let ⟨b, hb, hc, hkb⟩ := (h.strict (n := n)).exists_lower_cover_ge hk hka
  ⟨b, mem_coversBy_iff.mpr ⟨hb, hc⟩, hkb⟩

theorem exists_upper_cover_le (h : StrictOrd lt rank) {x : Nat} (k : Nat) (hk : k < n) (hxk : lt x k = true) :
    ∃ b, b ∈ upperCoversBy n lt x ∧ (b = k ∨ lt b k = true) :=
  let ⟨b, hb, hc, hbk⟩ := (h.strict (n := n)).exists_upper_cover_le hk hxk
  ⟨b, mem_upperCoversBy_iff.mpr ⟨hb, hc⟩, hbk⟩

theorem exists_between_of_not_upper {i c : Nat} (hc : c < n) (hic : lt i c = true)
    (hn : c ∉ upperCoversBy n lt i) : ∃ k, k < n ∧ lt i k = true ∧ lt k c = true :=
  Classical.byContradiction fun hex =>
    hn (mem_upperCoversBy.mpr ⟨hc, hic, fun k hk hik hkc => hex ⟨k, hk, hik, hkc⟩⟩)

/-- the shape of `Spec.isTopB` and `Spec.isBottomB` -/
theorem greatest_iff_all {t : Nat} :
    (decide (t < n) && (List.range n).all fun j => j == t || lt j t) = true ↔ Ord.Greatest n lt t := by
  simp only [Ord.Greatest, Bool.and_eq_true, decide_eq_true_eq, List.all_eq_true, List.mem_range, Bool.or_eq_true,
    beq_iff_eq, Decidable.or_iff_not_imp_left]

/-- the dictionary `out` (keys `0 … n-1`) lists for every index its lower covers w.r.t. `lt`;
    for `flipR lt` these are the upper covers -/
def CoverDictBy (n : Nat) (lt : Nat → Nat → Bool) (out : List (List Nat)) : Prop :=
  out.length = n ∧ ∀ i, i < n → (out.getD i []).Nodup ∧ SameSetC (out.getD i []) (coversBy n lt i)

theorem CoverDictBy.mem_iff {out : List (List Nat)} (h : CoverDictBy n lt out) {c x : Nat} (hc : c < n) :
    x ∈ out.getD c [] ↔ x ∈ coversBy n lt c := (h.2 c hc).2 x

theorem CoverDictBy.congr {lt' : Nat → Nat → Bool} (hL : ∀ i j, i < n → j < n → lt i j = lt' i j)
    {out : List (List Nat)} (h : CoverDictBy n lt out) : CoverDictBy n lt' out :=
  ⟨h.1, fun i hi => coversBy_congr hL hi ▸ h.2 i hi⟩

end Fca.Construct
