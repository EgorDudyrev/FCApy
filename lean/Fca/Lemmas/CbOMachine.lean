/-
  Fca.Lemmas.CbOMachine — the Close-by-One worklist machine of `Model/CbO`, analysed abstractly:
  `c X g` says "object `g` lies in the closure of the combination `X`"; the two function parameters of
  the machine are tied to `c` by `Hyp`.
-/
import Fca.Model.CbO
import Fca.Lemmas.ListAux
namespace Fca.CbOM

section
variable {ι : Type}
variable (v : CboVariant) (n : Nat) (intention : List Nat → ι) (extIter : ι → List Nat → List Nat)
variable (c : List Nat → Nat → Bool)

def InR (X : List Nat) : Prop := ∀ g ∈ X, g < n

/-- what the correctness argument needs to know about the machine's two function parameters.
    No proof reads `key_of_eq`: that no set is emitted twice follows from the shape of the walk (`InvD` of
    `Lemmas/CbONodup`), whichever found-set the variant keeps. -/
structure Hyp : Prop where
  ext_iter : ∀ X base, InR n X → InR n base → extIter (intention X) base = base.filter (c X)
  c_ext : ∀ X g, g ∈ X → c X g = true
  c_trans : ∀ X Y, (∀ g ∈ X, c Y g = true) → ∀ h, c X h = true → c Y h = true
  key_of_eq : v = .fbarray → ∀ X Y, InR n X → InR n Y → (∀ g, g < n → c X g = c Y g) →
    intention X = intention Y

/- `lo`, `lo2`, `added`, `extentOf`, `children`: the `lo`, `lo2`, completion, `extent` and `newCombs` of
   `cboStep`, with `extIter (intention comb)` read as `filter (c comb)` -/
def lo (comb : List Nat) : Nat := match combLast comb with
  | none => 0
  | some l => l + 1
def lo2 (comb : List Nat) : Nat := match combLast comb with
  | none => 0
  | some l => l

def Canon (comb : List Nat) : Prop :=
  ∀ l, combLast comb = some l → ∀ g, g < l → c comb g = true → g ∈ comb

def added (comb : List Nat) : List Nat :=
  ((List.range' (lo comb) (n - lo comb)).filter fun g => !comb.contains g).filter (c comb)

def extentOf (comb : List Nat) : List Nat := comb ++ added n c comb

def children (comb : List Nat) : List (List Nat) :=
  ((List.range' (lo2 comb) (n - lo2 comb)).reverse.filter fun g => !(extentOf n c comb).contains g).map
    fun g => extentOf n c comb ++ [g]

def Closed (X : List Nat) : Prop := ∀ h, h < n → c X h = true → h ∈ X
def IsCl (X e : List Nat) : Prop := ∀ g, g ∈ e ↔ (g < n ∧ c X g = true)
def pre (X : List Nat) (k : Nat) : List Nat := X.filter fun g => decide (g < k)

variable {v n intention extIter c}

theorem mem_range'_sub {a g : Nat} : g ∈ List.range' a (n - a) ↔ a ≤ g ∧ g < n := by
  rw [List.mem_range'_1]
  refine and_congr_right fun h => ?_
  rcases Nat.le_total a n with han | han
  · rw [Nat.add_sub_cancel' han]
  · rw [Nat.sub_eq_zero_of_le han]
    exact iff_of_false (Nat.not_lt_of_le h) (Nat.not_lt_of_le (Nat.le_trans han h))

theorem mem_added {comb : List Nat} {g : Nat} :
    g ∈ added n c comb ↔ lo comb ≤ g ∧ g < n ∧ g ∉ comb ∧ c comb g = true := by
  simp only [added, List.mem_filter, mem_range'_sub, Bool.not_eq_true', List.contains_eq_mem,
    decide_eq_false_iff_not, and_assoc]

theorem combLast_mem {comb : List Nat} {l : Nat} (h : combLast comb = some l) : l ∈ comb :=
  List.mem_of_getLast? h

theorem combLast_concat (E : List Nat) (g : Nat) : combLast (E ++ [g]) = some g := by
  simp [combLast]

theorem lo_nil : lo [] = 0 := rfl

theorem lo_concat (E : List Nat) (g : Nat) : lo (E ++ [g]) = g + 1 := by
  simp [lo, combLast_concat]

theorem mem_pre {X : List Nat} {k g : Nat} : g ∈ pre X k ↔ g ∈ X ∧ g < k := by
  simp [pre, List.mem_filter]

theorem pre_sub {X Y : List Nat} {k k' : Nat} (h : ∀ z ∈ X, z < k → z ∈ Y) (hk : k ≤ k') :
    ∀ z ∈ pre X k, z ∈ pre Y k' := fun z hz =>
  mem_pre.mpr ⟨h z (mem_pre.mp hz).1 (mem_pre.mp hz).2, Nat.lt_of_lt_of_le (mem_pre.mp hz).2 hk⟩

theorem c_mono (hy : Hyp v n intention extIter c) {X Y : List Nat} (h : ∀ g ∈ X, g ∈ Y) :
    ∀ g, c X g = true → c Y g = true :=
  hy.c_trans X Y (fun g hg => hy.c_ext Y g (h g hg))

theorem c_eq_of_intention_eq (hy : Hyp v n intention extIter c) {X Y : List Nat} (hX : InR n X)
    (hY : InR n Y) (h : intention X = intention Y) {g : Nat} (hg : g < n) : c X g = c Y g := by
  -- `c Z g` is read off the machine's own filter, applied to the base list `[g]`
  have hc : ∀ Z, InR n Z → (c Z g = true ↔ g ∈ extIter (intention Z) [g]) := fun Z hZ => by
    rw [hy.ext_iter Z [g] hZ fun x hx => List.mem_singleton.mp hx ▸ hg, List.mem_filter]
    exact (and_iff_right List.mem_cons_self).symm
  rw [Bool.eq_iff_iff, hc X hX, hc Y hY, h]

theorem mem_extentOf (hy : Hyp v n intention extIter c) {comb : List Nat} (hr : InR n comb)
    (hcan : Canon c comb) : IsCl n c comb (extentOf n c comb) := by
  intro g
  simp only [extentOf, List.mem_append, mem_added]
  constructor
  · rintro (h | ⟨_, h2, _, h4⟩)
    · exact ⟨hr g h, hy.c_ext comb g h⟩
    · exact ⟨h2, h4⟩
  · rintro ⟨h1, h2⟩
    by_cases hg : g ∈ comb
    · exact Or.inl hg
    · right
      refine ⟨?_, h1, hg, h2⟩
      unfold lo
      cases hl : combLast comb with
      | none => exact Nat.zero_le g
      | some l =>
        -- below the last element the canonicity test would have found `g`
        apply Nat.succ_le_of_lt
        apply Nat.lt_of_le_of_ne (Nat.le_of_not_lt fun hgl => hg (hcan l hl g hgl h2))
        exact fun e => hg (e ▸ combLast_mem hl)

theorem inR_extentOf {comb : List Nat} (hr : InR n comb) : InR n (extentOf n c comb) :=
  List.forall_mem_append.mpr ⟨hr, fun _ h => (mem_added.mp h).2.1⟩

theorem extentOf_nodup {comb : List Nat} (hnd : comb.Nodup) : (extentOf n c comb).Nodup := by
  unfold extentOf
  rw [List.nodup_append]
  refine ⟨hnd, ?_, fun a ha b hb hab => (mem_added.mp (hab ▸ hb)).2.2.1 ha⟩
  exact ((List.nodup_range' (step := 1) Nat.zero_lt_one).sublist List.filter_sublist).sublist List.filter_sublist

theorem mem_children {comb x : List Nat} :
    x ∈ children n c comb ↔
      ∃ g, lo comb ≤ g ∧ g < n ∧ g ∉ extentOf n c comb ∧ x = extentOf n c comb ++ [g] := by
  -- the loop's bound `lo2 comb ≤ g` is `lo comb ≤ g` for `g` outside the extent, which holds the last
  -- element of `comb`
  have hlo : ∀ g, g ∉ extentOf n c comb → (lo2 comb ≤ g ↔ lo comb ≤ g) := by
    intro g hg
    unfold lo lo2
    cases hl : combLast comb with
    | none => exact Iff.rfl
    | some l =>
      exact ⟨fun h => Nat.lt_of_le_of_ne h fun e => hg (e ▸ List.mem_append_left _ (combLast_mem hl)),
        Nat.le_of_succ_le⟩
  simp only [children, List.mem_map, List.mem_filter, List.mem_reverse, mem_range'_sub,
    Bool.not_eq_true', List.contains_eq_mem, decide_eq_false_iff_not]
  constructor
  · rintro ⟨g, ⟨⟨h1, h2⟩, h3⟩, rfl⟩
    exact ⟨g, (hlo g h3).mp h1, h2, h3, rfl⟩
  · rintro ⟨g, h1, h2, h3, rfl⟩
    exact ⟨g, ⟨⟨(hlo g h3).mpr h1, h2⟩, h3⟩, rfl⟩

theorem range'_filter_inR (comb : List Nat) (a : Nat) :
    InR n ((List.range' a (n - a)).filter fun g => !comb.contains g) :=
  fun _ hg => (mem_range'_sub.mp (List.mem_filter.mp hg).1).2

/-- the canonicity test, in the words of `cboStep` -/
theorem lex_iff (hy : Hyp v n intention extIter c) {comb : List Nat} (hr : InR n comb) :
    (match combLast comb with
      | none => false
      | some l => !(extIter (intention comb) ((List.range l).filter fun g => !comb.contains g)).isEmpty) = false ↔
      Canon c comb := by
  unfold Canon
  cases hl : combLast comb with
  | none => exact iff_of_true rfl nofun
  | some l =>
    have hlr : InR n ((List.range l).filter fun g => !comb.contains g) := fun g hg =>
      Nat.lt_trans (List.mem_range.mp (List.mem_filter.mp hg).1) (hr l (combLast_mem hl))
    dsimp only
    rw [hy.ext_iter comb _ hr hlr]
    simp only [Bool.not_eq_false', List.isEmpty_iff, Option.some.injEq, forall_eq', List.filter_filter,
      List.filter_eq_nil_iff, List.mem_range, Bool.and_eq_true, Bool.not_eq_true', List.contains_eq_mem,
      decide_eq_false_iff_not, not_and, Classical.not_not]

theorem IsCl_closed (hy : Hyp v n intention extIter c) {X e : List Nat} (h : IsCl n c X e) :
    Closed n c e := fun g hg hcg =>
  (h g).mpr ⟨hg, hy.c_trans e X (fun x hx => ((h x).mp hx).2) g hcg⟩

def Done (n : Nat) (c : List Nat → Nat → Bool) (cmb : List Nat) (out : List (List Nat × List Nat)) : Prop :=
  ¬ Canon c cmb ∨ ∃ p ∈ out, IsCl n c cmb p.2

/-- an emitted record `(comb, extent)`.  The last clause: whenever the extent is the closure of its members
    below `k`, `lo comb ≤ k`, so that `Inv.kids` speaks of the child by every such `k` outside the extent. -/
def GoodOut (n : Nat) (c : List Nat → Nat → Bool) (p : List Nat × List Nat) : Prop :=
  InR n p.1 ∧ p.1.Nodup ∧ Canon c p.1 ∧ p.2 = extentOf n c p.1 ∧
    (∀ k, (∀ g ∈ p.2, c (pre p.2 k) g = true) → lo p.1 ≤ k)

def StackOk (n : Nat) (c : List Nat → Nat → Bool) (comb : List Nat) : Prop :=
  InR n comb ∧ comb.Nodup ∧ (comb = [] ∨ ∃ E g, comb = E ++ [g] ∧ Closed n c E ∧ g ∉ E)

structure Inv (n : Nat) (c : List Nat → Nat → Bool) (s : CboSt ι) : Prop where
  stk : ∀ comb ∈ s.stack, StackOk n c comb
  outGood : ∀ p ∈ s.out, GoodOut n c p
  kids : ∀ p ∈ s.out, ∀ g, lo p.1 ≤ g → g < n → g ∉ p.2 →
    (p.2 ++ [g]) ∈ s.stack ∨ Done n c (p.2 ++ [g]) s.out
  root : [] ∈ s.stack ∨ Done n c [] s.out
  foundOk : ∀ k ∈ s.intentsFound, ∃ p ∈ s.out, intention p.1 = k
  extF : s.extentsFound = []

theorem pending_pop {stack rest kids : List (List Nat)} {comb x : List Nat}
    {out out' : List (List Nat × List Nat)} (hst : stack = comb :: rest) (hout : ∀ p ∈ out, p ∈ out')
    (hd : Done n c comb out') (h : x ∈ stack ∨ Done n c x out) :
    x ∈ kids ++ rest ∨ Done n c x out' := by
  rcases h with h | hn | ⟨p, hp, hcl⟩
  · rcases List.mem_cons.mp (hst ▸ h) with rfl | h
    · exact Or.inr hd
    · exact Or.inl (List.mem_append_right _ h)
  · exact Or.inr (Or.inl hn)
  · exact Or.inr (Or.inr ⟨p, hout p hp, hcl⟩)

/-- the last clause: the extent of a canonical `E ++ [g]` is not the closure of its members below any `k ≤ g` -/
theorem goodOut_of_stackOk (hy : Hyp v n intention extIter c) {comb : List Nat}
    (hs : StackOk n c comb) (hcan : Canon c comb) : GoodOut n c (comb, extentOf n c comb) := by
  obtain ⟨hr, hnd, hform⟩ := hs
  refine ⟨hr, hnd, hcan, rfl, ?_⟩
  intro k hk
  rcases hform with rfl | ⟨E, g, rfl, hE, hgE⟩
  · exact Nat.zero_le k
  · rw [lo_concat]
    apply Nat.succ_le_of_lt
    apply Nat.lt_of_not_le
    intro hkg
    -- otherwise `g` is reached from the part of the extent below `g`, which lies in the closed `E`
    have hcl := mem_extentOf hy hr hcan
    have hge : g ∈ extentOf n c (E ++ [g]) := List.mem_append_left _ (List.mem_append_right _ List.mem_cons_self)
    have hsub : ∀ x ∈ pre (extentOf n c (E ++ [g])) k, c E x = true := by
      intro x hx
      obtain ⟨hxe, hxk⟩ := mem_pre.mp hx
      have hxc := hcan g (combLast_concat E g) x (Nat.lt_of_lt_of_le hxk hkg) ((hcl x).mp hxe).2
      rcases List.mem_append.mp hxc with hxE | hxg
      · exact hy.c_ext E x hxE
      · exact absurd (Nat.lt_of_lt_of_le (List.mem_singleton.mp hxg ▸ hxk) hkg) (Nat.lt_irrefl g)
    exact hgE (hE g (hr g (List.mem_append_right _ List.mem_cons_self)) (hy.c_trans _ E hsub g (hk g hge)))

theorem stackOk_child (hy : Hyp v n intention extIter c) {comb x : List Nat} (hs : StackOk n c comb)
    (hcan : Canon c comb) (hx : x ∈ children n c comb) : StackOk n c x := by
  obtain ⟨g, _, hgn, hge, rfl⟩ := mem_children.mp hx
  exact ⟨List.forall_mem_append.mpr ⟨inR_extentOf hs.1, List.forall_mem_singleton.mpr hgn⟩,
    ListAux.nodup_append_singleton.mpr ⟨hge, extentOf_nodup hs.2.1⟩,
    Or.inr ⟨_, g, rfl, IsCl_closed hy (mem_extentOf hy hs.1 hcan), hge⟩⟩

theorem sound (hy : Hyp v n intention extIter c) {s : CboSt ι}
    (hinv : Inv (intention := intention) n c s) (p : List Nat × List Nat) (hp : p ∈ s.out) :
    InR n p.2 ∧ p.2.Nodup ∧ Closed n c p.2 := by
  obtain ⟨hpr, hpnd, hpcan, hpe, _⟩ := hinv.outGood p hp
  have hcl := mem_extentOf hy hpr hpcan
  rw [← hpe] at hcl
  exact ⟨fun g hg => ((hcl g).mp hg).1, hpe ▸ extentOf_nodup hpnd, IsCl_closed hy hcl⟩

/-- the closure of every initial part of a closed set `A` is emitted: the record for `m + 1` is the one for `m`, or
    its child by `m` when `m ∈ A` is new (canonical, since below `m` the closure adds nothing that is not in `A`) -/
theorem prefix_emitted (hy : Hyp v n intention extIter c) {s : CboSt ι}
    (hinv : Inv (intention := intention) n c s) (hst : s.stack = []) {A : List Nat} (hA : InR n A)
    (hcl : Closed n c A) : ∀ m, ∃ p ∈ s.out, IsCl n c (pre A m) p.2 := by
  intro m
  induction m with
  | zero =>
    rcases hinv.root with h | h | ⟨p, hp, hpc⟩
    · rw [hst] at h; cases h
    · exact absurd (fun l hl => by cases hl) h
    · exact ⟨p, hp, by rwa [show pre A 0 = [] from List.filter_eq_nil_iff.mpr fun g _ => by simp]⟩
  | succ m ih =>
    obtain ⟨p, hp, hpc⟩ := ih
    have hAp : ∀ z ∈ A, z < m → z ∈ p.2 := fun z hz hzm =>
      (hpc z).mpr ⟨hA z hz, hy.c_ext _ z (mem_pre.mpr ⟨hz, hzm⟩)⟩
    by_cases hm : m ∈ A ∧ m ∉ p.2
    · have hsub : ∀ x ∈ pre A (m + 1), x ∈ p.2 ++ [m] := fun x hx => by
        obtain ⟨h1, h2⟩ := mem_pre.mp hx
        rcases Nat.lt_or_eq_of_le (Nat.le_of_lt_succ h2) with h | rfl
        · exact List.mem_append_left _ (hAp x h1 h)
        · exact List.mem_append_right _ List.mem_cons_self
      have hgen : ∀ y ∈ p.2 ++ [m], c (pre A (m + 1)) y = true := fun y hy' => by
        rcases List.mem_append.mp hy' with h | h
        · exact c_mono hy (pre_sub (fun z hz _ => hz) (Nat.le_succ m)) y ((hpc y).mp h).2
        · exact hy.c_ext _ y (mem_pre.mpr
            ⟨List.mem_singleton.mp h ▸ hm.1, List.mem_singleton.mp h ▸ Nat.lt_succ_self m⟩)
      have hlo : lo p.1 ≤ m := (hinv.outGood p hp).2.2.2.2 m fun g hg =>
        c_mono hy (pre_sub hAp (Nat.le_refl m)) g ((hpc g).mp hg).2
      have hcanon : Canon c (p.2 ++ [m]) := by
        intro l hl g hgl hcg
        rw [combLast_concat] at hl
        cases hl
        exact List.mem_append_left _ (hAp g (hcl g (Nat.lt_trans hgl (hA m hm.1))
          (c_mono hy (fun x hx => (mem_pre.mp hx).1) g (hy.c_trans _ _ hgen g hcg))) hgl)
      rcases hinv.kids p hp m hlo (hA m hm.1) hm.2 with h | h | ⟨q, hq, hqc⟩
      · rw [hst] at h; cases h
      · exact absurd hcanon h
      · exact ⟨q, hq, fun g => (hqc g).trans
          (and_congr_right fun _ => ⟨hy.c_trans _ _ hgen g, c_mono hy hsub g⟩)⟩
    · refine ⟨p, hp, fun g => (hpc g).trans (and_congr_right fun _ =>
        ⟨c_mono hy (pre_sub (fun z hz _ => hz) (Nat.le_succ m)) g, hy.c_trans _ _ (fun x hx => ?_) g⟩)⟩
      obtain ⟨h1, h2⟩ := mem_pre.mp hx
      rcases Nat.lt_or_eq_of_le (Nat.le_of_lt_succ h2) with h | rfl
      · exact hy.c_ext _ x (mem_pre.mpr ⟨h1, h⟩)
      · exact ((hpc x).mp (Classical.not_not.mp fun hxp => hm ⟨h1, hxp⟩)).2

/-- Iterations that suffice to work off a stack; the bound behind `cboFuel`.  A combination pushed by the
    emission of `comb` ends in an object `g ≥ lo comb`, so its `lo` is larger and `d = n - lo` strictly
    decreases along pushes, and an emission pushes at most `n` combinations: the one iteration and what is
    pushed weigh at most `1 + n * (n + 1) ^ d ≤ (n + 1) ^ (d + 1)`, the weight of the combination popped. -/
def due (n : Nat) : List (List Nat) → Nat
  | [] => 0
  | x :: xs => (n + 1) ^ (n - lo x + 1) + due n xs

theorem due_append (n : Nat) (a b : List (List Nat)) : due n (a ++ b) = due n a + due n b := by
  induction a with
  | nil => exact (Nat.zero_add _).symm
  | cons x xs ih => rw [List.cons_append, due, due, ih, Nat.add_assoc]

theorem due_le {D : Nat} {l : List (List Nat)} (h : ∀ x ∈ l, n - lo x < D) :
    due n l ≤ l.length * (n + 1) ^ D := by
  induction l with
  | nil => exact Nat.zero_le _
  | cons x xs ih =>
    rw [due, List.length_cons, Nat.succ_mul, Nat.add_comm]
    exact Nat.add_le_add (ih fun y hy => h y (List.mem_cons_of_mem _ hy))
      (Nat.pow_le_pow_right (Nat.succ_pos n) (h x List.mem_cons_self))

theorem due_push_lt {comb : List Nat} {kids : List (List Nat)} (hk : ∀ x ∈ kids, x ∈ children n c comb)
    (hlen : kids.length ≤ n) (rest : List (List Nat)) : due n (kids ++ rest) < due n (comb :: rest) := by
  have hd : ∀ x ∈ kids, n - lo x < n - lo comb := fun x hx => by
    obtain ⟨g, hg, hgn, _, rfl⟩ := mem_children.mp (hk x hx)
    rw [lo_concat]
    exact Nat.sub_lt_sub_left (Nat.lt_of_le_of_lt hg hgn) (Nat.lt_succ_of_le hg)
  rw [due_append]
  refine Nat.add_lt_add_right (Nat.lt_of_le_of_lt (Nat.le_trans (due_le hd) (Nat.mul_le_mul_right _ hlen)) ?_) _
  rw [Nat.pow_succ, Nat.mul_add_one, Nat.mul_comm]
  exact Nat.lt_add_of_pos_right (Nat.pow_pos (Nat.succ_pos n))

theorem due_init_lt (ι : Type) : due n (cboInit ι).stack < cboFuel n := by
  refine Nat.lt_succ_of_le ?_
  show (n + 1) ^ (n - lo [] + 1) + 0 ≤ _
  exact Nat.le_refl _

end

section
variable {ι : Type} [BEq ι]
variable {v : CboVariant} {n : Nat} {intention : List Nat → ι} {extIter : ι → List Nat → List Nat}
variable {c : List Nat → Nat → Bool}

theorem cboLoop_induct {P : CboSt ι → Prop}
    (step : ∀ (s : CboSt ι) (comb : List Nat) (rest : List (List Nat)), P s → s.stack = comb :: rest →
      P (cboStep v n intention extIter comb { s with stack := rest })) :
    ∀ (f : Nat) (s : CboSt ι) (out : List (List Nat × List Nat)), P s →
      cboLoop v n intention extIter f s = .ok out →
      ∃ s' : CboSt ι, P s' ∧ s'.stack = [] ∧ out = s'.out.reverse := by
  intro f
  induction f with
  | zero => intro s out _ h; cases h
  | succ f ih =>
    intro s out hP h
    unfold cboLoop at h
    split at h
    · rename_i hs
      exact ⟨s, hP, hs, (Except.ok.inj h).symm⟩
    · rename_i comb rest hs
      exact ih _ out (step s comb rest hP hs) h

end

section
variable {ι : Type} [BEq ι] [LawfulBEq ι]
variable {v : CboVariant} {n : Nat} {intention : List Nat → ι} {extIter : ι → List Nat → List Nat}
variable {c : List Nat → Nat → Bool}

theorem cboStep_cases (hy : Hyp v n intention extIter c) {comb : List Nat} (hr : InR n comb)
    (rest : List (List Nat)) (fd : List ι) (ef : List (List Nat)) (out : List (List Nat × List Nat)) :
    ((intention comb ∈ fd ∨ ¬ Canon c comb ∨ extentOf n c comb ∈ ef) ∧
      cboStep v n intention extIter comb ⟨rest, fd, ef, out⟩ = ⟨rest, fd, ef, out⟩)
    ∨ (Canon c comb ∧
      cboStep v n intention extIter comb ⟨rest, fd, ef, out⟩ =
        ⟨(children n c comb).reverse ++ rest, if v == .fbarray then intention comb :: fd else fd, ef,
          (comb, extentOf n c comb) :: out⟩) := by
  unfold cboStep
  dsimp only
  -- what is left of the body is `extentOf`, `children` and the three tests up to unfolding (the `match`es of `lo`, `lo2`
  -- are other constants than `cboStep`'s, so no `rw` finds them): each `if_pos`/`if_neg` is checked against it as it is
  rw [hy.ext_iter comb _ hr (range'_filter_inR comb _)]
  by_cases h1 : (v == .fbarray && fd.contains (intention comb)) = true
  · exact Or.inl ⟨Or.inl (List.contains_iff_mem.mp (Bool.and_eq_true_iff.mp h1).2), if_pos h1⟩
  by_cases h2 : Canon c comb
  · have n2 := Bool.eq_false_iff.mp ((lex_iff hy hr).mpr h2)
    by_cases h3 : (v == .objectwise && ef.contains (extentOf n c comb)) = true
    · exact Or.inl ⟨Or.inr (Or.inr (List.contains_iff_mem.mp (Bool.and_eq_true_iff.mp h3).2)),
        (if_neg h1).trans ((if_neg n2).trans (if_pos h3))⟩
    · exact Or.inr ⟨h2, (if_neg h1).trans ((if_neg n2).trans (if_neg h3))⟩
  · exact Or.inl ⟨Or.inr (Or.inl h2), (if_neg h1).trans (if_pos (Bool.of_not_eq_false (mt (lex_iff hy hr).mp h2)))⟩

theorem due_step (hy : Hyp v n intention extIter c) {comb : List Nat} (hr : InR n comb)
    (rest : List (List Nat)) (fd : List ι) (ef : List (List Nat)) (out : List (List Nat × List Nat)) :
    due n (cboStep v n intention extIter comb ⟨rest, fd, ef, out⟩).stack < due n (comb :: rest) := by
  rcases cboStep_cases hy hr rest fd ef out with ⟨_, h⟩ | ⟨_, h⟩
  · rw [h]
    exact due_push_lt (c := c) (kids := []) (fun _ hx => nomatch hx) (Nat.zero_le n) rest
  · rw [h]
    refine due_push_lt (fun x hx => List.mem_reverse.mp hx) ?_ rest
    rw [List.length_reverse, children, List.length_map]
    exact Nat.le_trans (List.length_filter_le _ _) (by simp)

theorem inv_init : Inv (intention := intention) n c (cboInit ι) := by
  refine ⟨?_, fun _ hp => (by cases hp), fun _ hp => (by cases hp), Or.inl List.mem_cons_self,
    fun _ hk => (by cases hk), rfl⟩
  intro comb hc
  rw [List.mem_singleton.mp hc]
  exact ⟨fun _ h => (nomatch h), List.nodup_nil, Or.inl rfl⟩

theorem inv_step (hy : Hyp v n intention extIter c) {s : CboSt ι} {comb : List Nat} {rest : List (List Nat)}
    (hinv : Inv (intention := intention) n c s) (hst : s.stack = comb :: rest) :
    Inv (intention := intention) n c (cboStep v n intention extIter comb { s with stack := rest }) := by
  have hso : StackOk n c comb := hinv.stk comb (hst ▸ List.mem_cons_self)
  have hrest : ∀ x ∈ rest, StackOk n c x := fun x hx => hinv.stk x (hst ▸ List.mem_cons_of_mem _ hx)
  rcases cboStep_cases hy hso.1 rest s.intentsFound s.extentsFound s.out with ⟨hcase, heq⟩ | ⟨hcan, heq⟩
  · -- skipped: the popped combination is dealt with already
    rw [heq]
    have hd : Done n c comb s.out := by
      rcases hcase with hm | hnc | hm
      · obtain ⟨p, hp, hpk⟩ := hinv.foundOk _ hm
        obtain ⟨hpr, _, hpcan, hpe, _⟩ := hinv.outGood p hp
        refine Or.inr ⟨p, hp, fun g => ?_⟩
        rw [hpe, mem_extentOf hy hpr hpcan g]
        exact and_congr_right fun hg => by rw [c_eq_of_intention_eq hy hpr hso.1 hpk hg]
      · exact Or.inl hnc
      · exact absurd (hinv.extF ▸ hm) List.not_mem_nil
    exact ⟨hrest, hinv.outGood,
      fun p hp g h1 h2 h3 => pending_pop (kids := []) hst (fun _ h => h) hd (hinv.kids p hp g h1 h2 h3),
      pending_pop (kids := []) hst (fun _ h => h) hd hinv.root, hinv.foundOk, hinv.extF⟩
  · rw [heq]
    have hcl := mem_extentOf hy hso.1 hcan
    have hout : ∀ p ∈ s.out, p ∈ (comb, extentOf n c comb) :: s.out := fun p hp => List.mem_cons_of_mem _ hp
    have hd : Done n c comb ((comb, extentOf n c comb) :: s.out) := Or.inr ⟨_, List.mem_cons_self, hcl⟩
    refine ⟨?_, ?_, ?_, pending_pop hst hout hd hinv.root, ?_, hinv.extF⟩
    · intro x hx
      rcases List.mem_append.mp hx with hx | hx
      · exact stackOk_child hy hso hcan (List.mem_reverse.mp hx)
      · exact hrest x hx
    · intro p hp
      rcases List.mem_cons.mp hp with rfl | hp
      · exact goodOut_of_stackOk hy hso hcan
      · exact hinv.outGood p hp
    · intro p hp g h1 h2 h3
      rcases List.mem_cons.mp hp with rfl | hp
      · exact Or.inl (List.mem_append_left _ (List.mem_reverse.mpr (mem_children.mpr ⟨g, h1, h2, h3, rfl⟩)))
      · exact pending_pop hst hout hd (hinv.kids p hp g h1 h2 h3)
    · intro k hk
      have hold : k ∈ s.intentsFound → ∃ p ∈ (comb, extentOf n c comb) :: s.out, intention p.1 = k :=
        fun hk => (hinv.foundOk k hk).imp fun p hp => ⟨hout p hp.1, hp.2⟩
      simp only at hk
      split at hk
      · rcases List.mem_cons.mp hk with rfl | hk
        · exact ⟨_, List.mem_cons_self, rfl⟩
        · exact hold hk
      · exact hold hk

theorem loop_inv (hy : Hyp v n intention extIter c) :
    ∀ (f : Nat) (s : CboSt ι) (out : List (List Nat × List Nat)),
      Inv (intention := intention) n c s → cboLoop v n intention extIter f s = .ok out →
      ∃ s' : CboSt ι, Inv (intention := intention) n c s' ∧ s'.stack = [] ∧ out = s'.out.reverse :=
  cboLoop_induct fun _ _ _ hinv hs => inv_step hy hinv hs

theorem complete (hy : Hyp v n intention extIter c) {s : CboSt ι}
    (hinv : Inv (intention := intention) n c s) (hst : s.stack = [])
    (A : List Nat) (hA : InR n A) (hcl : Closed n c A) :
    ∃ p ∈ s.out, ∀ g, g ∈ p.2 ↔ g ∈ A :=
  (prefix_emitted hy hinv hst hA hcl n).imp fun _ hp => ⟨hp.1, fun g => (hp.2 g).trans
    ⟨fun h => hcl g h.1 (c_mono hy (fun _ hx => (mem_pre.mp hx).1) g h.2),
      fun hg => ⟨hA g hg, hy.c_ext _ g (mem_pre.mpr ⟨hg, hA g hg⟩)⟩⟩⟩

end
end Fca.CbOM
