/-
  `order_extents_comparison`: translating the cover relation of the topologically sorted copy back through
  `topo_to_id_map` gives the cover relation of the original list (covers are equivariant under re-listing).
-/
import Fca.Lemmas.ConstructBasic
namespace Fca.Construct
open Fca.Spec

/-- facts about a permutation `idToTopo` of `range n` and its inverse `t ↦ idToTopo.idxOf t` -/
structure PermOK (n : Nat) (idToTopo : List Nat) : Prop where
  perm : idToTopo.Perm (List.range n)

namespace PermOK
variable {n : Nat} {p : List Nat}

theorem length (h : PermOK n p) : p.length = n := ListAux.length_of_perm_range h.perm
theorem nodup (h : PermOK n p) : p.Nodup := h.perm.nodup_iff.mpr List.nodup_range
theorem mem_iff (h : PermOK n p) {t : Nat} : t ∈ p ↔ t < n := ListAux.mem_of_perm_range h.perm

theorem inv_lt (h : PermOK n p) {t : Nat} (ht : t < n) : p.idxOf t < n :=
  h.length ▸ List.idxOf_lt_length_of_mem (h.mem_iff.mpr ht)

theorem get_inv (h : PermOK n p) {t : Nat} (ht : t < n) : p.getD (p.idxOf t) 0 = t :=
  ListAux.getD_idxOf_self p t 0 (h.mem_iff.mpr ht)

theorem get_lt (h : PermOK n p) {i : Nat} (hi : i < n) : p.getD i 0 < n := ListAux.getD_lt_of_perm_range h.perm hi

theorem inv_get (h : PermOK n p) {i : Nat} (hi : i < n) : p.idxOf (p.getD i 0) = i :=
  ListAux.idxOf_getD_of_perm_range h.perm hi

theorem inv_inj (h : PermOK n p) {s t : Nat} (hs : s < n) (ht : t < n) (e : p.idxOf s = p.idxOf t) :
    s = t := by
  rw [← h.get_inv hs, ← h.get_inv ht, e]

end PermOK

def topoList (cs : List Ext) (idToTopo : List Nat) : List Ext :=
  (List.range cs.length).map fun t => cs.getD (idToTopo.idxOf t) []

theorem ssubAt_topoList (cs : List Ext) {p : List Nat} {s t : Nat} (hs : s < cs.length) (ht : t < cs.length) :
    ssubAt (topoList cs p) s t = ssubAt cs (p.idxOf s) (p.idxOf t) := by
  unfold ssubAt topoList
  rw [ListAux.getD_map_range _ _ _ _ hs, ListAux.getD_map_range _ _ _ _ ht]

theorem orderExtents_keys (cs : List Ext) (p : List Nat) (hp : PermOK cs.length p)
    (cov : Nat → List Nat) :
    ((orderExtentsComparison cs.length p cov).map (·.1)).Perm (List.range cs.length) := by
  have : (orderExtentsComparison cs.length p cov).map (·.1) = (List.range cs.length).map p.idxOf := by
    rw [orderExtentsComparison, List.map_map]; rfl
  rw [this]
  have h := ListAux.map_idxOf_perm_range hp.perm List.nodup_range
  rwa [List.length_range] at h

theorem orderExtents_covers (cs : List Ext) (p : List Nat) (hp : PermOK cs.length p) {i : Nat}
    (hi : i < cs.length) :
    (dictGet (orderExtentsComparison cs.length p (Spec.covers (topoList cs p))) i).Nodup ∧
    SameSetC (dictGet (orderExtentsComparison cs.length p (Spec.covers (topoList cs p))) i)
      (Spec.covers cs i) := by
  have hτ := hp.get_lt hi
  -- the keys are distinct, and `i` is the key of the entry made at the sorted position `τ i`
  have hlook : (orderExtentsComparison cs.length p (Spec.covers (topoList cs p))).lookup i
      = some ((Spec.covers (topoList cs p) (p.getD i 0)).map fun t => p.idxOf t) :=
    ListAux.get_of_mem (get := fun d k => d.lookup k) (fun _ _ _ _ => ListAux.lookup_cons_ite ..)
      ((orderExtents_keys cs p hp _).nodup_iff.mpr List.nodup_range)
      (List.mem_map.mpr ⟨_, List.mem_range.mpr hτ, Prod.ext (hp.inv_get hi) rfl⟩)
  have hlenT : (topoList cs p).length = cs.length := by rw [topoList, List.length_map, List.length_range]
  rw [dictGet, hlook, Option.getD_some, Spec.covers, hlenT]
  exact ⟨ListAux.nodup_map_of_injOn nodup_coversBy fun a ha b hb =>
      hp.inv_inj (mem_coversBy.mp ha).1 (mem_coversBy.mp hb).1,
    fun _ => mem_map_coversBy_relist (fun _ => hp.inv_lt) (fun _ => hp.get_lt) (fun _ => hp.inv_get)
      (fun _ _ => ssubAt_topoList cs) hi⟩

end Fca.Construct
