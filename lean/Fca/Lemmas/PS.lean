/-
  The pattern structures of `Model/PS` (C13).  The loops of the interval and set structures over object indexes
  (`filterLoop`, `pyIntLoop`, `setIntLoop`) read their values as `npTake` does and then apply a pure function
  (`…_eq_take`, errors included); that the two interval engines agree on every structure with at least one object follows by
  comparing the pure parts (with none they differ: `C13.numpy_zero_rows_differ`).  `MostSpecific` is the Galois property the three `intention_i` are shown to have.
-/
import Fca.Model.PS
import Fca.Spec.PS
import Fca.Lemmas.BinTable
import Fca.Lemmas.ListAux
import Fca.Lemmas.SharedLoops
namespace Fca

/-- the count of `to_bin_attr_extents` of the interval structures: of `a` left and `b` right ends one each is skipped,
    and the all- and the no-object attribute are added -/
theorem interval_bin_count {a b : Nat} (ha : 0 < a) (hb : 0 < b) : a + b = 1 + (a - 1) + (b - 1) + 1 := by
  rw [Nat.add_comm 1, Nat.sub_add_cancel ha, Nat.add_assoc, Nat.sub_add_cancel hb]

end Fca

namespace Fca.PS

theorem npTake_eq {α} (col : List α) (dflt : α) (idx : List Nat) (h : ∀ i ∈ idx, i < col.length) :
    npTake col idx = .ok (idx.map fun i => col.getD i dflt) := by
  induction idx with
  | nil => rfl
  | cons i is ih =>
    have hi : i < col.length := h i List.mem_cons_self
    rw [npTake, List.getElem?_eq_getElem hi, ih (fun x hx => h x (List.mem_cons_of_mem _ hx)), List.map_cons,
      ListAux.getD_eq_get col i dflt hi]

theorem npTake_err {α} (col : List α) (idx : List Nat) (h : ∃ i ∈ idx, col.length ≤ i) :
    npTake col idx = .error .IndexError := by
  induction idx with
  | nil => obtain ⟨g, hg, _⟩ := h; cases hg
  | cons i is ih =>
    rw [npTake]
    by_cases hi : i < col.length
    · obtain ⟨x, hx, hxl⟩ := h
      rcases List.mem_cons.mp hx with rfl | hx'
      · exact absurd hi (Nat.not_lt.mpr hxl)
      · rw [List.getElem?_eq_getElem hi, ih ⟨x, hx', hxl⟩]
    · rw [List.getElem?_eq_none (Nat.not_lt.mp hi)]

theorem data_ne_nil_of_inRange {α} {data : List α} {A : List Nat} (hne : A ≠ [])
    (hA : ∀ x ∈ A, x < data.length) : data ≠ [] := by
  obtain ⟨g, _, rfl⟩ := List.exists_cons_of_ne_nil hne
  exact List.ne_nil_of_length_pos (Nat.zero_lt_of_lt (hA g List.mem_cons_self))

theorem npTake_map {α β} (f : α → β) (col : List α) (idx : List Nat) :
    npTake (col.map f) idx = (npTake col idx).map (List.map f) := by
  induction idx with
  | nil => rfl
  | cons i is ih =>
    rw [npTake, npTake, ih, List.getElem?_map]
    cases col[i]? with
    | none => rfl
    | some v => cases npTake col is <;> rfl

theorem filterLoop_eq_take {α} (data : List α) (p : α → Bool) (gs : List Nat) :
    filterLoop data p gs = (npTake data gs).map fun vs => zipFilter gs (vs.map p) := by
  induction gs with
  | nil => rfl
  | cons g gs ih =>
    rw [filterLoop, npTake, ih]
    cases data[g]? with
    | none => rfl
    | some v =>
      cases npTake data gs with
      | error e => rfl
      | ok vs =>
        show Except.ok (if p v then _ else _) = Except.ok (zipFilter _ (p v :: _))
        cases p v <;> rfl

theorem pyIntLoop_eq_take (data : List Iv) (acc : Iv) (gs : List Nat) :
    pyIntLoop data acc gs = (npTake data gs).map fun vs => vs.foldl hullStep acc := by
  induction gs generalizing acc with
  | nil => rfl
  | cons g gs ih =>
    obtain ⟨mn, mx⟩ := acc
    rw [pyIntLoop, npTake]
    cases data[g]? with
    | none => rfl
    | some v =>
      obtain ⟨vmin, vmax⟩ := v
      simp only [ih]
      cases npTake data gs <;> rfl

theorem setIntLoop_eq_take (data : List VSet) (acc : VSet) (gs : List Nat) :
    setIntLoop data acc gs = (npTake data gs).map fun rows => rows.foldl setUnion acc := by
  induction gs generalizing acc with
  | nil => rfl
  | cons g gs ih =>
    rw [setIntLoop, npTake]
    cases data[g]? with
    | none => rfl
    | some row =>
      simp only [ih]
      cases npTake data gs <;> rfl

theorem setIntLoop_err (data : List VSet) (gs : List Nat) (h : ∃ g ∈ gs, data.length ≤ g) (acc : VSet) :
    setIntLoop data acc gs = .error .IndexError := by
  rw [setIntLoop_eq_take, npTake_err data gs h]; rfl

theorem filterLoop_eq {α} (data : List α) (p : α → Bool) (bs : List Nat)
    (h : ∀ g ∈ bs, g < data.length) :
    filterLoop data p bs = .ok (bs.filter fun g => (data[g]?).any p) := by
  induction bs with
  | nil => rfl
  | cons g gs ih =>
    have hg : g < data.length := h g List.mem_cons_self
    simp only [filterLoop, List.getElem?_eq_getElem hg, ih (fun x hx => h x (List.mem_cons_of_mem _ hx)),
      List.filter_cons, Option.any_some]

def IsMin (xs : List Int) (m : Int) : Prop := m ∈ xs ∧ ∀ y ∈ xs, m ≤ y
def IsMax (xs : List Int) (m : Int) : Prop := m ∈ xs ∧ ∀ y ∈ xs, y ≤ m

theorem IsMin.unique {xs ys : List Int} {m m' : Int} (h : IsMin xs m) (h' : IsMin ys m')
    (hmem : ∀ a, a ∈ xs ↔ a ∈ ys) : m = m' :=
  Int.le_antisymm (h.2 m' ((hmem m').mpr h'.1)) (h'.2 m ((hmem m).mp h.1))

theorem IsMax.unique {xs ys : List Int} {m m' : Int} (h : IsMax xs m) (h' : IsMax ys m')
    (hmem : ∀ a, a ∈ xs ↔ a ∈ ys) : m = m' :=
  Int.le_antisymm (h'.2 m ((hmem m).mp h.1)) (h.2 m' ((hmem m').mpr h'.1))

theorem pyMin_ok {xs : List Int} (hne : xs ≠ []) : ∃ m, pyMin xs = .ok m ∧ IsMin xs m := by
  obtain ⟨x, xs, rfl⟩ := List.exists_cons_of_ne_nil hne
  exact ⟨_, rfl, foldl_pick_least Int.le_refl Int.le_trans pickMin_spec xs x⟩

theorem pyMax_ok {xs : List Int} (hne : xs ≠ []) : ∃ m, pyMax xs = .ok m ∧ IsMax xs m := by
  obtain ⟨x, xs, rfl⟩ := List.exists_cons_of_ne_nil hne
  exact ⟨_, rfl, foldl_pick_least (le := (· ≥ ·)) Int.le_refl (fun h h' => Int.le_trans h' h) pickMax_spec xs x⟩

theorem npMin_eq_pyMin (xs : List Int) : npMin xs = pyMin xs := by
  cases xs with
  | nil => rfl
  | cons x xs => exact congrArg (fun f => Except.ok (xs.foldl f x)) pickMin_eq_min.symm

theorem npMax_eq_pyMax (xs : List Int) : npMax xs = pyMax xs := by
  cases xs with
  | nil => rfl
  | cons x xs => exact congrArg (fun f => Except.ok (xs.foldl f x)) pickMax_eq_max.symm

/-- what the interval `intention_i` answers for the values it has read -/
def ivHull : List Iv → Option Iv
  | [] => none
  | v :: vs => some (vs.foldl hullStep v)

theorem pyIntentionI_eq_take (data : List Iv) (objs : List Nat) :
    pyIntentionI data objs = (npTake data objs).map ivHull := by
  cases objs with
  | nil => rfl
  | cons g0 rest =>
    simp only [pyIntentionI, List.length_cons, Nat.add_one_ne_zero, ↓reduceIte, pyIntLoop_eq_take, npTake]
    cases data[g0]? with
    | none => rfl
    | some v0 => cases npTake data rest <;> rfl

theorem pyIntentionI_err (data : List Iv) (objs : List Nat) (h : ∃ g ∈ objs, data.length ≤ g) :
    pyIntentionI data objs = .error .IndexError := by
  rw [pyIntentionI_eq_take, npTake_err data objs h]; rfl

theorem npIntentionI_eq_py (data : List Iv) (objs : List Nat) :
    npIntentionI data objs = pyIntentionI data objs := by
  rw [pyIntentionI_eq_take]
  cases objs with
  | nil => rfl
  | cons g0 rest =>
    by_cases hd : data = []
    · subst hd; rfl
    · simp only [npIntentionI, List.length_cons, Nat.add_one_ne_zero, ↓reduceIte,
        List.isEmpty_eq_false_iff.mpr hd, Bool.false_eq_true, npTake_map]
      simp only [npTake]
      cases data[g0]? with
      | none => rfl
      | some v0 =>
        cases npTake data rest with
        | error e => rfl
        | ok vs =>
          -- numpy folds `min` over the left ends and `max` over the right ends it has read: the running hull, by components
          show Except.ok (some (_, _)) = Except.ok (some (vs.foldl hullStep v0))
          rw [foldl_hullStep, pickMin_eq_min, pickMax_eq_max]

theorem mem_ext {V D} (covers : D → V → Bool) (data : List V) (d : D) (base : List Nat) (g : Nat) :
    g ∈ Spec.PS.ext covers data d base ↔ g ∈ base ∧ (data[g]?).any (covers d) = true :=
  List.mem_filter

theorem ext_eq_nil {V D} {covers : D → V → Bool} {d : D} (h : ∀ v, covers d v = false) (data : List V)
    (base : List Nat) : Spec.PS.ext covers data d base = [] := by
  apply List.filter_eq_nil_iff.mpr
  intro g _
  cases data[g]? with
  | none => exact Bool.false_ne_true
  | some v => rw [Option.any_some, h v]; exact Bool.false_ne_true

/-- the shape of every `extension_i` but numpy's: the comprehension over the base (default: all objects) -/
theorem filterLoop_base_eq_ext {V D} (covers : D → V → Bool) (data : List V) (d : D) (base : Option (List Nat))
    (hb : ∀ bs, base = some bs → ∀ g ∈ bs, g < data.length) :
    filterLoop data (covers d) (match (generalizing := false) base with | none => List.range data.length | some bs => bs)
      = .ok (Spec.PS.ext covers data d (base.getD (List.range data.length))) := by
  have := filterLoop_eq data (covers d) _ (OptIdx.getD_lt hb)
  cases base <;> exact this

theorem ivUnpack_eq_sem (d : IvDesc) :
    ivUnpack d = match Spec.PS.ivDescSem d with | some s => .ok s | none => .error .ValueError := by
  match d with
  | .none | .num _ | .seq [] | .seq [_] | .seq [_, _] | .seq (_ :: _ :: _ :: _) => rfl

theorem ivDescSem_ofOpt (o : Option Iv) : Spec.PS.ivDescSem (IvDesc.ofOpt o) = some o := by
  cases o with
  | none => rfl
  | some v => cases v; rfl

theorem pyExtensionI_exact (data : List Iv) (d : IvDesc) (s : Option Iv) (hd : Spec.PS.ivDescSem d = some s)
    (base : Option (List Nat)) (hb : ∀ bs, base = some bs → ∀ g ∈ bs, g < data.length) :
    pyExtensionI data d base
      = .ok (Spec.PS.ext Spec.PS.ivCovers data s (base.getD (List.range data.length))) := by
  unfold pyExtensionI
  rw [ivUnpack_eq_sem, hd]
  cases s with
  | none => exact congrArg Except.ok (ext_eq_nil (fun _ => rfl) data _).symm
  | some v => exact filterLoop_base_eq_ext Spec.PS.ivCovers data (some v) base hb

theorem search1_map_data {α} (data : List α) (p : α → Bool) :
    search1 (data.map p) = (List.range data.length).filter fun g => (data[g]?).any p := by
  unfold search1
  rw [List.length_map]
  apply List.filter_congr
  intro i hi
  rw [List.getD_eq_getElem?_getD, List.getElem?_map, List.getElem?_eq_getElem (List.mem_range.mp hi)]
  rfl

theorem npExtensionI_eq_py (data : List Iv) (hne : data ≠ []) (d : IvDesc) (base : Option (List Nat)) :
    npExtensionI data d base = pyExtensionI data d base := by
  unfold npExtensionI pyExtensionI
  cases ivUnpack d with
  | error e => rfl
  | ok s =>
    cases s with
    | none => rfl
    | some v =>
      obtain ⟨mn, mx⟩ := v
      simp only [List.isEmpty_eq_false_iff.mpr hne, Bool.false_eq_true, ↓reduceIte]
      cases base with
      | none =>
        simp only []
        rw [filterLoop_eq _ _ _ (fun g hg => List.mem_range.mp hg), List.map_map, List.map_map,
          zipWith_map_map_self, search1_map_data]
        rfl
      | some bs =>
        -- both read the values of `bs` (numpy column by column) and keep the objects whose value passes both tests
        simp only [npTake_map, filterLoop_eq_take]
        cases npTake data bs with
        | error e => rfl
        | ok vs => simp only [Except.map, List.map_map, zipWith_map_map_self]; rfl

theorem isInsertionSort_pySorted : ListAux.IsInsertionSort (· ≤ ·) orderedInsert pySorted :=
  ⟨fun _ => rfl, fun _ _ _ => rfl, rfl, fun _ _ => rfl⟩

theorem perm_pySorted (l : List Int) : (pySorted l).Perm l := isInsertionSort_pySorted.perm l

theorem pairwise_pySorted (l : List Int) : (pySorted l).Pairwise (· ≤ ·) :=
  isInsertionSort_pySorted.sorted (fun _ _ h => Int.le_of_lt (Int.not_le.mp h)) (fun _ _ _ => Int.le_trans) l

theorem mem_pySorted {l : List Int} {x : Int} : x ∈ pySorted l ↔ x ∈ l := (perm_pySorted l).mem_iff

theorem length_pySorted (l : List Int) : (pySorted l).length = l.length := (perm_pySorted l).length_eq

theorem pySorted_of_pairwise {l : List Int} (h : l.Pairwise (· ≤ ·)) : pySorted l = l :=
  (perm_pySorted l).eq_of_pairwise (fun _ _ _ _ => Int.le_antisymm) (pairwise_pySorted l) h

theorem mem_pySet {l : List Int} {x : Int} : x ∈ pySet l ↔ x ∈ l := by
  induction l with
  | nil => exact Iff.rfl
  | cons y ys ih =>
    simp only [pySet, List.mem_cons, List.mem_filter, ih, bne_iff_ne, ne_eq]
    constructor
    · rintro (h | ⟨h, _⟩)
      · exact Or.inl h
      · exact Or.inr h
    · rintro (h | h)
      · exact Or.inl h
      · by_cases hxy : x = y
        · exact Or.inl hxy
        · exact Or.inr ⟨h, hxy⟩

theorem nodup_pySet (l : List Int) : (pySet l).Nodup := by
  induction l with
  | nil => exact List.nodup_nil
  | cons y ys ih =>
    simp only [pySet, List.nodup_cons, List.mem_filter, bne_iff_ne, ne_eq, not_true_eq_false,
      and_false, not_false_eq_true, true_and]
    exact ih.filter _

theorem pySet_ne_nil {l : List Int} (h : l ≠ []) : pySet l ≠ [] := by
  obtain ⟨x, xs, rfl⟩ := List.exists_cons_of_ne_nil h
  exact List.cons_ne_nil _ _

theorem dedupAdj_spec (l : List Int) (h : l.Pairwise (· ≤ ·)) :
    (dedupAdj l).Pairwise (· < ·) ∧ ∀ a, a ∈ dedupAdj l ↔ a ∈ l := by
  induction l using dedupAdj.induct with
  | case1 => exact ⟨List.Pairwise.nil, fun _ => Iff.rfl⟩
  | case2 x => exact ⟨List.pairwise_singleton _ _, fun _ => Iff.rfl⟩
  | case3 y rest ih =>
    obtain ⟨ih1, ih2⟩ := ih (List.pairwise_cons.mp h).2
    rw [dedupAdj, if_pos rfl]
    refine ⟨ih1, fun a => (ih2 a).trans ?_⟩
    rw [List.mem_cons (a := a) (b := y) (l := y :: rest), List.mem_cons]
    exact ⟨Or.inr, fun hh => hh.elim Or.inl id⟩
  | case4 x y rest hxy ih =>
    obtain ⟨hx, h'⟩ := List.pairwise_cons.mp h
    obtain ⟨ih1, ih2⟩ := ih h'
    rw [dedupAdj, if_neg hxy]
    refine ⟨List.pairwise_cons.mpr ⟨fun a ha => ?_, ih1⟩, fun a => by simp only [List.mem_cons, ih2 a]⟩
    have hlt : x < y := Int.lt_iff_le_and_ne.mpr ⟨hx y List.mem_cons_self, hxy⟩
    rcases List.mem_cons.mp ((ih2 a).mp ha) with rfl | har
    · exact hlt
    · exact Int.lt_of_lt_of_le hlt ((List.pairwise_cons.mp h').1 a har)

/-- `np.unique` is `sorted(set(…))`: both are strictly ascending with the members of `l` -/
theorem npUnique_eq (l : List Int) : npUnique l = pySorted (pySet l) := by
  obtain ⟨h1, h2⟩ := dedupAdj_spec (pySorted l) (pairwise_pySorted l)
  have hnd : (pySorted (pySet l)).Nodup := (perm_pySorted _).nodup_iff.mpr (nodup_pySet l)
  have h3 : (pySorted (pySet l)).Pairwise (· < ·) :=
    ((pairwise_pySorted (pySet l)).and hnd).imp fun ⟨hle, hne⟩ => Int.lt_iff_le_and_ne.mpr ⟨hle, hne⟩
  refine ((List.perm_ext_iff_of_nodup (h1.imp Int.ne_of_lt) hnd).mpr fun a => ?_).eq_of_pairwise
    (fun _ _ _ _ hab hba => absurd hab (Int.lt_asymm hba)) h1 h3
  rw [h2 a, mem_pySorted, mem_pySorted, mem_pySet]

theorem mem_npUnique {l : List Int} {x : Int} : x ∈ npUnique l ↔ x ∈ l := by
  rw [npUnique_eq, mem_pySorted, mem_pySet]

theorem length_npUnique (l : List Int) : (npUnique l).length = (pySet l).length := by
  rw [npUnique_eq, length_pySorted]

theorem npUnique_ne_nil {l : List Int} (h : l ≠ []) : npUnique l ≠ [] := by
  obtain ⟨x, hx⟩ := List.exists_mem_of_ne_nil l h
  exact List.ne_nil_of_mem (mem_npUnique.mpr hx)

theorem npMin_unique_eq_pyMin_set {l : List Int} (h : l ≠ []) : npMin (npUnique l) = pyMin (pySet l) := by
  obtain ⟨m, hm, hm'⟩ := pyMin_ok (npUnique_ne_nil h)
  obtain ⟨m', hp, hp'⟩ := pyMin_ok (pySet_ne_nil h)
  rw [npMin_eq_pyMin, hm, hp, hm'.unique hp' (fun a => by rw [mem_npUnique, mem_pySet])]

theorem npMax_unique_eq_pyMax_set {l : List Int} (h : l ≠ []) : npMax (npUnique l) = pyMax (pySet l) := by
  obtain ⟨m, hm, hm'⟩ := pyMax_ok (npUnique_ne_nil h)
  obtain ⟨m', hp, hp'⟩ := pyMax_ok (pySet_ne_nil h)
  rw [npMax_eq_pyMax, hm, hp, hm'.unique hp' (fun a => by rw [mem_npUnique, mem_pySet])]

theorem npBinExtents_eq_py (data : List Iv) (hne : data ≠ []) : npBinExtents data = pyBinExtents data := by
  unfold npBinExtents pyBinExtents
  simp only [List.isEmpty_eq_false_iff.mpr hne, Bool.false_eq_true, ↓reduceIte]
  rw [npMin_unique_eq_pyMin_set (mt List.map_eq_nil_iff.mp hne), npMax_unique_eq_pyMax_set (mt List.map_eq_nil_iff.mp hne)]
  simp only [npUnique_eq, pySorted_of_pairwise (pairwise_pySorted _), List.map_map]
  rfl

theorem npNBinAttrs_eq_py (data : List Iv) (hne : data ≠ []) : npNBinAttrs data = pyNBinAttrs data := by
  unfold npNBinAttrs pyNBinAttrs
  simp only [List.isEmpty_eq_false_iff.mpr hne, Bool.false_eq_true, ↓reduceIte, length_npUnique]

theorem mem_setUnion {a b : VSet} {x : Int} : x ∈ setUnion a b ↔ x ∈ a ∨ x ∈ b :=
  ListAux.mem_append_filter_not_contains

/-- the code's test `row & d == row` is "row ⊆ d" -/
theorem setEq_setInter_eq_all (row d : VSet) : setEq (setInter row d) row = row.all fun x => d.contains x := by
  rw [Bool.eq_iff_iff]
  simp only [setEq, setInter, Bool.and_eq_true, List.all_eq_true, List.mem_filter, List.contains_eq_mem,
    decide_eq_true_eq]
  constructor
  · rintro ⟨_, h2⟩ x hx
    exact (h2 x hx).2
  · intro h
    exact ⟨fun x hx => hx.1, fun x hx => ⟨hx, h x hx⟩⟩

theorem setIntentionI_mem (data : List VSet) (A : List Nat) (hA : ∀ g ∈ A, g < data.length) :
    ∃ r, setIntentionI data A = .ok r ∧ ∀ x, x ∈ r ↔ ∃ g ∈ A, x ∈ data.getD g [] := by
  refine ⟨_, by rw [setIntentionI, setIntLoop_eq_take, npTake_eq data [] A hA]; rfl, fun x => ?_⟩
  show x ∈ (A.map _).foldl setUnion [] ↔ _
  rw [List.foldl_map, ListAux.mem_foldl_union setUnion (fun _ _ _ => mem_setUnion)]
  simp only [List.not_mem_nil, false_or]

theorem isCombs_combs : ListAux.IsCombs combs :=
  ⟨fun l => by cases l <;> rfl, fun _ => rfl, fun _ _ _ => rfl⟩

theorem attrAllLoop_eq (data : List Bool) (gs : List Nat) (hr : ∀ g ∈ gs, g < data.length) :
    attrAllLoop data gs = .ok (gs.all fun g => (data[g]?).any id) := by
  induction gs with
  | nil => rfl
  | cons g gs ih =>
    have hg : g < data.length := hr g List.mem_cons_self
    rw [attrAllLoop, List.all_cons, List.getElem?_eq_getElem hg, Option.any_some]
    cases data[g] with
    | false => rfl
    | true => exact ih (fun x hx => hr x (List.mem_cons_of_mem _ hx))

theorem coversAll_iff {V D} {covers : D → V → Bool} {data : List V} {A : List Nat} (hA : ∀ g ∈ A, g < data.length)
    (dflt : V) (d : D) :
    Spec.PS.coversAll covers data d A = true ↔ ∀ g ∈ A, covers d (data.getD g dflt) = true := by
  refine List.all_eq_true.trans (forall₂_congr fun g hg => ?_)
  rw [ListAux.getElem?_eq_some_getD dflt (hA g hg), Option.any_some]

theorem ivCovers_some {a b : Int} {v : Iv} : Spec.PS.ivCovers (some (a, b)) v = true ↔ a ≤ v.1 ∧ v.2 ≤ b := by
  simp only [Spec.PS.ivCovers, Bool.and_eq_true, decide_eq_true_eq]

theorem setCovers_some {s v : VSet} : Spec.PS.setCovers (some s) v = true ↔ ∀ x ∈ v, x ∈ s := by
  simp only [Spec.PS.setCovers, List.all_eq_true, List.contains_eq_mem, decide_eq_true_eq]

def MostSpecific {V D} (covers : D → V → Bool) (data : List V) (A : List Nat) (dA : D) : Prop :=
  Spec.PS.coversAll covers data dA A = true ∧
    ∀ d, Spec.PS.coversAll covers data d A = true → ∀ v, covers dA v = true → covers d v = true

theorem ext_extensive {V D} {covers : D → V → Bool} {data : List V} {A : List Nat} {d : D}
    (h : Spec.PS.coversAll covers data d A = true) (base : List Nat) :
    ∀ g ∈ A, g ∈ base → g ∈ Spec.PS.ext covers data d base :=
  fun g hgA hgb => (mem_ext covers data d base g).mpr ⟨hgb, List.all_eq_true.mp h g hgA⟩

theorem MostSpecific.ext_subset {V D} {covers : D → V → Bool} {data : List V} {A : List Nat} {dA d : D}
    (h : MostSpecific covers data A dA) (hd : Spec.PS.coversAll covers data d A = true) (base : List Nat) :
    ∀ g ∈ Spec.PS.ext covers data dA base, g ∈ Spec.PS.ext covers data d base := by
  intro g hg
  rw [mem_ext] at hg ⊢
  refine ⟨hg.1, ?_⟩
  cases hv : data[g]? with
  | none => rw [hv] at hg; exact absurd hg.2 Bool.false_ne_true
  | some v => rw [hv] at hg; exact h.2 d hd v hg.2

theorem _root_.Fca.IsHull.covers {ι : Type} {val : ι → Iv} {A : List ι} {h : Iv} (hh : IsHull val A h) :
    ∀ g ∈ A, Spec.PS.ivCovers (some h) (val g) = true :=
  fun g hg => ivCovers_some.mpr (hh.1 g hg)

theorem _root_.Fca.IsHull.covers_least {ι : Type} {val : ι → Iv} {A : List ι} {h : Iv} (hh : IsHull val A h)
    {d : Option Iv} (hd : ∀ g ∈ A, Spec.PS.ivCovers d (val g) = true) (v : Iv)
    (hv : Spec.PS.ivCovers (some h) v = true) : Spec.PS.ivCovers d v = true := by
  obtain ⟨gl, hgl, _⟩ := hh.2.1
  cases d with
  | none => exact absurd (hd gl hgl) Bool.false_ne_true
  | some s =>
    obtain ⟨c, e⟩ := s
    have hce := hh.least fun g hg => ivCovers_some.mp (hd g hg)
    rw [ivCovers_some] at hv ⊢
    exact ⟨Int.le_trans hce.1 hv.1, Int.le_trans hv.2 hce.2⟩

theorem pyIntentionI_mostSpecific (data : List Iv) (A : List Nat) (hne : A ≠ []) (hA : ∀ g ∈ A, g < data.length) :
    ∃ h, pyIntentionI data A = .ok (some h) ∧ MostSpecific Spec.PS.ivCovers data A (some h) := by
  obtain ⟨g0, rest, rfl⟩ := List.exists_cons_of_ne_nil hne
  have hh := isHull_foldl (fun g => data.getD g (0, 0)) g0 rest
  exact ⟨_, by rw [pyIntentionI_eq_take, npTake_eq data (0, 0) _ hA]; rfl,
    (coversAll_iff hA (0, 0) _).mpr hh.covers, fun s hs => hh.covers_least ((coversAll_iff hA (0, 0) s).mp hs)⟩

/-- the union covers `A` also when `A` is empty; only a non-empty `A` rules out the description `None` -/
theorem setIntentionI_mostSpecific (data : List VSet) (A : List Nat) (hA : ∀ g ∈ A, g < data.length) :
    ∃ r, setIntentionI data A = .ok r ∧ Spec.PS.coversAll Spec.PS.setCovers data (some r) A = true ∧
      (A ≠ [] → MostSpecific Spec.PS.setCovers data A (some r)) := by
  obtain ⟨r, hr, hmem⟩ := setIntentionI_mem data A hA
  have hcov : Spec.PS.coversAll Spec.PS.setCovers data (some r) A = true :=
    (coversAll_iff hA [] _).mpr fun g hg => setCovers_some.mpr fun x hx => (hmem x).mpr ⟨g, hg, hx⟩
  refine ⟨r, hr, hcov, fun hne => ⟨hcov, fun d hd v hv => ?_⟩⟩
  have hd' := (coversAll_iff hA [] d).mp hd
  cases d with
  | none =>
    obtain ⟨g0, _, rfl⟩ := List.exists_cons_of_ne_nil hne
    exact absurd (hd' g0 List.mem_cons_self) Bool.false_ne_true
  | some s =>
    rw [setCovers_some] at hv ⊢
    intro x hx
    obtain ⟨g, hg, hxg⟩ := (hmem x).mp (hv x hx)
    exact setCovers_some.mp (hd' g hg) x hxg

/-- the Boolean of `attrAllLoop_eq` unfolds to `coversAll attrCovers data true A`: `AttributePS.intention_i A` says
    whether `True` covers all of `A` -/
theorem attrAll_mostSpecific (data : List Bool) (A : List Nat) (hA : ∀ g ∈ A, g < data.length) :
    MostSpecific Spec.PS.attrCovers data A (Spec.PS.coversAll Spec.PS.attrCovers data true A) := by
  refine ⟨(coversAll_iff hA false _).mpr fun g hg => ?_, fun d hd v hv => ?_⟩
  · cases h : Spec.PS.coversAll Spec.PS.attrCovers data true A with
    | false => rfl
    | true => exact (coversAll_iff hA false true).mp h g hg
  · cases d with
    | false => rfl
    | true => rwa [hd] at hv

end Fca.PS
