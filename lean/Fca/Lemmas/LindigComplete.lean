/-
  Fca.Lemmas.LindigComplete — the loop of `lindig_algorithm` returns exactly the formal concepts, for every iteration
  order (`run_exact`, for either iteration direction: the operators are parameters).
  `direct_super_concepts` lists every upper cover of the concept it is given (Lindig's neighbour theorem for an
  arbitrary visiting order of `reps`: a cover `N` is appended when the last element of `N \ E` is visited, because
  elements leave `reps` only when visited); at termination every listed concept has been processed, and every
  closed set is reached from the bottom concept by a chain of covers.
-/
import Fca.Lemmas.Lindig
namespace Fca.LindigL
open Fca.Spec

section
variable {t : Table} {intention extension : List Nat → List Nat}

def Sub (A B : List Nat) : Prop := ∀ g ∈ A, g ∈ B
/-- a closed set, as the ascending list the operators return -/
def ClosedL (t : Table) (A : List Nat) : Prop := closure t A = A

def Cover (t : Table) (E N : List Nat) : Prop :=
  ClosedL t N ∧ Sub E N ∧ (∃ g ∈ N, g ∉ E) ∧
    ∀ F, ClosedL t F → Sub E F → Sub F N → (F = E ∨ F = N)

theorem closedL_lt {A : List Nat} (h : ClosedL t A) : ∀ g ∈ A, g < t.height :=
  fun g hg => extAll_lt t g (h ▸ hg)

theorem closedL_nodup {A : List Nat} (h : ClosedL t A) : A.Nodup := h ▸ extAll_nodup t _

theorem closedL_of_concept {c : List Nat × List Nat} (h : isConcept t c.1 c.2 = true) : ClosedL t c.1 :=
  closure_eq_of_isConcept t h

theorem closedL_eq_of_mem {A B : List Nat} (hA : ClosedL t A) (hB : ClosedL t B)
    (h : ∀ g, g ∈ A ↔ g ∈ B) : A = B := by
  rw [← hA, ← hB, closure, intAll_congr t h, ← closure]

theorem closure_concat_eq_cover {E N : List Nat} (hc : Cover t E N) {g : Nat} (hgN : g ∈ N) (hgE : g ∉ E) :
    closure t (E ++ [g]) = N := by
  obtain ⟨hN, hEN, _, hmin⟩ := hc
  have hsub : Sub (E ++ [g]) N := List.forall_mem_append.mpr ⟨hEN, List.forall_mem_singleton.mpr hgN⟩
  have hr : ∀ x ∈ E ++ [g], x < t.height := fun x hx => closedL_lt hN x (hsub x hx)
  have h1 : Sub E (closure t (E ++ [g])) := fun x hx => subset_closure t hr x (List.mem_append_left _ hx)
  have h2 : Sub (closure t (E ++ [g])) N := fun x hx => (hN : closure t N = N) ▸ closure_mono t hsub x hx
  -- the closure lies between `E` and `N`, and is not `E`, since it holds `g`
  rcases hmin _ (closure_idem t hr) h1 h2 with h | h
  · exact absurd (h ▸ subset_closure t hr g (List.mem_append_right _ List.mem_cons_self)) hgE
  · exact h

theorem dsupLoop_mono (extent : List Nat) : ∀ (gs reps : List Nat) (nb : List (List Nat × List Nat)),
    ∀ x ∈ nb, x ∈ dsupLoop intention extension extent gs reps nb := by
  intro gs
  induction gs with
  | nil => exact fun _ _ _ hx => hx
  | cons g gs ih =>
    intro reps nb x hx
    unfold dsupLoop
    simp only
    split
    · exact ih _ _ x (List.mem_append_left _ hx)
    · exact ih _ _ x hx

/-- `reps ∩ N` is, up to order, what is still to be visited of `N` (elements leave `reps` only when visited), and that
    is not empty.  So when the last of them is visited it is the only member of `N` in `reps`, and `N` is appended. -/
theorem dsupLoop_cover (ops : Ops t intention extension) {E N : List Nat} (hc : Cover t E N) :
    ∀ (gs reps : List Nat) (nb : List (List Nat × List Nat)), (∀ x ∈ gs, x ∉ E) →
      (reps.filter fun r => N.contains r).Perm (gs.filter fun r => N.contains r) →
      (gs.filter fun r => N.contains r) ≠ [] →
      (N, intAll t N) ∈ dsupLoop intention extension E gs reps nb := by
  intro gs
  induction gs with
  | nil => exact fun _ _ _ _ h => absurd rfl h
  | cons g gs ih =>
    intro reps nb hgs hJ hne
    have hgs' : ∀ x ∈ gs, x ∉ E := fun x hx => hgs x (List.mem_cons_of_mem _ hx)
    unfold dsupLoop
    simp only
    by_cases hgN : N.contains g = true
    · rw [List.filter_cons_of_pos hgN] at hJ
      have hgN := List.contains_iff_mem.mp hgN
      have hrE : ∀ x ∈ E ++ [g], x < t.height := fun x hx => closedL_lt hc.1 x
        (List.forall_mem_append.mpr ⟨hc.2.1, List.forall_mem_singleton.mpr hgN⟩ x hx)
      have hcl := closure_concat_eq_cover hc hgN (hgs g List.mem_cons_self)
      rw [ops.intention_eq _ hrE, ops.extension_eq _ (intAll_lt t), ← closure, hcl]
      split
      · refine dsupLoop_mono _ _ _ _ _ (List.mem_append_right _ ?_)
        rw [← intAll_closure t hrE, hcl]
        exact List.mem_cons_self
      · rename_i hcnt
        -- `g` leaves both sides; it was not the only member of `N` left in `reps`
        have hJ' := hJ.erase g
        rw [List.erase_filter, List.erase_cons_head] at hJ'
        refine ih _ _ hgs' hJ' fun hf => hcnt ?_
        rw [hJ.length_eq, hf]
        rfl
    · -- `g` is irrelevant for `N`
      rw [List.filter_cons_of_neg hgN] at hJ hne
      split
      · exact ih _ _ hgs' hJ hne
      · refine ih _ _ hgs' ?_ hne
        rwa [← List.erase_filter, List.erase_of_not_mem fun h => hgN (List.mem_filter.mp h).2]

theorem dsups_cover (ops : Ops t intention extension) (ord : List Nat → List Nat)
    (hord : ∀ l, (ord l).Perm l) {E N : List Nat} (hc : Cover t E N) :
    (N, intAll t N) ∈ directSuperConcepts t.height intention extension ord E := by
  unfold directSuperConcepts
  simp only
  have hp := hord ((List.range t.height).filter fun g => !E.contains g)
  have hmem : ∀ x, x ∈ ord ((List.range t.height).filter fun g => !E.contains g) ↔ (x < t.height ∧ x ∉ E) := by
    intro x
    rw [hp.mem_iff]
    simp [List.mem_filter]
  obtain ⟨g, hgN, hgE⟩ := hc.2.2.1
  exact dsupLoop_cover ops hc _ _ _ (fun x hx => ((hmem x).mp hx).2) (hp.symm.filter _)
    (List.ne_nil_of_mem (List.mem_filter.mpr
      ⟨(hmem g).mpr ⟨closedL_lt hc.1 g hgN, hgE⟩, List.contains_iff_mem.mpr hgN⟩))

def Covered (t : Table) (concepts : List (List Nat × List Nat)) (E : List Nat) : Prop :=
  ∀ N, Cover t E N → N ∈ concepts.map (·.1)

/-- what completeness needs beyond `LInv` -/
structure LInv2 (t : Table) (s : LindigSt) : Prop where
  proc : ∀ i, i < s.concepts.length → i ∈ s.queue ∨ Covered t s.concepts (s.concepts.getD i ([], [])).1
  bottom : extAll t (List.range t.width) ∈ s.concepts.map (·.1)

/-- `queue.length + 2^n < fuel + concepts.length` is kept: an iteration takes one id from the queue and one unit
    of fuel, and every concept that is appended comes with its id -/
theorem loop_run (ops : Ops t intention extension) (ord : List Nat → List Nat)
    (hord : ∀ l, (ord l).Perm l) (pick : List Nat → Nat) :
    ∀ (f : Nat) (s : LindigSt), LInv t s → LInv2 t s →
      s.queue.length + 2 ^ t.height < f + s.concepts.length →
      ∃ s', lindigLoop t.height intention extension ord pick f s = .ok s' ∧
        LInv t s' ∧ LInv2 t s' ∧ s'.queue = [] := by
  intro f
  induction f with
  | zero =>
    intro s h _ hm
    rw [Nat.zero_add] at hm
    exact absurd (Nat.lt_of_le_of_lt (Nat.le_add_left _ _) hm) (Nat.not_lt_of_le (concepts_length_le s h))
  | succ f ih =>
    intro s h h2 hm
    unfold lindigLoop
    split
    · rename_i hq
      exact ⟨s, rfl, h, h2, hq⟩
    · rename_i q0 qs hq
      simp only
      generalize hcid : (if s.queue.contains (pick s.queue) = true then pick s.queue else q0) = cId
      have hcq : cId ∈ s.queue := by
        rw [← hcid]
        split
        · rename_i hc; exact List.contains_iff_mem.mp hc
        · rw [hq]; exact List.mem_cons_self
      have hlt := h.qlt cId hcq
      -- one id leaves the queue: the bound on the remaining iterations goes down with the fuel
      have hm' : (s.queue.erase cId).length + 2 ^ t.height < f + s.concepts.length := by
        rw [← Nat.sub_add_cancel (List.length_pos_of_mem hcq), ← List.length_erase_of_mem hcq,
          Nat.add_right_comm, Nat.add_right_comm f] at hm
        exact Nat.lt_of_succ_lt_succ hm
      -- the state after `c = queue.pop()`, whatever happens to the dictionaries
      have hinv1 : ∀ pd, LInv t { s with queue := s.queue.erase cId, parentsDict := pd } := fun _ =>
        ⟨h.conc, h.nodup, fun i hi => h.qlt i (List.mem_of_mem_erase hi)⟩
      have hget : s.concepts.getD cId ([], []) ∈ s.concepts := ListAux.getD_mem _ _ _ hlt
      have hE := closedL_of_concept (h.conc _ hget)
      have hothers : ∀ i, i < s.concepts.length → i ≠ cId →
          i ∈ s.queue.erase cId ∨ Covered t s.concepts (s.concepts.getD i ([], [])).1 :=
        fun i hi hic => (h2.proc i hi).imp_left (List.mem_erase_of_ne hic).mpr
      split
      · rename_i hemp
        refine ih _ (hinv1 _) ⟨fun i hi => ?_, h2.bottom⟩ hm'
        by_cases hic : i = cId
        · -- no neighbour found: the concept has no upper cover
          subst hic
          exact Or.inr fun N hN => absurd (dsups_cover ops ord hord hN) (List.isEmpty_iff.mp hemp ▸ List.not_mem_nil)
        · exact hothers i hi hic
      · obtain ⟨h1', ⟨extra, he, hq'⟩, hlisted⟩ :=
          addSups_spec cId _ _ (hinv1 s.parentsDict) (dsups_sound ops ord hord _ (closedL_lt hE))
        simp only at he hq'
        refine ih _ h1' ⟨fun i hi => ?_, ?_⟩ ?_
        · rw [he] at hi ⊢
          rw [hq']
          by_cases hio : i < s.concepts.length
          · rw [ListAux.getD_append_left _ _ _ _ hio]
            have hmono : ∀ {E}, Covered t s.concepts E → Covered t (s.concepts ++ extra) E :=
              fun hc N hN => List.map_append ▸ List.mem_append_left _ (hc N hN)
            by_cases hic : i = cId
            · subst hic
              exact Or.inr fun N hN => he ▸ hlisted _ (dsups_cover ops ord hord hN)
            · exact (hothers i hio hic).imp (List.mem_append_left _) hmono
          · -- a new concept: its id was queued with it
            refine Or.inl (List.mem_append_right _ (List.mem_range'_1.mpr ⟨Nat.le_of_not_lt hio, ?_⟩))
            rwa [List.length_append] at hi
        · rw [he, List.map_append]
          exact List.mem_append_left _ h2.bottom
        · rw [he, hq', List.length_append, List.length_append, List.length_range', Nat.add_right_comm,
            ← Nat.add_assoc]
          exact Nat.add_lt_add_right hm' _

theorem exists_extra {E F : List Nat} (hE : ClosedL t E) (hF : ClosedL t F) (hs : Sub E F) (hne : F ≠ E) :
    ∃ x ∈ F, x ∉ E :=
  Classical.byContradiction fun hno => hne (closedL_eq_of_mem hF hE fun g =>
    ⟨fun hg => Classical.byContradiction fun hgE => hno ⟨g, hg, hgE⟩, hs g⟩)

theorem closedL_length_lt {E F : List Nat} (hE : ClosedL t E) (hF : ClosedL t F) (hs : Sub E F) (hne : F ≠ E) :
    E.length < F.length :=
  let ⟨_, hx, hxE⟩ := exists_extra hE hF hs hne
  ListAux.length_lt_of_subset_of_not_mem (closedL_nodup hE) hs hx hxE

/-- a shortest closed set strictly above `E` inside `F` is an upper cover of `E` -/
theorem exists_cover {E F : List Nat} (hE : ClosedL t E) (hF : ClosedL t F) (hs : Sub E F) (hne : F ≠ E) :
    ∃ N, Cover t E N ∧ Sub N F := by
  obtain ⟨N, ⟨hN, hEN, hNF, hNE⟩, hmin⟩ := ListAux.exists_min_measure List.length
    (P := fun N => ClosedL t N ∧ Sub E N ∧ Sub N F ∧ N ≠ E) ⟨hF, hs, fun _ h => h, hne⟩
  refine ⟨N, ⟨hN, hEN, exists_extra hE hN hEN hNE, fun F' h1 h2 h3 => ?_⟩, hNF⟩
  refine Classical.or_iff_not_imp_left.mpr fun e => Classical.byContradiction fun h5 => ?_
  exact Nat.not_lt.mpr (hmin F' ⟨h1, h2, fun g hg => hNF g (h3 g hg), e⟩) (closedL_length_lt h1 hN h3 (Ne.symm h5))

theorem mem_of_closed_under_covers {C : List (List Nat)} (hC : ∀ E ∈ C, ClosedL t E ∧ ∀ N, Cover t E N → N ∈ C)
    {A : List Nat} (hA : ClosedL t A) : ∀ (n : Nat) (E : List Nat), A.length - E.length = n → E ∈ C →
      Sub E A → A ∈ C := by
  intro n
  induction n using Nat.strongRecOn with
  | _ n ih =>
    intro E hn hEC hs
    by_cases hne : A = E
    · exact hne ▸ hEC
    · obtain ⟨hEcl, hcov⟩ := hC E hEC
      obtain ⟨N, hN, hNA⟩ := exists_cover hEcl hA hs hne
      have hlt : E.length < N.length :=
        closedL_length_lt hEcl hN.1 hN.2.1 fun e => hN.2.2.1.elim fun x hx => hx.2 (e ▸ hx.1)
      exact ih _ (hn ▸ Nat.sub_lt_sub_left (closedL_length_lt hEcl hA hs hne) hlt) N rfl (hcov N hN) hNA

theorem bottom_sub {A : List Nat} (hA : ClosedL t A) : Sub (extAll t (List.range t.width)) A := by
  intro g hg
  rw [← hA, closure, mem_extAll]
  exact ⟨extAll_lt t g hg, fun a ha => ((mem_extAll t).mp hg).2 a (List.mem_range.mpr (intAll_lt t a ha))⟩

theorem all_listed {s : LindigSt} (h : LInv t s) (h2 : LInv2 t s) (hq : s.queue = [])
    {A : List Nat} (hA : ClosedL t A) : A ∈ s.concepts.map (·.1) := by
  refine mem_of_closed_under_covers (C := s.concepts.map (·.1)) (fun E hE => ?_) hA _ _ rfl h2.bottom (bottom_sub hA)
  obtain ⟨c, hc, rfl⟩ := List.mem_map.mp hE
  refine ⟨closedL_of_concept (h.conc c hc), ?_⟩
  obtain ⟨i, hi, hget⟩ := List.getElem_of_mem hc
  rcases h2.proc i hi with hp | hp
  · exact absurd hp (hq ▸ List.not_mem_nil)
  · rwa [List.getD_eq_getElem?_getD, List.getElem?_eq_getElem hi, Option.getD_some, hget] at hp

theorem init_inv2 (ops : Ops t intention extension) :
    LInv2 t ⟨[(extension (List.range t.width), List.range t.width)], [0], [(0, [])], []⟩ := by
  refine ⟨fun i hi => Or.inl ?_, ?_⟩
  · rw [Nat.lt_one_iff.mp hi]; exact List.mem_cons_self
  · rw [ops.extension_eq _ (fun a ha => List.mem_range.mp ha)]; exact List.mem_cons_self

theorem run_exact (ops : Ops t intention extension) (ord : List Nat → List Nat)
    (hord : ∀ l, (ord l).Perm l) (pick : List Nat → Nat) (fuel : Nat) (hf : lindigFuel t.height ≤ fuel) :
    ∃ s', lindigLoop t.height intention extension ord pick fuel
        ⟨[(extension (List.range t.width), List.range t.width)], [0], [(0, [])], []⟩ = .ok s' ∧
      s'.concepts.Nodup ∧ ∀ A B, (A, B) ∈ s'.concepts ↔ isConcept t A B = true := by
  obtain ⟨s', hs', hinv, hinv2, hq⟩ := loop_run ops ord hord pick fuel _ (init_inv ops) (init_inv2 ops)
    (by show 1 + 2 ^ t.height < fuel + 1; rw [Nat.add_comm]; exact Nat.succ_lt_succ (Nat.lt_of_succ_le hf))
  refine ⟨s', hs', hinv.nodup.of_map _ fun a b h e => h (e ▸ rfl), fun A B => ⟨hinv.conc (A, B), fun hc => ?_⟩⟩
  obtain ⟨c, hcm, hcA⟩ := List.mem_map.mp (all_listed hinv hinv2 hq (closedL_of_concept (c := (A, B)) hc))
  exact isConcept_eq_of_extent_eq (d := (A, B)) (hinv.conc c hcm) hc hcA ▸ hcm

end

end Fca.LindigL
