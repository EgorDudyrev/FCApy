/-
  Fca.Lemmas.MeasuresLattice — order-theoretic core of C16 on a concept lattice given as data:
  a subset `S` of the extent `A` of a concept `(A, B)` fails to generate it (`S' ≠ B`) exactly when it lies
  inside the extent of some lower cover (child) of the concept.
-/
import Fca.Spec.Measures
import Fca.Lemmas.Galois
import Fca.Lemmas.ExtentOrder
namespace Fca.Measures
open Fca.Spec

theorem subset_iff {a b : List Nat} : Spec.subset a b = true ↔ ∀ x ∈ a, x ∈ b := Trace.subset_iff

theorem exts_getD (L : Lattice) {j : Nat} {A B : List Nat} (hj : L.concepts[j]? = some (A, B)) :
    (L.concepts.map Prod.fst).getD j [] = A := by
  rw [List.getD_eq_getElem?_getD, List.getElem?_map, hj]
  rfl

theorem get_of_lt (L : Lattice) {j : Nat} (hj : j < L.concepts.length) :
    ∃ c, L.concepts[j]? = some c := ⟨L.concepts[j], List.getElem?_eq_getElem hj⟩

theorem lt_of_get {L : Lattice} {j : Nat} {c : List Nat × List Nat} (hj : L.concepts[j]? = some c) :
    j < L.concepts.length := (List.getElem?_eq_some_iff.mp hj).1

section
variable {t : Table} {L : Lattice} (h : IsLatticeOf t L)
include h

theorem isConcept_of_get {i : Nat} {A B : List Nat} (hi : L.concepts[i]? = some (A, B)) :
    isConcept t A B = true :=
  (mem_allConcepts t).mp ((h.mem (A, B)).mp (List.mem_of_getElem? hi))

theorem extent_nodup {i : Nat} {A B : List Nat} (hi : L.concepts[i]? = some (A, B)) : A.Nodup :=
  isConcept_extent_nodup (isConcept_of_get h hi)

theorem exists_get_of_isConcept {A B : List Nat} (hc : isConcept t A B = true) :
    ∃ k : Nat, L.concepts[k]? = some (A, B) :=
  List.mem_iff_getElem?.mp ((h.mem _).mpr ((mem_allConcepts t).mpr hc))

theorem concepts_ne_nil : L.concepts ≠ [] := fun hs => by
  obtain ⟨k, hk⟩ := exists_get_of_isConcept h (isConcept_of_attrs t (B := []) fun a ha => nomatch ha)
  rw [hs] at hk
  cases hk

theorem mem_childrenOf_iff {i j : Nat} {A B D E : List Nat} (hi : L.concepts[i]? = some (A, B))
    (hc : L.concepts[j]? = some (D, E)) :
    j ∈ L.childrenOf i ↔ ssubset D A = true ∧
      ∀ (k : Nat) (X Y : List Nat), L.concepts[k]? = some (X, Y) → ssubset D X = true → ¬ ssubset X A = true := by
  rw [h.cmem i (lt_of_get hi) j, Trace.mem_lowerCovers, exts_getD L hc, exts_getD L hi, List.length_map]
  refine ⟨fun hm => ⟨hm.2.1, fun k X Y hk => exts_getD L hk ▸ hm.2.2 k (lt_of_get hk)⟩,
    fun hm => ⟨lt_of_get hc, hm.1, fun k hk => ?_⟩⟩
  obtain ⟨⟨X, Y⟩, hX⟩ := get_of_lt L hk
  exact exts_getD L hX ▸ hm.2 k X Y hX

theorem children_lt {i : Nat} {A B : List Nat} (hi : L.concepts[i]? = some (A, B)) :
    ∀ j ∈ L.childrenOf i, j < L.concepts.length := fun j hj =>
  List.length_map (as := L.concepts) Prod.fst ▸ (Trace.mem_lowerCovers.mp ((h.cmem i (lt_of_get hi) j).mp hj)).1

/-- forth: the closure of a non-generator is a concept extent strictly inside `A`, hence at or below a lower cover;
    back: what lies inside the extent of a child has its closure there -/
theorem nongen_iff {i : Nat} {A B S : List Nat} (hi : L.concepts[i]? = some (A, B)) (hSA : ∀ g ∈ S, g ∈ A) :
    intAll t S ≠ B ↔ ∃ j ∈ L.childrenOf i, ∀ g ∈ S, g ∈ (L.concepts.map Prod.fst).getD j [] := by
  have hAB := isConcept_of_get h hi
  constructor
  · intro hne
    have hS : ∀ g ∈ S, g < t.height := fun g hg => isConcept_extent_lt hAB g (hSA g hg)
    obtain ⟨j0, hj0⟩ := exists_get_of_isConcept h (isConcept_of_objs t hS)
    have hCA : ∀ g ∈ closure t S, g ∈ A := closure_subset_of_isConcept hAB hSA
    have hAC : ¬ ∀ g ∈ A, g ∈ closure t S := by
      intro hh
      apply hne
      rw [← intAll_closure t hS, ← ((isConcept_iff t).mp hAB).2]
      exact intAll_eq_of_mem_iff t fun a _ => ⟨fun H g hg => H g (hh g hg), fun H g hg => H g (hCA g hg)⟩
    obtain ⟨j, hjc, hsub⟩ := Trace.exists_cover_above (i := i)
      (List.length_map (as := L.concepts) Prod.fst ▸ lt_of_get hj0)
      (by rw [exts_getD L hj0, exts_getD L hi]; exact Trace.ssubset_iff.mpr ⟨hCA, hAC⟩)
    refine ⟨j, (h.cmem i (lt_of_get hi) j).mpr hjc, fun g hg => hsub g ?_⟩
    rw [exts_getD L hj0]
    exact subset_closure t hS g hg
  · rintro ⟨j, hj, hSD⟩ heq
    obtain ⟨⟨D, E⟩, hc⟩ := get_of_lt L (children_lt h hi j hj)
    rw [exts_getD L hc] at hSD
    have hclS : closure t S = A := by
      unfold closure
      rw [heq, ((isConcept_iff t).mp hAB).1]
    exact (Trace.ssubset_iff.mp ((mem_childrenOf_iff h hi hc).mp hj).1).2
      (hclS ▸ closure_subset_of_isConcept (isConcept_of_get h hc) hSD)

/-- a child is the concept of `(a :: B)'` for an attribute `a < |M|` (any `a` of its intent outside `B`, and there
    is one, the child's extent being smaller): that extent is a concept extent strictly inside `A` containing the
    child's, and the child is a lower cover -/
theorem child_eq_attr {i j : Nat} {A B : List Nat} (hi : L.concepts[i]? = some (A, B)) (hj : j ∈ L.childrenOf i) :
    ∃ a < t.width, L.concepts[j]? = some (extAll t (a :: B), closureAttr t (a :: B)) := by
  obtain ⟨⟨D, E⟩, hc⟩ := get_of_lt L (children_lt h hi j hj)
  have hAB := isConcept_of_get h hi
  have hDE := isConcept_of_get h hc
  have hextA := ((isConcept_iff t).mp hAB).1
  have hextD := ((isConcept_iff t).mp hDE).1
  obtain ⟨hss, hcov⟩ := (mem_childrenOf_iff h hi hc).mp hj
  obtain ⟨a, haE, haB⟩ : ∃ a ∈ E, a ∉ B := Classical.byContradiction fun hne =>
    (Trace.ssubset_iff.mp hss).2 ((concept_order t hAB hDE).mpr fun a ha =>
      Classical.byContradiction fun hb => hne ⟨a, ha, hb⟩)
  have hBw : ∀ b ∈ a :: B, b < t.width :=
    List.forall_mem_cons.mpr ⟨isConcept_intent_lt hDE a haE, isConcept_intent_lt hAB⟩
  have hX := isConcept_of_attrs t hBw
  obtain ⟨k, hk⟩ := exists_get_of_isConcept h hX
  have hXA : ∀ g ∈ extAll t (a :: B), g ∈ A :=
    hextA ▸ extAll_antitone t fun b hb => List.mem_cons_of_mem _ hb
  have hAX : ¬ ∀ g ∈ A, g ∈ extAll t (a :: B) := fun hh =>
    haB ((concept_order t hAB hX).mp hh a (subset_closureAttr t hBw a List.mem_cons_self))
  have hDX : ∀ g ∈ D, g ∈ extAll t (a :: B) := hextD ▸ extAll_antitone t
    (List.forall_mem_cons.mpr ⟨haE, (concept_order t hDE hAB).mp (Trace.ssubset_iff.mp hss).1⟩)
  have hXD : ∀ g ∈ extAll t (a :: B), g ∈ D := Classical.byContradiction fun hn =>
    hcov k _ _ hk (Trace.ssubset_iff.mpr ⟨hDX, hn⟩) (Trace.ssubset_iff.mpr ⟨hXA, hAX⟩)
  exact ⟨a, hBw a List.mem_cons_self, hc.trans (congrArg some (isConcept_eq_of_mem_iff hDE hX fun g => ⟨hDX g, hXD g⟩))⟩

/-- the children are distinct concepts among the `(a :: B)'`, `a < |M|` -/
theorem children_length_le_width {i : Nat} {A B : List Nat} (hi : L.concepts[i]? = some (A, B)) :
    (L.childrenOf i).length ≤ t.width := by
  have hnd : ((L.childrenOf i).map (L.concepts[·]?)).Nodup :=
    ListAux.nodup_map_of_injOn (h.cnodup i (lt_of_get hi)) fun x hx _ _ =>
      (List.getElem?_inj (children_lt h hi x hx) h.nodup).mp
  have := hnd.length_le_of_subset
    (l₂ := (List.range t.width).map fun a => some (extAll t (a :: B), closureAttr t (a :: B))) fun c hc => by
      obtain ⟨j, hj, rfl⟩ := List.mem_map.mp hc
      obtain ⟨a, ha, e⟩ := child_eq_attr h hi hj
      exact List.mem_map.mpr ⟨a, List.mem_range.mpr ha, e.symm⟩
  rwa [List.length_map, List.length_map, List.length_range] at this

end

end Fca.Measures
