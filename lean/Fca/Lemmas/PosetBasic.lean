/-
  What the model's dictionaries (association lists) and index sets do, and `Sat`, the
  total-correctness triple of the state+exception monad `M`, with its rules for `bind` and the three loops.
-/
import Fca.Model.Poset
import Fca.Spec.Poset
import Fca.Lemmas.ListAux
namespace Fca.Poset

section alist
variable {κ β : Type} [DecidableEq κ]

@[simp] theorem alookup_nil (k : κ) : alookup k ([] : List (κ × β)) = none := rfl

theorem alookup_cons (k k' : κ) (v : β) (l : List (κ × β)) :
    alookup k ((k', v) :: l) = if k = k' then some v else alookup k l := rfl

theorem alookup_filter (f : κ → Bool) (k : κ) (c : List (κ × β)) :
    alookup k (c.filter fun p => f p.1) = if f k then alookup k c else none := by
  induction c with
  | nil => split <;> rfl
  | cons p c ih =>
    obtain ⟨a, b⟩ := p
    by_cases hk : k = a
    · subst hk
      cases hf : f k
      · rw [List.filter_cons_of_neg (by simp [hf]), ih, hf]
        rfl
      · rw [List.filter_cons_of_pos (by simp [hf]), alookup_cons, alookup_cons, if_pos rfl, if_pos rfl, if_pos rfl]
    · cases hf : f a
      · rw [List.filter_cons_of_neg (by simp [hf]), ih, alookup_cons, if_neg hk]
      · rw [List.filter_cons_of_pos (by simp [hf]), alookup_cons, alookup_cons, if_neg hk, if_neg hk, ih]

theorem alookup_aerase (k k' : κ) (l : List (κ × β)) :
    alookup k (aerase k' l) = if k = k' then none else alookup k l := by
  unfold aerase
  rw [alookup_filter (fun a => decide (a ≠ k'))]
  by_cases h : k = k'
  · rw [if_pos h, if_neg (by simpa using h)]
  · rw [if_neg h, if_pos (by simpa using h)]

theorem alookup_of_aerase {k k' : κ} {v : β} {l : List (κ × β)} (h : alookup k (aerase k' l) = some v) :
    alookup k l = some v := by
  rw [alookup_aerase] at h
  split at h
  · cases h
  · exact h

theorem alookup_ainsert (k k' : κ) (v : β) (l : List (κ × β)) :
    alookup k (ainsert k' v l) = if k = k' then some v else alookup k l := by
  unfold ainsert
  rw [alookup_cons, alookup_aerase]
  by_cases h : k = k' <;> simp [h]

theorem alookup_mem {k : κ} {v : β} {l : List (κ × β)} (h : alookup k l = some v) : (k, v) ∈ l := by
  induction l with
  | nil => simp at h
  | cons p l ih =>
    obtain ⟨a, b⟩ := p
    rw [alookup_cons] at h
    by_cases h2 : k = a
    · simp [h2] at h; subst h; subst h2; exact List.mem_cons_self
    · simp [h2] at h; exact List.mem_cons_of_mem _ (ih h)

/-- `decrement_dict`: the entries whose key passes `drop` go, the others are re-keyed by `fk` (injective on what stays)
    and their values mapped by `fv` -/
theorem alookup_filterMap {κ' γ : Type} [DecidableEq κ'] (drop : κ → Prop) [DecidablePred drop] (fk : κ → κ')
    (fv : β → γ) (hinj : ∀ a b, ¬ drop a → ¬ drop b → fk a = fk b → a = b)
    (l : List (κ × β)) (k : κ) (hk : ¬ drop k) :
    alookup (fk k) (l.filterMap fun p => if drop p.1 then none else some (fk p.1, fv p.2))
      = (alookup k l).map fv := by
  induction l with
  | nil => rfl
  | cons p l ih =>
    obtain ⟨a, b⟩ := p
    rw [List.filterMap_cons, alookup_cons]
    by_cases ha : drop a
    · simp only [if_pos ha]
      rw [ih, if_neg (fun e : k = a => hk (e ▸ ha))]
    · simp only [if_neg ha, alookup_cons]
      by_cases h2 : k = a
      · subst h2; rw [if_pos rfl, if_pos rfl]; rfl
      · rw [if_neg h2, if_neg (fun h => h2 (hinj _ _ hk ha h)), ih]

theorem alookup_filterMap_some {κ' γ : Type} [DecidableEq κ'] (drop : κ → Prop) [DecidablePred drop]
    (fk : κ → κ') (fv : β → γ) (hinj : ∀ a b, ¬ drop a → ¬ drop b → fk a = fk b → a = b)
    (l : List (κ × β)) (k' : κ') (w : γ)
    (h : alookup k' (l.filterMap fun p => if drop p.1 then none else some (fk p.1, fv p.2)) = some w) :
    ∃ k v, ¬ drop k ∧ fk k = k' ∧ alookup k l = some v ∧ fv v = w := by
  obtain ⟨⟨a, b⟩, _, hab⟩ := List.mem_filterMap.mp (alookup_mem h)
  by_cases ha : drop a
  · rw [if_pos ha] at hab; cases hab
  · rw [if_neg ha] at hab
    cases hab
    rw [alookup_filterMap drop fk fv hinj l a ha] at h
    obtain ⟨v, hv, hw⟩ := Option.map_eq_some_iff.mp h
    exact ⟨a, v, ha, rfl, hv, hw⟩

theorem mem_dedupKeys {l : List (κ × β)} {k : κ} :
    k ∈ dedupKeys l ↔ (alookup k l).isSome = true := by
  induction l with
  | nil => simp [dedupKeys]
  | cons p l ih =>
    obtain ⟨a, b⟩ := p
    simp only [dedupKeys, List.mem_cons, List.mem_filter, ih, alookup_cons]
    by_cases h : k = a <;> simp [h]

theorem nodup_dedupKeys (l : List (κ × β)) : (dedupKeys l).Nodup := by
  induction l with
  | nil => simp [dedupKeys]
  | cons p l ih =>
    simp only [dedupKeys, List.nodup_cons, List.mem_filter, ne_eq, not_true_eq_false, decide_false,
      Bool.false_eq_true, and_false, not_false_eq_true, true_and]
    exact ih.filter _

end alist

theorem mem_setInsert {x y : Nat} {l : List Nat} : y ∈ setInsert x l ↔ y = x ∨ y ∈ l :=
  (ListAux.mem_addNew Iff.rfl).trans or_comm

theorem nodup_setInsert {x : Nat} {l : List Nat} (h : l.Nodup) : (setInsert x l).Nodup :=
  ListAux.nodup_addNew Iff.rfl h

theorem length_setInsert_of_not_mem {x : Nat} {l : List Nat} (h : x ∉ l) :
    (setInsert x l).length = l.length + 1 := by
  unfold setInsert
  simp [h]

theorem mem_setUnion {y : Nat} {a b : List Nat} : y ∈ setUnion a b ↔ y ∈ a ∨ y ∈ b := by
  unfold setUnion
  simp only [List.mem_append, List.mem_filter, decide_eq_true_eq]
  constructor
  · rintro (h | ⟨h, _⟩)
    · exact Or.inl h
    · exact Or.inr h
  · rintro (h | h)
    · exact Or.inl h
    · by_cases hy : y ∈ a
      · exact Or.inl hy
      · exact Or.inr ⟨h, hy⟩

theorem nodup_setUnion {a b : List Nat} (ha : a.Nodup) (hb : b.Nodup) : (setUnion a b).Nodup := by
  unfold setUnion
  rw [List.nodup_append]
  refine ⟨ha, hb.filter _, ?_⟩
  intro x hx y hy
  simp only [List.mem_filter, decide_eq_true_eq] at hy
  intro e; subst e; exact hy.2 hx

theorem mem_setDiff {y : Nat} {a b : List Nat} : y ∈ setDiff a b ↔ y ∈ a ∧ y ∉ b := by
  unfold setDiff; simp

theorem nodup_setDiff {a b : List Nat} (ha : a.Nodup) : (setDiff a b).Nodup := ha.filter _

theorem mem_setInter {y : Nat} {a b : List Nat} : y ∈ setInter a b ↔ y ∈ a ∧ y ∈ b := by
  unfold setInter; simp

theorem nodup_setInter {a b : List Nat} (ha : a.Nodup) : (setInter a b).Nodup := ha.filter _

/-- how a set-valued answer `a` of the model relates to its `Fresh` value `b`; `b` is a filtered range in every
    use, so only `a` has to be told duplicate free -/
def SetEq (a b : List Nat) : Prop := a.Nodup ∧ ∀ x, x ∈ a ↔ x ∈ b

theorem SetEq.isEmpty_eq {a b : List Nat} (h : SetEq a b) : a.isEmpty = b.isEmpty := by
  rw [Bool.eq_iff_iff, List.isEmpty_iff, List.isEmpty_iff, List.eq_nil_iff_forall_not_mem,
    List.eq_nil_iff_forall_not_mem]
  exact forall_congr' fun x => not_congr (h.2 x)

theorem SetEq.sortSet_eq {a b : List Nat} (h : SetEq a b) (hb : b.Pairwise (· < ·)) : sortSet a = b :=
  ListAux.mergeSort_le_eq h.1 hb h.2

theorem SetEq.length_eq {a b : List Nat} (h : SetEq a b) (hb : b.Nodup) : a.length = b.length :=
  ((List.perm_ext_iff_of_nodup h.1 hb).mpr h.2).length_eq

/-- the `len(s) == 1` / `list(s)[0]` epilogue of `join`/`meet` -/
theorem SetEq.single_eq {a b : List Nat} (h : SetEq a b) (hb : b.Nodup) :
    (if a.length == 1 then a.head? else none) = (if b.length == 1 then b.head? else none) := by
  have hl := h.length_eq hb
  rw [hl]
  by_cases h1 : b.length = 1
  · simp only [h1, beq_self_eq_true, ↓reduceIte]
    have h1a : a.length = 1 := hl.trans h1
    obtain ⟨x, rfl⟩ := List.length_eq_one_iff.mp h1a
    obtain ⟨y, rfl⟩ := List.length_eq_one_iff.mp h1
    have := (h.2 x).mp (by simp)
    simp at this; simp [this]
  · simp [h1]

section sat
variable {α : Type}

def Sat {β : Type} (m : M α β) (s : St α) (Q : St α → β → Prop) : Prop :=
  ∃ s' b, m s = (s', .ok b) ∧ Q s' b

theorem sat_pure {β : Type} {b : β} {s : St α} {Q : St α → β → Prop} (h : Q s b) :
    Sat (pure b : M α β) s Q := ⟨s, b, rfl, h⟩

theorem sat_bind {β γ : Type} {m : M α β} {f : β → M α γ} {s : St α} {Q : St α → γ → Prop}
    (h : Sat m s (fun s' b => Sat (f b) s' Q)) : Sat (m >>= f) s Q := by
  obtain ⟨s', b, hm, s'', c, hf, hq⟩ := h
  refine ⟨s'', c, ?_, hq⟩
  show M.bind m f s = _
  unfold M.bind
  rw [hm]
  exact hf

theorem sat_mono {β : Type} {m : M α β} {s : St α} {Q Q' : St α → β → Prop}
    (h : Sat m s Q) (hq : ∀ s' b, Q s' b → Q' s' b) : Sat m s Q' := by
  obtain ⟨s', b, hm, h⟩ := h
  exact ⟨s', b, hm, hq _ _ h⟩

theorem sat_get {s : St α} {Q : St α → St α → Prop} (h : Q s s) : Sat (M.get : M α (St α)) s Q :=
  ⟨s, s, rfl, h⟩

theorem sat_modify {f : St α → St α} {s : St α} {Q : St α → Unit → Prop} (h : Q (f s) ()) :
    Sat (M.modify f : M α Unit) s Q := ⟨f s, (), rfl, h⟩

theorem sat_ofExcept_ok {β : Type} {b : β} {s : St α} {Q : St α → β → Prop} (h : Q s b) :
    Sat (M.ofExcept (.ok b) : M α β) s Q := ⟨s, b, rfl, h⟩

theorem sat_lookup {k : Nat} {c : Cache} {v : List Nat} {s : St α} {Q : St α → List Nat → Prop}
    (h : alookup k c = some v) (hq : Q s v) : Sat (lookupOrKeyError k c : M α (List Nat)) s Q := by
  unfold lookupOrKeyError
  rw [h]
  exact sat_pure hq

theorem Sat.elim {β : Type} {m : M α β} {s : St α} {Q : St α → β → Prop} (h : Sat m s Q) :
    ∃ s' b, m.run s = (s', .ok b) ∧ Q s' b := h

theorem sat_foldM {β : Type} (I : St α → Prop) (J : List Nat → β → Prop) (f : β → Nat → M α β)
    (l : List Nat)
    (hf : ∀ pre x acc s, x ∈ l → I s → J pre acc → Sat (f acc x) s (fun s' acc' => I s' ∧ J (pre ++ [x]) acc'))
    (pre : List Nat) (acc : β) (s : St α) (hs : I s) (hj : J pre acc) :
    Sat (M.foldM f acc l) s (fun s' r => I s' ∧ J (pre ++ l) r) := by
  induction l generalizing pre acc s with
  | nil =>
    unfold M.foldM
    exact sat_pure ⟨hs, by simpa using hj⟩
  | cons x xs ih =>
    unfold M.foldM
    apply sat_bind
    apply sat_mono (hf pre x acc s List.mem_cons_self hs hj)
    rintro s1 acc1 ⟨h1, hj1⟩
    have := ih (fun pre y acc s hy => hf pre y acc s (List.mem_cons_of_mem _ hy)) (pre ++ [x]) acc1 s1 h1 hj1
    simpa using this

theorem sat_filterM_pre (J : List Nat → St α → Prop) (p : Nat → M α Bool) (q : Nat → Bool) (l : List Nat)
    (hp : ∀ pre i s, i ∈ l → J pre s → Sat (p i) s (fun s' b => J (pre ++ [i]) s' ∧ b = q i))
    (pre : List Nat) (s : St α) (hs : J pre s) :
    Sat (M.filterM p l) s (fun s' r => J (pre ++ l) s' ∧ r = l.filter q) := by
  induction l generalizing pre s with
  | nil => exact sat_pure ⟨by simpa using hs, rfl⟩
  | cons i is ih =>
    unfold M.filterM
    apply sat_bind
    apply sat_mono (hp pre i s List.mem_cons_self hs)
    rintro s1 b ⟨h1, rfl⟩
    apply sat_bind
    apply sat_mono (ih (fun pre j s hj => hp pre j s (List.mem_cons_of_mem _ hj)) (pre ++ [i]) s1 h1)
    rintro s2 r ⟨h2, rfl⟩
    apply sat_pure
    refine ⟨by simpa using h2, ?_⟩
    rw [List.filter_cons]

theorem sat_filterM (I : St α → Prop) (p : Nat → M α Bool) (q : Nat → Bool) (l : List Nat)
    (hp : ∀ i ∈ l, ∀ s, I s → Sat (p i) s (fun s' b => I s' ∧ b = q i)) (s : St α) (hs : I s) :
    Sat (M.filterM p l) s (fun s' r => I s' ∧ r = l.filter q) :=
  sat_filterM_pre (fun _ => I) p q l (fun _ i s hi hs => hp i hi s hs) [] s hs

theorem sat_forM_split (J : List Nat → St α → Prop) (f : Nat → M α Unit) (l : List Nat)
    (hf : ∀ pre x post s, l = pre ++ x :: post → J pre s → Sat (f x) s (fun s' _ => J (pre ++ [x]) s'))
    (s : St α) (hs : J [] s) :
    Sat (M.forM f l) s (fun s' _ => J l s') := by
  suffices H : ∀ (rest pre : List Nat) (s : St α), l = pre ++ rest → J pre s →
      Sat (M.forM f rest) s (fun s' _ => J l s') from H l [] s rfl hs
  intro rest
  induction rest with
  | nil =>
    intro pre s hl hs
    unfold M.forM
    exact sat_pure (by simpa [hl] using hs)
  | cons x xs ih =>
    intro pre s hl hs
    unfold M.forM
    apply sat_bind
    apply sat_mono (hf pre x xs s hl hs)
    intro s1 _ h1
    exact ih (pre ++ [x]) s1 (by simp [hl]) h1

theorem sat_forM_pre (J : List Nat → St α → Prop) (f : Nat → M α Unit) (l : List Nat)
    (hf : ∀ pre x s, x ∈ l → J pre s → Sat (f x) s (fun s' _ => J (pre ++ [x]) s'))
    (pre : List Nat) (s : St α) (hs : J pre s) :
    Sat (M.forM f l) s (fun s' _ => J (pre ++ l) s') := by
  refine sat_forM_split (fun p s' => J (pre ++ p) s') f l (fun p x post s1 hl h1 => ?_) s
    ((List.append_nil pre).symm ▸ hs)
  rw [← List.append_assoc]
  exact hf (pre ++ p) x s1 (hl ▸ List.mem_append_right p List.mem_cons_self) h1

theorem sat_forM (I : St α → Prop) (f : Nat → M α Unit) (l : List Nat)
    (hf : ∀ x ∈ l, ∀ s, I s → Sat (f x) s (fun s' _ => I s')) (s : St α) (hs : I s) :
    Sat (M.forM f l) s (fun s' _ => I s') :=
  sat_forM_pre (fun _ => I) f l (fun _ x s hx hs => hf x hx s hs) [] s hs

end sat
end Fca.Poset
