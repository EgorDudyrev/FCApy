/-
  The order on `E ++ [e]` versus the order on `E` (the new element has index `E.length`):
  what becomes of the closed and direct relations of an old element when `e` is appended.
-/
import Fca.Lemmas.PosetFresh
namespace Fca.Poset
open Fca.Poset.Fresh

section
variable {α : Type} {leq : α → α → Bool} {E : List α} {e : α}

theorem rel_append_left {a b : Nat} (ha : a < E.length) (hb : b < E.length) :
    rel leq (E ++ [e]) a b = rel leq E a b := by
  unfold rel
  rw [List.getElem?_append_left ha, List.getElem?_append_left hb]

theorem relD_ext_lt {d : Dir} {x k : Nat} (hx : x < E.length) (hk : k < E.length) :
    relD leq d (E ++ [e]) x k = relD leq d E x k := by
  cases d <;> simp only [relD]
  · exact rel_append_left hx hk
  · exact rel_append_left hk hx

theorem ltD_ext_lt {d : Dir} {x k : Nat} (hx : x < E.length) (hk : k < E.length) :
    ltD leq d (E ++ [e]) x k = ltD leq d E x k := by
  unfold ltD; rw [relD_ext_lt hx hk]

variable [DecidableEq α]

theorem ltD_ext_le {d : Dir} {x k : Nat} (h : ltD leq d (E ++ [e]) x k = true) :
    x ≤ E.length ∧ k ≤ E.length := by
  have := ltD_lt_length h
  rw [List.length_append, List.length_singleton] at this
  exact ⟨Nat.le_of_lt_succ this.1, Nat.le_of_lt_succ this.2⟩

theorem ltD_ext_new_lt {d : Dir} {x : Nat} (h : ltD leq d (E ++ [e]) x E.length = true) : x < E.length :=
  Nat.lt_of_le_of_ne (ltD_ext_le h).1 (ltD_iff.mp h).2

theorem isCover_append_left {d : Dir} {x k : Nat} (hx : x < E.length) (hk : k < E.length) :
    isCover leq d (E ++ [e]) x k = true ↔
      (isCover leq d E x k = true ∧
        ¬(ltD leq d (E ++ [e]) x E.length = true ∧ ltD leq d (E ++ [e]) E.length k = true)) := by
  rw [isCover_iff_cover, isCover_iff_cover, List.length_append, List.length_singleton, Ord.cover_succ,
    Ord.cover_congr (fun a b ha hb => ltD_ext_lt ha hb) hx hk]

theorem ltD_append_iff {d : Dir} {i x : Nat} (hi : i < E.length) :
    ltD leq d (E ++ [e]) x i = true ↔
      ltD leq d E x i = true ∨ (x = E.length ∧ ltD leq d (E ++ [e]) E.length i = true) := by
  by_cases hx : x < E.length
  · rw [ltD_ext_lt hx hi]
    exact ⟨Or.inl, fun h => h.resolve_right fun h => Nat.ne_of_lt hx h.1⟩
  · refine ⟨fun h => ?_, fun h => h.elim (fun h => absurd (ltD_lt_length h).1 hx) fun h => h.1 ▸ h.2⟩
    have hxn : x = E.length := Nat.le_antisymm (ltD_ext_le h).1 (Nat.le_of_not_lt hx)
    exact Or.inr ⟨hxn, hxn ▸ h⟩

theorem closed_ext_old {d : Dir} {i : Nat} {v : List Nat} (hi : i < E.length)
    (hv : ∀ x, x ∈ v ↔ ltD leq d E x i = true) (hn : ltD leq d (E ++ [e]) E.length i = false) :
    ∀ x, x ∈ v ↔ ltD leq d (E ++ [e]) x i = true := by
  intro x
  rw [hv x, ltD_append_iff hi, hn]
  exact (or_iff_left fun h => nomatch h.2).symm

theorem closed_ext_new {d : Dir} {i : Nat} {v : List Nat} (hi : i < E.length)
    (hv : ∀ x, x ∈ v ↔ ltD leq d E x i = true) (hn : ltD leq d (E ++ [e]) E.length i = true) :
    ∀ x, x ∈ setUnion v [E.length] ↔ ltD leq d (E ++ [e]) x i = true := by
  intro x
  rw [mem_setUnion, hv x, ltD_append_iff hi, List.mem_singleton, and_iff_left hn]

theorem isCover_append_iff {d : Dir} {i x : Nat} (hi : i < E.length) :
    isCover leq d (E ++ [e]) x i = true ↔
      ((isCover leq d E x i = true ∧
          ¬(ltD leq d (E ++ [e]) x E.length = true ∧ ltD leq d (E ++ [e]) E.length i = true)) ∨
       (x = E.length ∧ isCover leq d.flip (E ++ [e]) i E.length = true)) := by
  by_cases hx : x < E.length
  · rw [isCover_append_left hx hi]
    exact ⟨Or.inl, fun h => h.resolve_right fun h => Nat.ne_of_lt hx h.1⟩
  · have hE : ¬ isCover leq d E x i = true := fun h => hx (ltD_lt_length (isCover_iff.mp h).1).1
    by_cases hxn : x = E.length
    · subst hxn
      rw [← isCover_flip]
      exact ⟨fun h => Or.inr ⟨rfl, h⟩, fun h => (h.resolve_left fun h => hE h.1).2⟩
    · exact ⟨fun h => absurd (Nat.lt_of_le_of_ne (ltD_ext_le (isCover_iff.mp h).1).1 hxn) hx,
        fun h => h.elim (fun h => absurd h.1 hE) fun h => absurd h.1 hxn⟩

/-- the patched direct entry `{new} | (old - closed_of_new)` -/
theorem direct_ext_new {d : Dir} {i : Nat} {v far : List Nat} (hi : i < E.length)
    (hv : ∀ x, x ∈ v ↔ isCover leq d E x i = true)
    (hfar : ∀ x, x ∈ far ↔ ltD leq d (E ++ [e]) x E.length = true)
    (h1 : ltD leq d (E ++ [e]) E.length i = true)
    (h2 : isCover leq d.flip (E ++ [e]) i E.length = true) :
    ∀ x, x ∈ setUnion [E.length] (setDiff v far) ↔ isCover leq d (E ++ [e]) x i = true := by
  intro x
  rw [mem_setUnion, mem_setDiff, hv x, hfar x, isCover_append_iff hi, List.mem_singleton, and_iff_left h2,
    and_iff_left h1]
  exact Or.comm

theorem rel_new_of_neither {i : Nat} (hi : i < E.length)
    (h1 : ltD leq .desc (E ++ [e]) i E.length = false) (h2 : ltD leq .anc (E ++ [e]) i E.length = false) :
    false = rel leq (E ++ [e]) i E.length ∧ false = rel leq (E ++ [e]) E.length i :=
  ⟨h1.symm.trans (ltD_of_ne (Nat.ne_of_lt hi)), h2.symm.trans (ltD_of_ne (Nat.ne_of_lt hi))⟩

variable (hpo' : IdxPO leq (E ++ [e]))
include hpo'

/-- If the new element is not a cover of `i`, the covers of `i` stay: had the new element come between `i` and one of
    them, an old element between the new one and `i` would lie between the two. -/
theorem direct_ext_old {d : Dir} {i : Nat} {v : List Nat} (hi : i < E.length)
    (hv : ∀ x, x ∈ v ↔ isCover leq d E x i = true)
    (h2 : isCover leq d.flip (E ++ [e]) i E.length = false) :
    ∀ x, x ∈ v ↔ isCover leq d (E ++ [e]) x i = true := by
  intro x
  rw [hv x, isCover_append_iff hi, h2]
  refine ⟨fun h => Or.inl ⟨h, fun hh => ?_⟩, fun h => h.elim (·.1) fun h => nomatch h.2⟩
  obtain ⟨z, hz1, hz2⟩ := exists_between_of_not_cover hh.2 (by rw [← isCover_flip, h2]; nofun)
  have hzl : z < E.length := Nat.lt_of_le_of_ne (ltD_ext_le hz1).2 (ltD_iff.mp hz1).2.symm
  have hxl := (ltD_lt_length (isCover_iff.mp h).1).1
  exact (isCover_iff.mp h).2 z (by rw [← ltD_ext_lt hxl hzl]; exact ltD_trans hpo' d hh.1 hz1)
    (by rw [← ltD_ext_lt hzl hi]; exact hz2)

/-- the two comparisons that `addPatchSide` stores -/
theorem rel_new_of_side {d : Dir} {i : Nat} (h : ltD leq d (E ++ [e]) i E.length = true) :
    (d == Dir.desc) = rel leq (E ++ [e]) i E.length ∧ (d == Dir.anc) = rel leq (E ++ [e]) E.length i := by
  have hne := (ltD_iff.mp h).2
  have h' : ltD leq d.flip (E ++ [e]) i E.length = false :=
    Bool.eq_false_iff.mpr fun hh => ltD_asymm hpo' d h ((ltD_flip d _ _ _).symm.trans hh)
  cases d
  · exact ⟨h.symm.trans (ltD_of_ne hne), h'.symm.trans (ltD_of_ne hne)⟩
  · exact ⟨h'.symm.trans (ltD_of_ne hne), h.symm.trans (ltD_of_ne hne)⟩

end
end Fca.Poset
