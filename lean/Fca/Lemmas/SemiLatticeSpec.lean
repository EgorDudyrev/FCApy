/-
  Lemmas/SemiLatticeSpec — the order theory behind C11, no state machine: the greatest / least element of a finite
  partial order against the list of maximal / minimal elements (`Fresh.extremes`, what `POSet.tops / bottoms`
  compute), where it is after an element is appended or erased, and that it depends on the element set only, not on
  the listing order - as do, read through elements, the `Fresh` answers `rel`, `closed`, `direct` and `eqOther`
  (`bound`, `extremes` and `index` are not treated).
-/
import Fca.Lemmas.ListAux
import Fca.Lemmas.PosetDel
import Fca.Lemmas.PosetStep
import Fca.Spec.SemiLattice
namespace Fca.SemiLattice
open Fca.Poset Fca.Poset.Fresh Fca.SemiLattice.Spec

section
variable {α : Type} {leq : α → α → Bool} {E : List α}

theorem isExt_iff {d : Dir} {t : Nat} :
    isExt leq d E t = true ↔ t < E.length ∧ ∀ i, i < E.length → relD leq d E t i = true := by
  unfold isExt
  simp only [Bool.and_eq_true, decide_eq_true_eq, List.all_eq_true, List.mem_range]

theorem relD_eraseIdx (d : Dir) (k i j : Nat) :
    relD leq d (E.eraseIdx k) i j = relD leq d E (ListAux.upIdx k i) (ListAux.upIdx k j) := by
  cases d <;> simp only [relD] <;> exact rel_eraseIdx _ _ _

theorem isExt_eraseIdx {d : Dir} {t k : Nat} (h : isExt leq d E t = true) (hk : k < E.length) (hne : t ≠ k) :
    isExt leq d (E.eraseIdx k) (decrIdx t k) = true := by
  obtain ⟨ht, hall⟩ := isExt_iff.mp h
  rw [isExt_iff, List.length_eraseIdx_of_lt hk]
  refine ⟨decr_lt ht hne hk, fun i hi => ?_⟩
  rw [relD_eraseIdx, up_decr hne]
  exact hall _ (ListAux.upIdx_lt hk hi)

/-- the flag `is_bigger_than_top` (`.anc`) / `is_smaller_than_bottom` (`.desc`) -/
def beyond (leq : α → α → Bool) (d : Dir) (e x : α) : Bool :=
  match d with
  | .anc => leq x e
  | .desc => leq e x

/-- the other comparison: `is_smaller_than_top` / `is_bigger_than_bottom` -/
def inner (leq : α → α → Bool) (d : Dir) (e x : α) : Bool :=
  match d with
  | .anc => leq e x
  | .desc => leq x e

theorem incomparable_eq_inner_beyond (d : Dir) (e x : α) :
    incomparable leq e x = !(inner leq d e x || beyond leq d e x) := by
  cases d <;> simp [incomparable, inner, beyond, Bool.or_comm]

theorem relD_elem {d : Dir} {i j : Nat} {a b : α} (ha : E[i]? = some a) (hb : E[j]? = some b) :
    relD leq d E i j = inner leq d b a := by
  cases d <;> simp [relD, rel, ha, hb, inner]

/-- `x` is the greatest (`.anc`) / least (`.desc`) element of the set listed by `E` -/
def IsExtremeElem (leq : α → α → Bool) (d : Dir) (E : List α) (x : α) : Prop :=
  x ∈ E ∧ ∀ y ∈ E, inner leq d y x = true

theorem isExtremeElem_congr {E' : List α} (h : ∀ x, x ∈ E ↔ x ∈ E') {d : Dir} {x : α}
    (hx : IsExtremeElem leq d E x) : IsExtremeElem leq d E' x :=
  ⟨(h x).mp hx.1, fun y hy => hx.2 y ((h y).mpr hy)⟩

theorem isExt_iff_elem {d : Dir} {t : Nat} :
    isExt leq d E t = true ↔ ∃ x, E[t]? = some x ∧ IsExtremeElem leq d E x := by
  rw [isExt_iff]
  constructor
  · rintro ⟨ht, hall⟩
    refine ⟨E[t], List.getElem?_eq_getElem ht, List.getElem_mem ht, fun y hy => ?_⟩
    obtain ⟨i, hi, rfl⟩ := List.getElem_of_mem hy
    rw [← relD_elem (List.getElem?_eq_getElem ht) (List.getElem?_eq_getElem hi)]
    exact hall i hi
  · rintro ⟨x, hx, _, hall⟩
    refine ⟨(List.getElem?_eq_some_iff.mp hx).1, fun i hi => ?_⟩
    rw [relD_elem hx (List.getElem?_eq_getElem hi)]
    exact hall _ (List.getElem_mem hi)

def HasExtremes (leq : α → α → Bool) (cls : Cls) (E : List α) : Prop :=
  ∀ d, cls.has d = true → ∃ t, isExt leq d E t = true

theorem hasExtremes_congr {E E' : List α} (h : ∀ x, x ∈ E ↔ x ∈ E') {cls : Cls}
    (hE : HasExtremes leq cls E) : HasExtremes leq cls E' := by
  intro d hd
  obtain ⟨t, ht⟩ := hE d hd
  obtain ⟨x, _, hx⟩ := isExt_iff_elem.mp ht
  have hx' := isExtremeElem_congr h hx
  obtain ⟨t', ht'⟩ := List.mem_iff_getElem?.mp hx'.1
  exact ⟨t', isExt_iff_elem.mpr ⟨x, ht', hx'⟩⟩

end

section
variable {α : Type} [DecidableEq α] {leq : α → α → Bool} {E : List α} {U : α → Prop}

theorem isExt_iff_greatest (hpo : IdxPO leq E) {d : Dir} {t : Nat} :
    isExt leq d E t = true ↔ Ord.Greatest E.length (Ord.flipR (ltD leq d E)) t :=
  isExt_iff.trans (and_congr_right fun ht => forall₂_congr fun j hj =>
    ⟨fun h hne => ltD_iff.mpr ⟨h, fun e => hne e.symm⟩,
     fun h => Classical.byCases (fun e : j = t => by rw [e]; exact relD_refl hpo d ht) fun e => (ltD_iff.mp (h e)).1⟩)

theorem isExt_unique (hpo : IdxPO leq E) {d : Dir} {t t' : Nat} (h : isExt leq d E t = true)
    (h' : isExt leq d E t' = true) : t = t' :=
  (hpo.strict d).flip.greatest_unique ((isExt_iff_greatest hpo).mp h') ((isExt_iff_greatest hpo).mp h)

theorem greatest_eq_some_iff (hpo : IdxPO leq E) {d : Dir} {t : Nat} :
    greatest leq d E = some t ↔ isExt leq d E t = true := by
  unfold greatest
  refine ⟨List.find?_some, fun h => ?_⟩
  cases hf : (List.range E.length).find? (isExt leq d E) with
  | none => exact absurd h (List.find?_eq_none.mp hf t (List.mem_range.mpr (isExt_iff.mp h).1))
  | some t' => rw [isExt_unique hpo (List.find?_some hf) h]

set_option linter.unusedSectionVars false in
theorem greatest_eq_none_iff {d : Dir} :
    greatest leq d E = none ↔ ∀ t, isExt leq d E t = false := by
  unfold greatest
  rw [List.find?_eq_none]
  constructor
  · intro h t
    by_cases ht : t < E.length
    · simpa using h t (List.mem_range.mpr ht)
    · exact Bool.eq_false_iff.mpr fun hx => ht (isExt_iff.mp hx).1
  · intro h t _; simp [h t]

theorem mem_extremes {d : Dir} {i : Nat} :
    i ∈ extremes leq d E ↔ i < E.length ∧ ∀ x, ltD leq d E x i = false := by
  simp only [extremes, List.mem_filter, List.mem_range, List.isEmpty_iff, List.eq_nil_iff_forall_not_mem, mem_closed,
    Bool.not_eq_true]

theorem extremes_of_isExt (hpo : IdxPO leq E) {d : Dir} {t : Nat} (h : isExt leq d E t = true) :
    extremes leq d E = [t] := by
  obtain ⟨ht, hall⟩ := isExt_iff.mp h
  refine ListAux.sorted_ext (List.pairwise_lt_range.filter _) (List.pairwise_singleton _ _) fun m => ?_
  rw [mem_extremes, List.mem_singleton]
  constructor
  · rintro ⟨hml, hmx⟩
    refine Classical.byContradiction fun hne => ?_
    have : ltD leq d E t m = true := ltD_iff.mpr ⟨hall m hml, fun e => hne e.symm⟩
    rw [hmx t] at this
    cases this
  · rintro rfl
    refine ⟨ht, fun x => Bool.eq_false_iff.mpr fun hx => ?_⟩
    obtain ⟨h1, h2⟩ := ltD_iff.mp hx
    exact h2 (relD_antisymm hpo d h1 (hall x (relD_lt_length h1).1))

theorem isExt_of_extremes (hpo : IdxPO leq E) {d : Dir} {t : Nat} (h : extremes leq d E = [t]) :
    isExt leq d E t = true := by
  have hmem : ∀ m, m ∈ extremes leq d E ↔ m = t := fun m => by rw [h, List.mem_singleton]
  have ht := (mem_extremes.mp ((hmem t).mpr rfl)).1
  refine (isExt_iff_greatest hpo).mpr ((hpo.strict d).flip.greatest_of_unique_maximal (fun m hm hmax => ?_)
    (Nat.lt_of_le_of_lt (Nat.zero_le _) ht))
  exact (hmem m).mp (mem_extremes.mpr ⟨hm, fun x => Bool.eq_false_iff.mpr fun hx => hmax x (ltD_lt_length hx).1 hx⟩)

theorem extremes_singleton_iff (hpo : IdxPO leq E) {d : Dir} {t : Nat} :
    extremes leq d E = [t] ↔ isExt leq d E t = true :=
  ⟨isExt_of_extremes hpo, extremes_of_isExt hpo⟩

/-- the constructor's check `len(top_elements) != 1` passes iff there is a greatest element -/
theorem extremes_length_one_iff (hpo : IdxPO leq E) {d : Dir} :
    (extremes leq d E).length = 1 ↔ ∃ t, isExt leq d E t = true :=
  List.length_eq_one_iff.trans (exists_congr fun _ => extremes_singleton_iff hpo)

theorem relD_eq {d : Dir} {i j : Nat} (hi : i < E.length) (hj : j < E.length) :
    relD leq d E i j = (match d with
      | .desc => leq E[i] E[j]
      | .anc => leq E[j] E[i]) := by
  cases d <;> simp only [relD]
  · exact rel_eq hi hj
  · exact rel_eq hj hi

set_option linter.unusedSectionVars false in
theorem isExtremeElem_unique (hpoU : PO leq U) {E : List α} (hU : ∀ a ∈ E, U a) {d : Dir} {x y : α}
    (hx : IsExtremeElem leq d E x) (hy : IsExtremeElem leq d E y) : x = y := by
  have h1 := hx.2 y hy.1
  have h2 := hy.2 x hx.1
  cases d <;> simp only [inner] at h1 h2
  · exact hpoU.antisymm _ _ (hU _ hx.1) (hU _ hy.1) h1 h2
  · exact hpoU.antisymm _ _ (hU _ hx.1) (hU _ hy.1) h2 h1

theorem greatestElem_eq_some_iff (hpoU : PO leq U) {E : List α} (hnd : E.Nodup) (hU : ∀ a ∈ E, U a) {d : Dir}
    {x : α} : greatestElem leq d E = some x ↔ IsExtremeElem leq d E x := by
  have hpo : IdxPO leq E := idxPO_of hpoU hnd hU
  constructor
  · intro h
    unfold greatestElem at h
    split at h
    · rename_i t hg
      obtain ⟨x', hx', he⟩ := isExt_iff_elem.mp ((greatest_eq_some_iff hpo).mp hg)
      rw [hx'] at h
      cases h
      exact he
    · cases h
  · intro h
    obtain ⟨t, hx⟩ := List.mem_iff_getElem?.mp h.1
    simp [greatestElem, (greatest_eq_some_iff hpo).mpr (isExt_iff_elem.mpr ⟨x, hx, h⟩), hx]

theorem greatestElem_congr (hpoU : PO leq U) {E E' : List α} (hnd : E.Nodup) (hnd' : E'.Nodup)
    (hU : ∀ a ∈ E, U a) (h : ∀ x, x ∈ E ↔ x ∈ E') (d : Dir) : greatestElem leq d E = greatestElem leq d E' := by
  refine Option.ext fun x => ?_
  rw [greatestElem_eq_some_iff hpoU hnd hU, greatestElem_eq_some_iff hpoU hnd' fun a ha => hU a ((h a).mpr ha)]
  exact ⟨isExtremeElem_congr h, isExtremeElem_congr fun x => (h x).symm⟩

theorem mem_next_add {e a : α} {f : Bool} : a ∈ next E (.add e f) ↔ a ∈ E ∨ a = e := by
  simp only [next]
  split
  · exact ⟨Or.inl, fun h => h.elim id fun h => h ▸ ‹e ∈ E›⟩
  · simp

theorem getElem?_next_add {t : Nat} {x : α} (hx : E[t]? = some x) (e : α) (f : Bool) :
    (next E (.add e f))[t]? = some x := by
  simp only [next]
  split
  · exact hx
  · rw [List.getElem?_append_left (List.getElem?_eq_some_iff.mp hx).1, hx]

/-- The greatest (least) element after `add e`, for `e` comparable with the old one `x`: `e` if it is beyond `x`
    (at the index that `_elements_to_index_map[e]` gives), else `x` at its old index. -/
theorem isExt_after_add (hpoU : PO leq U) (hU : ∀ a ∈ E, U a) {e : α} (heU : U e) {d : Dir}
    {t : Nat} {x : α} (ht : isExt leq d E t = true) (hx : E[t]? = some x) (hcomp : incomparable leq e x = false)
    (f : Bool) :
    (beyond leq d e x = true →
      ∃ i, indexOf? e (next E (.add e f)) = some i ∧ isExt leq d (next E (.add e f)) i = true) ∧
    (beyond leq d e x = false → isExt leq d (next E (.add e f)) t = true) := by
  obtain ⟨x', hx', hxE, hall⟩ := isExt_iff_elem.mp ht
  obtain rfl : x = x' := Option.some.inj (hx.symm.trans hx')
  constructor
  · intro hb
    obtain ⟨i, hi⟩ := indexOf?_some_of_mem (mem_next_add.mpr (Or.inr rfl) : e ∈ next E (.add e f))
    refine ⟨i, hi, isExt_iff_elem.mpr ⟨e, indexOf?_spec hi, mem_next_add.mpr (Or.inr rfl), fun y hy => ?_⟩⟩
    rcases mem_next_add.mp hy with hy | rfl
    · have h1 := hall y hy
      cases d <;> simp only [inner, beyond] at h1 hb ⊢
      · exact hpoU.trans _ _ _ heU (hU _ hxE) (hU _ hy) hb h1
      · exact hpoU.trans _ _ _ (hU _ hy) (hU _ hxE) heU h1 hb
    · cases d <;> exact hpoU.refl _ heU
  · intro hb
    have hin : inner leq d e x = true := by
      rw [incomparable_eq_inner_beyond d, hb] at hcomp
      simpa using hcomp
    refine isExt_iff_elem.mpr ⟨x, getElem?_next_add hx e f, mem_next_add.mpr (Or.inl hxE), fun y hy => ?_⟩
    rcases mem_next_add.mp hy with hy | rfl
    · exact hall y hy
    · exact hin

theorem mem_foldl_add (l : List α) (f : Bool) (E : List α) (x : α) :
    x ∈ (l.map fun e => Op.add e f).foldl next E ↔ x ∈ E ∨ x ∈ l := by
  induction l generalizing E with
  | nil => simp
  | cons e l ih => simp only [List.map_cons, List.foldl_cons, ih, mem_next_add, List.mem_cons, or_assoc]

theorem next_remove (E : List α) (e : α) : next E (.remove e) = E.erase e := by
  rw [List.erase_eq_eraseIdx, ← indexOf?_eq_idxOf?]
  simp only [next]
  cases indexOf? e E <;> rfl

theorem mem_next_remove {E : List α} (hnd : E.Nodup) (e x : α) :
    x ∈ next E (.remove e) ↔ x ∈ E ∧ x ≠ e := by
  rw [next_remove, hnd.mem_erase_iff, and_comm]

theorem mem_foldl_remove (l : List α) {E : List α} (hnd : E.Nodup) (x : α) :
    x ∈ (l.map Op.remove).foldl next E ↔ x ∈ E ∧ x ∉ l := by
  induction l generalizing E with
  | nil => simp
  | cons e l ih =>
    simp only [List.map_cons, List.foldl_cons]
    rw [ih (next_nodup hnd _), mem_next_remove hnd]
    simp only [List.mem_cons, not_or, and_assoc]

def addNext (E : List α) (e : α) : List α := if e ∈ E then E else E ++ [e]

theorem addNext_eq_next (E : List α) (e : α) (f : Bool) : addNext E e = next E (.add e f) := rfl

theorem mem_dirsOf {cls : Cls} {d : Dir} : d ∈ dirsOf cls ↔ cls.has d = true := by
  cases cls <;> cases d <;> decide

theorem forall_has_upper {p : Dir → Prop} : (∀ d, Cls.upper.has d = true → p d) ↔ p .anc :=
  ⟨fun h => h .anc rfl, fun h d hd => by cases d <;> first | exact h | cases hd⟩

theorem forall_has_lower {p : Dir → Prop} : (∀ d, Cls.lower.has d = true → p d) ↔ p .desc :=
  ⟨fun h => h .desc rfl, fun h d hd => by cases d <;> first | exact h | cases hd⟩

theorem forall_has_lattice {p : Dir → Prop} : (∀ d, Cls.lattice.has d = true → p d) ↔ p .anc ∧ p .desc :=
  ⟨fun h => ⟨h .anc rfl, h .desc rfl⟩, fun h d _ => by cases d <;> first | exact h.2 | exact h.1⟩

theorem refusal_add (cls : Cls) (E : List α) (e : α) (f : Bool) :
    refusal leq cls E (.add e f) =
      if (dirsOf cls).any (fun d => (greatestElem leq d E).any (incomparable leq e)) then some .ValueError
      else none := rfl

theorem refusal_del (cls : Cls) (E : List α) (k : Nat) :
    refusal leq cls E (.del k) =
      if (dirsOf cls).any (fun d => greatest leq d E == some k) then some .KeyError
      else if k < E.length then none else some .IndexError := rfl

theorem refusal_remove (cls : Cls) (E : List α) (e : α) :
    refusal leq cls E (.remove e) =
      if (dirsOf cls).any (fun d => greatestElem leq d E == some e) then some .ValueError
      else if e ∈ E then none else some .KeyError := rfl

theorem refusal_add_eq_none {cls : Cls} {E : List α} {e : α} {f : Bool}
    (h : refusal leq cls E (.add e f) = none) {d : Dir} (hd : cls.has d = true) {x : α}
    (hx : greatestElem leq d E = some x) : incomparable leq e x = false := by
  rw [refusal_add] at h
  split at h
  · cases h
  · rename_i hany
    cases hi : incomparable leq e x
    · rfl
    · exact absurd (List.any_eq_true.mpr ⟨d, mem_dirsOf.mpr hd, by rw [hx]; exact hi⟩) hany

theorem refusal_del_eq_none {cls : Cls} {E : List α} {k : Nat} (h : refusal leq cls E (.del k) = none) :
    k < E.length ∧ ∀ d, cls.has d = true → greatest leq d E ≠ some k := by
  rw [refusal_del] at h
  by_cases hany : ((dirsOf cls).any fun d => greatest leq d E == some k) = true
  · rw [if_pos hany] at h
    cases h
  · rw [if_neg hany] at h
    by_cases hk : k < E.length
    · exact ⟨hk, fun d hd hg => hany (List.any_eq_true.mpr ⟨d, mem_dirsOf.mpr hd, by rw [hg]; exact beq_self_eq_true _⟩)⟩
    · rw [if_neg hk] at h
      cases h

theorem refusal_remove_eq_none {cls : Cls} {E : List α} {e : α} (h : refusal leq cls E (.remove e) = none) :
    e ∈ E ∧ ∀ d, cls.has d = true → greatestElem leq d E ≠ some e := by
  rw [refusal_remove] at h
  by_cases hany : ((dirsOf cls).any fun d => greatestElem leq d E == some e) = true
  · rw [if_pos hany] at h
    cases h
  · rw [if_neg hany] at h
    by_cases he : e ∈ E
    · exact ⟨he, fun d hd hg => hany (List.any_eq_true.mpr ⟨d, mem_dirsOf.mpr hd, by rw [hg]; exact beq_self_eq_true _⟩)⟩
    · rw [if_neg he] at h
      cases h

theorem refusal_del_of_remove {cls : Cls} {E : List α} {e : α} {i : Nat}
    (h : refusal leq cls E (.remove e) = none) (hi : indexOf? e E = some i) :
    refusal leq cls E (.del i) = none := by
  have hie := indexOf?_spec hi
  rw [refusal_del, if_neg, if_pos (List.getElem?_eq_some_iff.mp hie).1]
  intro hany
  obtain ⟨d, hd, hg⟩ := List.any_eq_true.mp hany
  refine (refusal_remove_eq_none h).2 d (mem_dirsOf.mp hd) ?_
  rw [greatestElem, eq_of_beq hg]
  exact hie

/-- `y` is strictly on the `d` side of `x` (`.desc`: `y < x`, `.anc`: `y > x`) -/
def strictD (leq : α → α → Bool) (d : Dir) (y x : α) : Prop := inner leq d x y = true ∧ y ≠ x

def Denotes (E : List α) (l : List Nat) (y : α) : Prop := ∃ j, j ∈ l ∧ E[j]? = some y

theorem ltD_elem (hnd : E.Nodup) {d : Dir} {j i : Nat} {y x : α} (hj : E[j]? = some y) (hi : E[i]? = some x) :
    ltD leq d E j i = true ↔ strictD leq d y x := by
  rw [ltD_iff, relD_elem hj hi]
  constructor
  · rintro ⟨h1, h2⟩
    exact ⟨h1, fun e => h2 ((List.getElem?_inj (List.getElem?_eq_some_iff.mp hj).1 hnd).mp (hj.trans (e ▸ hi.symm)))⟩
  · rintro ⟨h1, h2⟩
    exact ⟨h1, fun e => h2 (by subst e; rw [hj] at hi; exact Option.some.inj hi)⟩

theorem closed_denotes (hnd : E.Nodup) {d : Dir} {i : Nat} {x : α} (hi : E[i]? = some x) (y : α) :
    Denotes E (closed leq d E i) y ↔ y ∈ E ∧ strictD leq d y x := by
  constructor
  · rintro ⟨j, hj, hy⟩
    exact ⟨List.mem_of_getElem? hy, (ltD_elem hnd hy hi).mp (mem_closed.mp hj)⟩
  · rintro ⟨hy, hs⟩
    obtain ⟨j, hj⟩ := List.mem_iff_getElem?.mp hy
    exact ⟨j, mem_closed.mpr ((ltD_elem hnd hj hi).mpr hs), hj⟩

theorem direct_denotes (hnd : E.Nodup) {d : Dir} {i : Nat} {x : α} (hi : E[i]? = some x) (y : α) :
    Denotes E (direct leq d E i) y ↔
      y ∈ E ∧ strictD leq d y x ∧ ∀ z ∈ E, ¬ (strictD leq d y z ∧ strictD leq d z x) := by
  constructor
  · rintro ⟨j, hj, hy⟩
    obtain ⟨h1, h2⟩ := isCover_iff.mp (mem_direct.mp hj)
    refine ⟨List.mem_of_getElem? hy, (ltD_elem hnd hy hi).mp h1, fun z hz hzz => ?_⟩
    obtain ⟨k, hk⟩ := List.mem_iff_getElem?.mp hz
    exact h2 k ((ltD_elem hnd hy hk).mpr hzz.1) ((ltD_elem hnd hk hi).mpr hzz.2)
  · rintro ⟨hy, hs, hz⟩
    obtain ⟨j, hj⟩ := List.mem_iff_getElem?.mp hy
    refine ⟨j, mem_direct.mpr (isCover_iff.mpr ⟨(ltD_elem hnd hj hi).mpr hs, fun k hk1 hk2 => ?_⟩), hj⟩
    have hkl := (ltD_lt_length hk1).2
    have hk : E[k]? = some E[k] := List.getElem?_eq_getElem hkl
    exact hz _ (List.getElem_mem hkl) ⟨(ltD_elem hnd hj hk).mp hk1, (ltD_elem hnd hk hi).mp hk2⟩

omit [DecidableEq α] in
/-- `other.descendants(j)` as the model of `POSet.__eq__` computes it is the specified strict down-set -/
theorem otherDesc_eq_closed (O : List α) (j : Nat) : otherDesc leq O j = closed leq .desc O j := rfl

/-- two duplicate-free listings of one element set are `POSet.__eq__`-equal -/
theorem eqOther_of_same_set {O : List α} (hnd : E.Nodup) (hndO : O.Nodup) (h : ∀ x, x ∈ E ↔ x ∈ O) :
    eqOther leq E O = true := by
  unfold eqOther
  simp only [Bool.and_eq_true, List.all_eq_true, decide_eq_true_eq, List.mem_range]
  refine ⟨⟨fun x hx => (h x).mp hx, fun x hx => (h x).mpr hx⟩, fun i hi => ?_⟩
  unfold eqAt
  have hie : E[i]? = some E[i] := List.getElem?_eq_getElem hi
  rw [hie]
  simp only
  obtain ⟨oi, hoi⟩ := indexOf?_some_of_mem ((h _).mp (List.getElem_mem hi))
  have hoie := indexOf?_spec hoi
  rw [hoi]
  simp only [setEq, Bool.and_eq_true, List.all_eq_true, decide_eq_true_eq]
  -- both down-sets are `closed .desc`, of `O` and of `E`: read each through elements (`ltD_elem`)
  have hmem : ∀ x, x ∈ otherDescMapped leq O E oi ↔ x ∈ closed leq .desc E i := by
    intro x
    unfold otherDescMapped
    rw [otherDesc_eq_closed, List.mem_filterMap]
    constructor
    · rintro ⟨j, hj, hx⟩
      have hjl := (ltD_lt_length (mem_closed.mp hj)).1
      have hje : O[j]? = some O[j] := List.getElem?_eq_getElem hjl
      rw [hje] at hx
      exact mem_closed.mpr ((ltD_elem hnd (indexOf?_spec hx) hie).mpr ((ltD_elem hndO hje hoie).mp (mem_closed.mp hj)))
    · intro hx
      have hxl := (ltD_lt_length (mem_closed.mp hx)).1
      obtain ⟨j, hje⟩ := List.mem_iff_getElem?.mp ((h _).mp (List.getElem_mem hxl))
      refine ⟨j, mem_closed.mpr ((ltD_elem hndO hje hoie).mpr
        ((ltD_elem hnd (List.getElem?_eq_getElem hxl) hie).mp (mem_closed.mp hx))), ?_⟩
      rw [hje]
      exact indexOf?_getElem hnd hxl
  exact ⟨fun x hx => (hmem x).mpr hx, fun x hx => (hmem x).mp hx⟩

end
end Fca.SemiLattice
