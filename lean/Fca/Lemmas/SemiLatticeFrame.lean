/-
  Lemmas/SemiLatticeFrame — a Hoare calculus for the `POSet` monad with a postcondition for each exit (`Tr`), and its
  special case `Keeps I m`: `m` keeps the state property `I` whether it returns or raises.  Every query reaches the
  caches through `leqE`, `closedE`, `directE` only, and the loops of `add` and `reconnect_relatives` only write cache
  entries, so a property that survives those writes (`Stable`) is kept by every query step (`step_query_keeps`) and
  by the loops.  Where `self.children` / `self.parents` write a direct entry, the closed entry of the same key is
  present (`HasClosed`); where the two loops re-write one, it has just been read; `I` may rely on either.  No cache
  invariant is assumed.
-/
import Fca.Lemmas.PosetStep
namespace Fca.Poset

section
variable {α : Type}

/-- `{P} m {Qok | Qerr}`.  A structure (as `FrameSL`), not a `def`: a `def` whose body is a `∀` is unfolded by the
    elaborator at every application of a rule, and comparing the two `match`es then runs the rest of the program. -/
structure Tr {β : Type} (P : St α → Prop) (m : M α β) (Qok : β → St α → Prop) (Qerr : St α → Prop) : Prop where
  h : ∀ s, P s → match (m s).2 with
    | .ok b => Qok b (m s).1
    | .error _ => Qerr (m s).1

theorem tr_pure {β : Type} {P : St α → Prop} {Qok : β → St α → Prop} {Qerr : St α → Prop} (b : β)
    (h : ∀ s, P s → Qok b s) : Tr P (pure b : M α β) Qok Qerr := ⟨h⟩

theorem tr_throw {β : Type} {P : St α → Prop} {Qok : β → St α → Prop} {Qerr : St α → Prop} (e : PyErr)
    (h : ∀ s, P s → Qerr s) : Tr P (M.throw e : M α β) Qok Qerr := ⟨h⟩

theorem tr_modify {P : St α → Prop} {Qok : Unit → St α → Prop} {Qerr : St α → Prop} (f : St α → St α)
    (h : ∀ s, P s → Qok () (f s)) : Tr P (M.modify f : M α Unit) Qok Qerr := ⟨h⟩

theorem tr_bind {β γ : Type} {P : St α → Prop} {R : β → St α → Prop} {Qok : γ → St α → Prop} {Qerr : St α → Prop}
    {m : M α β} {f : β → M α γ} (hm : Tr P m R Qerr) (hf : ∀ b, Tr (R b) (f b) Qok Qerr) :
    Tr P (m >>= f) Qok Qerr := by
  constructor
  intro s hs
  have h1 := hm.h s hs
  show match (M.bind m f s).2 with
    | .ok b => Qok b (M.bind m f s).1
    | .error _ => Qerr (M.bind m f s).1
  unfold M.bind
  cases hr : m s with
  | mk s' r =>
    rw [hr] at h1
    cases r with
    | error e => exact h1
    | ok b => exact (hf b).h s' h1

/-- `let s ← get`: the bound value IS the current state -/
theorem tr_get {γ : Type} {P : St α → Prop} {Qok : γ → St α → Prop} {Qerr : St α → Prop} {f : St α → M α γ}
    (hf : ∀ s0, Tr (fun s => P s ∧ s = s0) (f s0) Qok Qerr) : Tr P (M.get >>= f) Qok Qerr :=
  ⟨fun s hs => (hf s).h s ⟨hs, rfl⟩⟩

theorem tr_ite {β : Type} {P : St α → Prop} {Qok : β → St α → Prop} {Qerr : St α → Prop} {c : Prop} [Decidable c]
    {m1 m2 : M α β} (h1 : Tr P m1 Qok Qerr) (h2 : Tr P m2 Qok Qerr) : Tr P (if c then m1 else m2) Qok Qerr := by
  split
  · exact h1
  · exact h2

theorem tr_intro {β : Type} {P : St α → Prop} {Qok : β → St α → Prop} {Qerr : St α → Prop} {m : M α β}
    (hok : ∀ s, P s → ∀ b, (m s).2 = .ok b → Qok b (m s).1)
    (herr : ∀ s, P s → ∀ e, (m s).2 = .error e → Qerr (m s).1) : Tr P m Qok Qerr := by
  constructor
  intro s hs
  cases h : (m s).2 with
  | ok b => exact hok s hs b h
  | error e => exact herr s hs e h

theorem Tr.ok {β : Type} {P : St α → Prop} {Qok : β → St α → Prop} {Qerr : St α → Prop} {m : M α β}
    (h : Tr P m Qok Qerr) {s : St α} (hs : P s) {b : β} (hb : (m s).2 = .ok b) : Qok b (m s).1 := by
  have := h.h s hs
  rw [hb] at this
  exact this

theorem Tr.err {β : Type} {P : St α → Prop} {Qok : β → St α → Prop} {Qerr : St α → Prop} {m : M α β}
    (h : Tr P m Qok Qerr) {s : St α} (hs : P s) {e : PyErr} (hb : (m s).2 = .error e) : Qerr (m s).1 := by
  have := h.h s hs
  rw [hb] at this
  exact this

theorem tr_weaken {β : Type} {P P' : St α → Prop} {Qok Qok' : β → St α → Prop} {Qerr Qerr' : St α → Prop}
    {m : M α β} (h : Tr P' m Qok' Qerr') (hp : ∀ s, P s → P' s) (hok : ∀ b s, Qok' b s → Qok b s)
    (herr : ∀ s, Qerr' s → Qerr s) : Tr P m Qok Qerr :=
  tr_intro (fun s hs b hb => hok b _ (h.ok (hp s hs) hb)) fun s hs _ hb => herr _ (h.err (hp s hs) hb)

theorem Tr.weaken_pre {β : Type} {P P' : St α → Prop} {Qok : β → St α → Prop} {Qerr : St α → Prop} {m : M α β}
    (h : Tr P' m Qok Qerr) (hp : ∀ s, P s → P' s) : Tr P m Qok Qerr :=
  tr_weaken h hp (fun _ _ h => h) fun _ h => h

theorem Tr.weaken_err {β : Type} {P : St α → Prop} {Qok : β → St α → Prop} {Qerr Qerr' : St α → Prop} {m : M α β}
    (h : Tr P m Qok Qerr') (herr : ∀ s, Qerr' s → Qerr s) : Tr P m Qok Qerr :=
  tr_weaken h (fun _ h => h) (fun _ _ h => h) herr

theorem Tr.and {β : Type} {P P' : St α → Prop} {Qok Qok' : β → St α → Prop} {Qerr Qerr' : St α → Prop}
    {m : M α β} (h : Tr P m Qok Qerr) (h' : Tr P' m Qok' Qerr') :
    Tr (fun s => P s ∧ P' s) m (fun b s => Qok b s ∧ Qok' b s) (fun s => Qerr s ∧ Qerr' s) :=
  tr_intro (fun _ hs _ hb => ⟨h.ok hs.1 hb, h'.ok hs.2 hb⟩) fun _ hs _ hb => ⟨h.err hs.1 hb, h'.err hs.2 hb⟩

abbrev Keeps {β : Type} (I : St α → Prop) (m : M α β) : Prop := Tr I m (fun _ => I) I

variable {I : St α → Prop}

theorem keeps_of_state {β : Type} {m : M α β} (h : ∀ s, I s → I (m s).1) : Keeps I m :=
  tr_intro (fun s hs _ _ => h s hs) (fun s hs _ _ => h s hs)

/-- `m` keeps `I`, read at a state `x` that IS `(m s).1`: `hx` holds by `rfl` and is asked for last, so that a goal about
    the first component of a folded call (`I (step leq ord s op).1`) is matched as it stands, `s` is known from `hs`, and
    `step` is unfolded once, in `hx` -/
theorem Keeps.state {β : Type} {m : M α β} (h : Keeps I m) {s x : St α} (hs : I s) (hx : x = (m s).1 := by rfl) : I x := by
  subst hx
  cases hr : (m s).2 with
  | ok b => exact Tr.ok h hs hr
  | error e => exact Tr.err h hs hr

theorem Keeps.run {β : Type} {m : M α β} (h : Keeps I m) {s s' : St α} {r : Except PyErr β} (hs : I s)
    (hrun : m s = (s', r)) : I s' := by
  have := h.state hs
  rwa [hrun] at this

theorem keeps_pure {β : Type} (b : β) : Keeps I (pure b : M α β) := tr_pure _ fun _ h => h
theorem keeps_throw {β : Type} (e : PyErr) : Keeps I (M.throw e : M α β) := tr_throw _ fun _ h => h
theorem keeps_modify {f : St α → St α} (hf : ∀ s, I s → I (f s)) : Keeps I (M.modify f : M α Unit) :=
  tr_modify f hf
theorem keeps_ofExcept {β : Type} (x : Except PyErr β) : Keeps I (M.ofExcept x : M α β) := by
  cases x <;> exact ⟨fun _ h => h⟩

theorem keeps_get_bind {γ : Type} {f : St α → M α γ} (hf : ∀ s0, Keeps I (f s0)) : Keeps I (M.get >>= f) :=
  tr_get fun s0 => (hf s0).weaken_pre fun _ h => h.1

theorem keeps_filterM {p : Nat → M α Bool} (hp : ∀ i, Keeps I (p i)) (l : List Nat) : Keeps I (M.filterM p l) := by
  induction l with
  | nil => exact keeps_pure _
  | cons i is ih =>
    unfold M.filterM
    exact tr_bind (hp i) fun b => tr_bind ih fun r => keeps_pure _

theorem keeps_foldM {β : Type} {f : β → Nat → M α β} (hf : ∀ a x, Keeps I (f a x)) (acc : β) (l : List Nat) :
    Keeps I (M.foldM f acc l) := by
  induction l generalizing acc with
  | nil => exact keeps_pure _
  | cons x xs ih =>
    unfold M.foldM
    exact tr_bind (hf acc x) fun a => ih a

theorem keeps_forM {f : Nat → M α Unit} (hf : ∀ x, Keeps I (f x)) (l : List Nat) : Keeps I (M.forM f l) := by
  induction l with
  | nil => exact keeps_pure _
  | cons x xs ih =>
    unfold M.forM
    exact tr_bind (hf x) fun _ => ih

/-- `self._cache[k]`: where it returns, the entry is there -/
theorem tr_lookup {P Qerr : St α → Prop} {Q : List Nat → St α → Prop} (k : Nat) (c : Cache)
    (hok : ∀ s v, P s → alookup k c = some v → Q v s) (herr : ∀ s, P s → Qerr s) :
    Tr P (lookupOrKeyError k c : M α (List Nat)) Q Qerr := by
  unfold lookupOrKeyError
  split
  · rename_i v hv
    exact tr_pure _ fun s hs => hok s v hs hv
  · exact tr_throw _ herr

theorem keeps_lookupOrKeyError (k : Nat) (c : Cache) : Keeps I (lookupOrKeyError k c : M α (List Nat)) :=
  tr_lookup k c (fun _ _ h _ => h) fun _ h => h

variable {leq : α → α → Bool} {ord : List Nat → List Nat}

def HasClosed (d : Dir) (k : Nat) (s : St α) : Prop := (alookup k (s.closed d)).isSome = true

/-- `I` survives every write to the caches that a query, the patching loop of `add` and the loops of
    `reconnect_relatives` make, but the `pop(item)` of the closed relations: an entry of `_cache_leq`; a closed entry;
    a direct entry, which is only written where the closed entry of the same key is present (`self.children(e)`
    computes `self.descendants(e)` first) or where the direct entry itself is (it has just been read); the removal
    of a direct entry. -/
structure Stable (I : St α → Prop) : Prop where
  leq : ∀ s k b, I s → I ({ s with leqC := ainsert k b s.leqC } : St α)
  closed : ∀ s d e r, I s → I (s.setClosed d (ainsert e r (s.closed d)))
  direct : ∀ s d e r, I s → HasClosed d e s ∨ (alookup e (s.direct d)).isSome = true →
    I (s.setDirect d (ainsert e r (s.direct d)))
  popDirect : ∀ s d p, I s → I (s.setDirect d (aerase p (s.direct d)))

/-! Every query goes through `leqE`, `closedE`, `directE`: `hl`, `hc`, `hd` below say that these three keep `I`, which
they do when `I` is `Stable`. -/

theorem keeps_leqE (h : Stable I) (a b : Nat) : Keeps I (leqE leq a b) := by
  apply keeps_of_state
  intro s hs
  unfold leqE
  split
  · split
    · exact hs
    · split
      · exact hs
      · split
        · exact hs
        · split
          · exact hs
          · exact h.leq _ _ _ hs
  · exact hs

theorem keeps_closedNocache (hl : ∀ a b, Keeps I (leqE leq a b)) (d : Dir) (e : Nat) :
    Keeps I (closedNocache leq d e) := by
  unfold closedNocache
  refine keeps_get_bind fun s => keeps_filterM (fun i => tr_bind ?_ fun r => keeps_pure _) _
  cases d <;> exact hl _ _

theorem keeps_closedE (h : Stable I) (d : Dir) (e : Nat) : Keeps I (closedE leq d e) := by
  unfold closedE
  refine keeps_get_bind fun s => tr_ite ?_ <| keeps_closedNocache (keeps_leqE h) d e
  split
  · exact keeps_pure _
  · exact tr_bind (keeps_closedNocache (keeps_leqE h) d e) fun r =>
      tr_bind (keeps_modify fun s hs => h.closed s d e r hs) fun _ => keeps_pure _

theorem keeps_directNocache (hc : ∀ d e, Keeps I (closedE leq d e)) (d : Dir) (e : Nat) :
    Keeps I (directNocache leq ord d e) := by
  unfold directNocache
  exact tr_bind (hc d e) fun xs => keeps_foldM (fun acc x =>
    tr_ite (tr_bind (hc d x) fun a => keeps_pure _) (keeps_pure _)) _ _

theorem keeps_extremesE (hc : ∀ d e, Keeps I (closedE leq d e)) (d : Dir) : Keeps I (extremesE leq d) := by
  unfold extremesE
  exact keeps_get_bind fun s => keeps_filterM (fun i => tr_bind (hc d i) fun a => keeps_pure _) _

theorem keeps_boundE (hc : ∀ d e, Keeps I (closedE leq d e)) (d : Dir) (S : List Nat) :
    Keeps I (boundE leq ord d S) := by
  unfold boundE
  refine keeps_get_bind fun s => ?_
  dsimp only
  split
  · exact keeps_throw _
  · exact tr_bind (hc d _) fun a0 =>
      tr_bind (keeps_foldM (fun acc y => tr_bind (hc d y) fun a => keeps_pure _) _ _) fun j1 =>
      tr_bind (keeps_foldM (fun acc y => tr_bind (hc d y) fun a => keeps_pure _) _ _) fun j2 =>
      keeps_pure _

theorem keeps_fillLeq (hl : ∀ a b, Keeps I (leqE leq a b)) : Keeps I (fillLeq leq : M α Unit) := by
  unfold fillLeq
  refine keeps_get_bind fun s => keeps_forM (fun i => keeps_forM (fun j => ?_) _) _
  exact keeps_get_bind fun s => tr_ite (keeps_pure _) (tr_bind (hl i j) fun _ => keeps_pure _)

theorem keeps_fillClosed (hc : ∀ d e, Keeps I (closedE leq d e)) (d : Dir) : Keeps I (fillClosed leq d : M α Unit) := by
  unfold fillClosed
  exact keeps_get_bind fun s => keeps_forM (fun i => tr_bind (hc d i) fun _ => keeps_pure _) _

theorem keeps_fillDirect (hd : ∀ d e, Keeps I (directE leq ord d e)) (d : Dir) :
    Keeps I (fillDirect leq ord d : M α Unit) := by
  unfold fillDirect
  exact keeps_get_bind fun s => keeps_forM (fun i => tr_bind (hd d i) fun _ => keeps_pure _) _

theorem keeps_fillE (hl : ∀ a b, Keeps I (leqE leq a b)) (hc : ∀ d e, Keeps I (closedE leq d e))
    (hd : ∀ d e, Keeps I (directE leq ord d e)) (k : FillKind) : Keeps I (fillE leq ord k : M α Unit) := by
  unfold fillE
  refine keeps_get_bind fun s => tr_ite ?_ <| keeps_throw _
  cases k
  · exact keeps_fillLeq hl
  · exact keeps_fillClosed hc _
  · exact keeps_fillClosed hc _
  · exact keeps_fillDirect hd _
  · exact keeps_fillDirect hd _
  · exact tr_bind (keeps_fillLeq hl) fun _ => tr_bind (keeps_fillClosed hc _) fun _ =>
      tr_bind (keeps_fillClosed hc _) fun _ => tr_bind (keeps_fillDirect hd _) fun _ => keeps_fillDirect hd _

theorem keeps_traceLoop (hd : ∀ d e, Keeps I (directE leq ord d e)) (d : Dir) (e : α) (fuel : Nat)
    (tv tr fi : List Nat) : Keeps I (traceLoop leq ord d e fuel tv tr fi) := by
  induction fuel generalizing tv tr fi with
  | zero => unfold traceLoop; exact keeps_throw _
  | succ n ih =>
    unfold traceLoop
    split
    · exact keeps_pure _
    · exact tr_bind (hd _ _) fun nx => keeps_get_bind fun s => tr_bind (keeps_ofExcept _) fun nxt =>
        tr_ite (ih _ _ _) (ih _ _ _)

theorem keeps_reconnectClosed (h : Stable I) (d : Dir) (item : Nat) (own : Option (List Nat)) :
    Keeps I (reconnectClosed ord d item own : M α Unit) := by
  unfold reconnectClosed
  refine keeps_forM (fun a => keeps_get_bind fun s => ?_) _
  split
  · exact keeps_pure _
  · exact keeps_modify fun s hs => h.closed s _ _ _ hs

/-- the direct entry that is re-written is present: it has just been read -/
theorem keeps_reconnectDirect (h : Stable I) (d : Dir) (item : Nat) (own : Option (List Nat)) :
    Keeps I (reconnectDirect ord d item own : M α Unit) := by
  unfold reconnectDirect
  refine keeps_get_bind fun s0 => keeps_forM (fun p => ?_) _
  let J : St α → Prop := fun s => I s ∧ (alookup p (s.direct d)).isSome = true
  refine tr_get fun s1 => tr_bind (R := fun _ => J)
    (tr_lookup _ _ (fun s v hs hv => ⟨hs.1, by rw [hs.2, hv]; rfl⟩) fun _ h => h.1) fun cur => ?_
  split
  · exact tr_modify _ fun s hs => h.popDirect s _ _ hs.1
  · refine tr_ite ?_ <| tr_modify _ fun s hs => h.popDirect s _ _ hs.1
    refine tr_bind (R := fun _ => J) ((keeps_foldM (I := J) (fun acc c => ?_) _ _).weaken_err fun _ h => h.1)
      fun nc' => tr_modify _ fun s hs => h.direct s _ _ _ hs.1 (.inr hs.2)
    exact keeps_get_bind fun s2 => tr_bind (keeps_lookupOrKeyError _ _) fun dc => keeps_pure _

/-- the body of the patching loop re-writes the direct entry of `i` that it has just read -/
theorem keeps_addPatch (h : Stable I) (n i : Nat) : Keeps I (addPatch n i : M α Unit) := by
  have hq : ∀ (k : Nat × Nat) (b : Bool),
      Keeps I (M.modify fun s => { s with leqC := ainsert k b s.leqC } : M α Unit) :=
    fun k b => keeps_modify fun s hs => h.leq s k b hs
  have side : ∀ d, Keeps I (addPatchSide d n i : M α Unit) := by
    intro d
    let J : St α → Prop := fun s => I s ∧ (alookup i (s.direct d.flip)).isSome = true
    unfold addPatchSide
    refine keeps_get_bind fun s0 => tr_bind (keeps_lookupOrKeyError _ _) fun cur => ?_
    refine tr_bind (keeps_modify fun s hs => h.closed s _ _ _ hs) fun _ => tr_bind (hq _ _) fun _ =>
      tr_bind (hq _ _) fun _ => ?_
    refine tr_get fun s1 => tr_bind (tr_lookup _ _ (fun _ _ h _ => h) fun _ h => h.1) fun dirNew =>
      tr_ite ?_ <| tr_pure _ fun _ h => h.1
    refine tr_bind (R := fun _ => J)
      (tr_lookup _ _ (fun s v hs hv => ⟨hs.1, by rw [hs.2, hv]; rfl⟩) fun _ h => h.1) fun curDir => ?_
    refine tr_bind (R := fun _ => J) ((keeps_lookupOrKeyError _ _).weaken_err fun _ h => h.1) fun cloNew => ?_
    exact tr_modify _ fun s hs => h.direct s _ _ _ hs.1 (.inr hs.2)
  unfold addPatch
  exact keeps_get_bind fun s => tr_bind (keeps_lookupOrKeyError _ _) fun dn =>
    tr_ite (side _) <| tr_bind (keeps_lookupOrKeyError _ _) fun an =>
    tr_ite (side _) <| tr_bind (hq _ _) fun _ => hq _ _

/-- `hpc`: `I` survives the `pop(item)` of the two closed relations -/
theorem keeps_reconnectRelatives (h : Stable I) (item : Nat)
    (hpc : ∀ s d, I s → I (s.setClosed d (aerase item (s.closed d)))) :
    Keeps I (reconnectRelatives ord item : M α Unit) := by
  unfold reconnectRelatives
  refine keeps_get_bind fun s => ?_
  refine tr_bind (keeps_modify fun s hs => hpc s .anc hs) fun _ => ?_
  refine tr_bind (keeps_modify fun s hs => hpc s .desc hs) fun _ => ?_
  refine tr_bind (keeps_modify fun s hs => h.popDirect s .anc _ hs) fun _ => ?_
  refine tr_bind (keeps_modify fun s hs => h.popDirect s .desc _ hs) fun _ => ?_
  exact tr_bind (keeps_reconnectDirect h _ _ _) fun _ => tr_bind (keeps_reconnectDirect h _ _ _) fun _ =>
    tr_bind (keeps_reconnectClosed h _ _ _) fun _ => keeps_reconnectClosed h _ _ _

theorem delE_run {k : Nat} {s : St α} (hk : k < s.elems.length) :
    delE ord k s = (if s.useCache = true then (do
      reconnectRelatives ord k
      M.modify fun s => { s with
        leqC := decrementLeq s.leqC k, descC := decrementCache s.descC k, ancC := decrementCache s.ancC k,
        chilC := decrementCache s.chilC k, parC := decrementCache s.parC k }) else pure () : M α Unit)
        { s with elems := s.elems.eraseIdx k } := by
  simp only [delE, bind, M.bind, M.get, M.modify, hk, ↓reduceIte]

def Frame {β : Type} (m : M α β) : Prop := ∀ E c, Keeps (fun s => s.elems = E ∧ s.useCache = c) m

theorem Frame.state {β : Type} {m : M α β} (hm : Frame m) (s : St α) :
    (m s).1.elems = s.elems ∧ (m s).1.useCache = s.useCache :=
  (hm s.elems s.useCache).state ⟨rfl, rfl⟩

theorem frame_modify {f : St α → St α} (hf : ∀ s, (f s).elems = s.elems ∧ (f s).useCache = s.useCache) :
    Frame (M.modify f : M α Unit) :=
  fun _ _ => keeps_modify fun s hs => ⟨(hf s).1.trans hs.1, (hf s).2.trans hs.2⟩

theorem present_leqC {s : St α} {d : Dir} {k : Nat} (q : Nat × Nat) (b : Bool) (h : HasClosed d k s) :
    HasClosed d k ({ s with leqC := ainsert q b s.leqC } : St α) := by
  cases d <;> exact h

variable [DecidableEq α]

theorem present_insertClosed {s : St α} {d : Dir} {k : Nat} (d' : Dir) (e : Nat) (r : List Nat)
    (h : HasClosed d k s) : HasClosed d k (s.setClosed d' (ainsert e r (s.closed d'))) := by
  unfold HasClosed
  rw [closed_setClosed_any]
  split
  · rename_i hd
    subst hd
    rw [alookup_ainsert]
    split
    · rfl
    · exact h
  · exact h

theorem present_insertClosed_self (s : St α) (d : Dir) (e : Nat) (r : List Nat) :
    HasClosed d e (s.setClosed d (ainsert e r (s.closed d))) := by
  unfold HasClosed
  rw [closed_setClosed, alookup_ainsert, if_pos rfl]
  rfl

theorem present_eraseClosed {s : St α} {d : Dir} {k item : Nat} (hk : k ≠ item) (d' : Dir)
    (h : HasClosed d k s) : HasClosed d k (s.setClosed d' (aerase item (s.closed d'))) := by
  unfold HasClosed
  rw [closed_setClosed_any]
  split
  · rename_i hd
    subst hd
    rw [alookup_aerase, if_neg hk]
    exact h
  · exact h

theorem present_setDirect {s : St α} {d : Dir} {k : Nat} (d' : Dir) (c : Cache) (h : HasClosed d k s) :
    HasClosed d k (s.setDirect d' c) := by
  unfold HasClosed
  rw [closed_setDirect]
  exact h

theorem stable_present (d : Dir) (k : Nat) : Stable (HasClosed (α := α) d k) :=
  ⟨fun _ q b h => present_leqC q b h, fun _ d' e r h => present_insertClosed d' e r h,
    fun _ d' _ _ h _ => present_setDirect d' _ h, fun _ d' _ h => present_setDirect d' _ h⟩

theorem closedE_present (d : Dir) (e : Nat) :
    Tr (fun s => s.useCache = true) (closedE leq d e) (fun _ => HasClosed d e) (fun _ => True) := by
  unfold closedE
  apply tr_get
  intro s0
  split
  · split
    · rename_i r hr
      exact tr_pure _ fun s hs => by
        rw [hs.2]
        show (alookup e (s0.closed d)).isSome = true
        rw [hr]
        rfl
    · exact tr_bind (R := fun _ _ => True) (tr_intro (fun _ _ _ _ => trivial) fun _ _ _ _ => trivial) fun r =>
        tr_bind (R := fun _ => HasClosed d e) (tr_modify _ fun s _ => present_insertClosed_self s d e r)
          fun _ => tr_pure _ fun _ h => h
  · rename_i hc
    exact ⟨fun s hs => absurd (hs.2 ▸ hs.1) hc⟩

/-- `_children_nocache(e)` on a caching instance leaves the closed entry of `e` present: its first step computes
    it, and the later `self.descendants(x)` drop nothing -/
theorem tr_directNocache (hc : ∀ d e, Keeps I (closedE leq d e)) (d : Dir) (e : Nat) :
    Tr (fun s => I s ∧ s.useCache = true) (directNocache leq ord d e) (fun _ s => I s ∧ HasClosed d e s) I := by
  unfold directNocache
  refine tr_bind (R := fun _ s => I s ∧ HasClosed d e s)
    ((Tr.and (hc d e) (closedE_present d e)).weaken_err fun _ h => h.1) fun xs => ?_
  exact (keeps_foldM (I := fun s => I s ∧ HasClosed d e s) (fun acc y => tr_ite
    (tr_bind (Tr.and (hc d y) (keeps_closedE (stable_present d e) d y)) fun a => keeps_pure _) (keeps_pure _)) xs (ord xs)).weaken_err fun _ h => h.1

theorem keeps_directE (h : Stable I) (d : Dir) (e : Nat) : Keeps I (directE leq ord d e) := by
  unfold directE
  refine tr_get fun s0 => ?_
  split
  · rename_i hu
    split
    · exact tr_pure _ fun _ h => h.1
    · exact tr_bind ((tr_directNocache (keeps_closedE h) d e).weaken_pre fun s h => ⟨h.1, h.2 ▸ hu⟩) fun r =>
        tr_bind (R := fun _ => I) (tr_modify _ fun s hs => h.direct s d e r hs.1 (.inl hs.2)) fun _ => keeps_pure _
  · exact (keeps_directNocache (keeps_closedE h) d e).weaken_pre fun _ h => h.1

theorem keeps_indexE (e : α) : Keeps I (indexE e : M α Nat) := by
  unfold indexE
  refine keeps_get_bind fun s => ?_
  split
  · exact keeps_pure _
  · exact keeps_throw _

theorem keeps_eqE (hc : ∀ d e, Keeps I (closedE leq d e)) (O : List α) : Keeps I (eqE leq O) := by
  have loop : ∀ l, Keeps I (eqLoop leq O l) := by
    intro l
    induction l with
    | nil => exact keeps_pure _
    | cons i is ih =>
      unfold eqLoop
      refine keeps_get_bind fun s => tr_bind (hc .desc i) fun mine => ?_
      split
      · exact keeps_throw _
      · split
        · exact keeps_throw _
        · exact tr_ite ih (keeps_pure _)
  unfold eqE
  exact keeps_get_bind fun s => tr_ite (loop _) (keeps_pure _)

def isMutation : Op α → Bool
  | .add _ _ => true
  | .del _ => true
  | .remove _ => true
  | _ => false

theorem step_query_keeps (h : Stable I) (s : St α) (o : Op α) (ho : isMutation o = false) (hs : I s) :
    I (step leq ord s o).1 := by
  have hl := keeps_leqE (leq := leq) h
  have hc := keeps_closedE (leq := leq) h
  have hd := keeps_directE (leq := leq) (ord := ord) h
  cases o with
  | leq i j => exact (hl i j).state hs
  | closed d i => exact (hc d i).state hs
  | direct d i => exact (hd d i).state hs
  | extremes d => exact (keeps_extremesE hc d).state hs
  | bound d S => exact (keeps_boundE (ord := ord) hc d S).state hs
  | index e => exact (keeps_indexE e).state hs
  | add e f => cases ho
  | del i => cases ho
  | remove e => cases ho
  | eqOther O => exact (keeps_eqE hc O).state hs
  | fillUp k => exact (keeps_fillE hl hc hd k).state hs

theorem frame_setClosed {E : List α} {c : Bool} {s : St α} (d : Dir) (v : Cache)
    (h : s.elems = E ∧ s.useCache = c) : (s.setClosed d v).elems = E ∧ (s.setClosed d v).useCache = c :=
  ⟨(elems_setClosed _ _ _).trans h.1, (flag_setClosed _ _ _).trans h.2⟩

theorem frame_setDirect {E : List α} {c : Bool} {s : St α} (d : Dir) (v : Cache)
    (h : s.elems = E ∧ s.useCache = c) : (s.setDirect d v).elems = E ∧ (s.setDirect d v).useCache = c :=
  ⟨(elems_setDirect _ _ _).trans h.1, (flag_setDirect _ _ _).trans h.2⟩

theorem stable_frame (E : List α) (c : Bool) : Stable fun s => s.elems = E ∧ s.useCache = c :=
  ⟨fun _ _ _ h => h, fun _ d _ _ h => frame_setClosed d _ h, fun _ d _ _ h _ => frame_setDirect d _ h,
    fun _ d _ h => frame_setDirect d _ h⟩

theorem step_query_frame (s : St α) (o : Op α) (ho : isMutation o = false) :
    (step leq ord s o).1.elems = s.elems ∧ (step leq ord s o).1.useCache = s.useCache :=
  step_query_keeps (stable_frame _ _) s o ho ⟨rfl, rfl⟩

theorem delE_elems {k : Nat} {s : St α} (hk : k < s.elems.length) :
    (delE ord k s).1.elems = s.elems.eraseIdx k ∧ (delE ord k s).1.useCache = s.useCache := by
  rw [delE_run hk]
  refine Keeps.state (I := fun s' => s'.elems = s.elems.eraseIdx k ∧ s'.useCache = s.useCache)
    (s := { s with elems := s.elems.eraseIdx k }) ?_ ⟨rfl, rfl⟩
  exact tr_ite (tr_bind (keeps_reconnectRelatives (stable_frame _ _) k fun _ d h => frame_setClosed d _ h)
    fun _ => keeps_modify fun s h => h) (keeps_pure _)

theorem extremesE_uncached {s : St α} (hpo : IdxPO leq s.elems) (d : Dir) (hs : s.useCache = false) :
    extremesE leq d s = (s, .ok (Fresh.extremes leq d s.elems)) := by
  -- with the cache off no accessor writes, so the scan keeps `· = s`; the answer is the one C09 proves
  have hl : ∀ a b, Keeps (fun s' => s' = s) (leqE leq a b) := fun a b =>
    keeps_of_state fun s' h => by subst h; unfold leqE; simp [hs]
  have hc : ∀ d e, Keeps (fun s' => s' = s) (closedE leq d e) := fun d e =>
    keeps_of_state fun s' h => by
      subst h
      have : closedE leq d e s' = closedNocache leq d e s' := by
        simp only [closedE, bind, M.bind, M.get, hs, Bool.false_eq_true, ↓reduceIte]
      rw [this]
      exact (keeps_closedNocache hl d e).state rfl
  obtain ⟨s', b, hrun, _, hb⟩ := extremesE_fills_closed hpo (InvB.of_uncached (G := Ghost.none) rfl hs) d
  have hw : (extremesE leq d s).1 = s := (keeps_extremesE hc d).state rfl
  rw [hrun] at hw
  simp only at hw
  rw [hrun, hw, hb]

end
end Fca.Poset
