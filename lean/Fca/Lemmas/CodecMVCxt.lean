/-
  Fca.Lemmas.CodecMVCxt — many-valued contexts.  On the descriptions a shipped pattern structure class stores
  (`Fits`) the class's `to_json` / `from_json` invert each other, and `MVContext.read_json` rebuilds a well-formed
  context (`MVOk`) from the tree `write_json` makes of it.
-/
import Fca.Lemmas.CodecConcept
import Fca.Lemmas.Names
namespace Fca.Codec

/-- a float literal stays what it is under `float(.)` (it has a fraction, an exponent, or is inf/nan) -/
def IsFloatLit (l : Str) : Prop := floatLit l = l
instance (l : Str) : Decidable (IsFloatLit l) := by unfold IsFloatLit; infer_instance

/-- `v` is a description the pattern structure class `t` produces (and stores) -/
def Fits : PType → PVal → Prop
  | .AttributePS, .attr _ => True
  | .SetPS, .set xs => isSortedBy Atom.lt xs = true ∧ isSortedBy Atom.le xs = true
  | .IntervalPS, .interval a b => IsFloatLit a ∧ IsFloatLit b
  | .IntervalNumpyPS, .interval a b => IsFloatLit a ∧ IsFloatLit b
  | .IntervalPS, .none_ => True
  | .IntervalNumpyPS, .none_ => True
  | _, _ => False

instance (t : PType) (v : PVal) : Decidable (Fits t v) := by
  cases t <;> cases v <;> simp only [Fits] <;> infer_instance

theorem pySet_of_sorted : ∀ xs : List Atom, isSortedBy Atom.lt xs = true → pySet xs = xs
  | [], _ => rfl
  | [_], _ => rfl
  | a :: b :: r, h => by
    simp only [isSortedBy, Bool.and_eq_true] at h
    have ih := pySet_of_sorted (b :: r) h.2
    simp only [pySet, List.foldr_cons] at ih ⊢
    rw [ih]
    simp [setInsert, h.1]

def valTree : PType → PVal → JV
  | .AttributePS, .attr b => .bool b
  | .SetPS, .set xs => .arr (xs.map Atom.toJV)
  | .IntervalPS, .interval a b => .arr [.flt a, .flt b]
  | .IntervalNumpyPS, .interval a b => .arr [.flt a, .flt b]
  | _, _ => .null

/-- the six shapes of a stored description, and what `to_json`, `from_json` and `_transform_data` make of each -/
theorem fits_codec : ∀ (t : PType) (v : PVal), Fits t v →
    toJsonVal t v = .ok (valTree t v) ∧ fromJsonVal t (valTree t v) = .ok v ∧ (v ≠ .none_ → transformVal t v = .ok v)
  | .AttributePS, .attr _, _ => ⟨rfl, rfl, fun _ => rfl⟩
  | .SetPS, .set xs, h => by
    refine ⟨?_, ?_, fun _ => rfl⟩
    · show Except.ok (JV.arr ((sortedBy Atom.le xs).map Atom.toJV)) = _
      rw [sortedBy_of_sorted _ _ h.2]; rfl
    · have := mapME_map_inv asAtom Atom.toJV xs (by intro a _; cases a <;> rfl)
      simp only [valTree, fromJsonVal, this, pySet_of_sorted xs h.1]
  | .IntervalPS, .interval _ _, h | .IntervalNumpyPS, .interval _ _, h =>
    ⟨rfl, rfl, fun _ => by simp only [transformVal]; rw [h.1, h.2]⟩
  | .IntervalPS, .none_, _ | .IntervalNumpyPS, .none_, _ => ⟨rfl, rfl, fun hn => absurd rfl hn⟩

def cellText (t : PType) (v : PVal) : Str := dumps (valTree t v)

theorem toJsonText_fits (t : PType) (v : PVal) (h : Fits t v) : toJsonText t v = .ok (cellText t v) := by
  simp only [toJsonText, (fits_codec t v h).1, cellText]

theorem fromJsonText_cellText (t : PType) (v : PVal) (h : Fits t v)
    (hc : loads (dumps (valTree t v)) = some (valTree t v)) :
    fromJsonText t (jStr (cellText t v)) = .ok v := by
  simp only [fromJsonText, jStr, cellText, hc, (fits_codec t v h).2.1]

/-- the four class names are distinct -/
theorem ofName_name (t : PType) : PType.ofName t.name = .ok t := by
  have ne {s u : String} {a b : Except CErr PType} (h : ¬ s = u) : (if s.toList = u.toList then a else b) = b :=
    if_neg (toList_ne h)
  cases t
  · exact if_pos rfl
  · exact (ne (by simp only [String.reduceEq, not_false_eq_true])).trans (if_pos rfl)
  · exact (ne (by simp only [String.reduceEq, not_false_eq_true])).trans
      ((ne (by simp only [String.reduceEq, not_false_eq_true])).trans (if_pos rfl))
  · exact (ne (by simp only [String.reduceEq, not_false_eq_true])).trans
      ((ne (by simp only [String.reduceEq, not_false_eq_true])).trans
        ((ne (by simp only [String.reduceEq, not_false_eq_true])).trans (if_pos rfl)))

theorem dset_fresh {α : Type} (k : Str) (v : α) : ∀ acc : List (Str × α), k ∉ acc.map (·.1) →
    dset k v acc = acc ++ [(k, v)]
  | [], _ => rfl
  | (k', v') :: acc, h => by
    simp only [List.map_cons, List.mem_cons, not_or] at h
    have : ¬ k' = k := fun e => h.1 e.symm
    simp only [dset, this, ↓reduceIte, dset_fresh k v acc h.2, List.cons_append]

theorem dictOfZipAux_nodup {α : Type} (ks : List Str) (vs : List α) (acc : List (Str × α)) (hn : ks.Nodup)
    (hd : ∀ k ∈ ks, k ∉ acc.map (·.1)) : dictOfZipAux acc ks vs = acc ++ ks.zip vs := by
  induction ks generalizing vs acc with
  | nil => exact (List.append_nil acc).symm
  | cons k ks ih =>
    cases vs with
    | nil => exact (List.append_nil acc).symm
    | cons v vs =>
      have hn' := List.nodup_cons.mp hn
      rw [dictOfZipAux, dset_fresh k v acc (hd k List.mem_cons_self), ih vs _ hn'.2, List.append_assoc]
      · rfl
      · intro k' hk'
        rw [List.map_append, List.mem_append, not_or]
        exact ⟨hd k' (List.mem_cons_of_mem _ hk'), fun e => hn'.1 ((show k' = k from List.mem_singleton.mp e) ▸ hk')⟩

theorem dictOfZip_nodup {α : Type} (ks : List Str) (vs : List α) (h : ks.Nodup) :
    dictOfZip ks vs = ks.zip vs := by
  simpa [dictOfZip] using dictOfZipAux_nodup ks vs [] h (by simp)

theorem dget_of_mem {α : Type} (l : List (Str × α)) (k : Str) (v : α) (hn : (l.map (·.1)).Nodup) (h : (k, v) ∈ l) :
    dget k l = some v :=
  ListAux.get_of_mem (get := fun l k => dget k l) (fun _ _ _ _ => rfl) hn h

theorem idxOf_eq (ys : List Str) (x : Str) : idxOf ys x = Poset.dictIdx? x ys :=
  (Poset.dictIdx?_from (fun _ _ => rfl) (fun _ _ _ _ => by rw [idxFrom]; rfl) ys 0 x).trans Option.map_id'

theorem idxOf_nodup (ys : List Str) (i : Nat) (x : Str) (hn : ys.Nodup) (h : ys[i]? = some x) :
    idxOf ys x = some i :=
  (idxOf_eq ys x).trans (Poset.dictIdx?_of_getElem? hn h)

theorem foldl_min_const : ∀ (l : List Nat) (a : Nat), (∀ x ∈ l, x = a) → l.foldl min a = a
  | [], _, _ => rfl
  | x :: l, a, h => by
    have hx : x = a := h x (by simp)
    subst hx
    simp only [List.foldl_cons, Nat.min_self]
    exact foldl_min_const l x (fun y hy => h y (List.mem_cons_of_mem _ hy))

structure MVOk (K : MVCxt) : Prop where
  names : K.cols.map (·.name) = K.attrs
  nodup : K.attrs.Nodup
  objs_ne : K.objs ≠ []
  cols_ne : K.cols ≠ []
  len : ∀ c ∈ K.cols, c.data.length = K.objs.length
  fits : ∀ c ∈ K.cols, ∀ v ∈ c.data, Fits c.ptype v ∧ v ≠ .none_

instance (K : MVCxt) : Decidable (MVOk K) :=
  decidable_of_iff (K.cols.map (·.name) = K.attrs ∧ K.attrs.Nodup ∧ K.objs ≠ [] ∧ K.cols ≠ [] ∧
      (∀ c ∈ K.cols, c.data.length = K.objs.length) ∧ ∀ c ∈ K.cols, ∀ v ∈ c.data, Fits c.ptype v ∧ v ≠ .none_)
    ⟨fun ⟨a, b, c, d, e, f⟩ => ⟨a, b, c, d, e, f⟩, fun h => ⟨h.names, h.nodup, h.objs_ne, h.cols_ne, h.len, h.fits⟩⟩

/-- the trusted text layer, for the cells of `K`: `json.loads(json.dumps(x)) == x` -/
def MVCodecOk (K : MVCxt) : Prop :=
  ∀ c ∈ K.cols, ∀ v ∈ c.data, loads (dumps (valTree c.ptype v)) = some (valTree c.ptype v)
instance (K : MVCxt) : Decidable (MVCodecOk K) := by unfold MVCodecOk; infer_instance

def rowAt (K : MVCxt) (i : Nat) : List PVal := K.cols.map fun c => c.data.getD i .none_

def rowsOf (K : MVCxt) : List (List PVal) := (List.range K.objs.length).map (rowAt K)

theorem zipStar_ne (cols : List (List PVal)) (h : cols ≠ []) :
    zipStar cols = (List.range (minLen cols)).map fun i => cols.map fun c => c.getD i .none_ := by
  cases cols with
  | nil => exact absurd rfl h
  | cons c cs => rfl

theorem minLen_const (cols : List (List PVal)) (n : Nat) (h : cols ≠ []) (hl : ∀ l ∈ cols, l.length = n) :
    minLen cols = n := by
  cases cols with
  | nil => exact absurd rfl h
  | cons c cs =>
    unfold minLen
    simp only [List.headD_cons, hl c (by simp)]
    apply foldl_min_const
    intro x hx
    obtain ⟨l, hlm, rfl⟩ := List.mem_map.mp hx
    exact hl l hlm

theorem dataRows_eq (K : MVCxt) (h : MVOk K) : K.dataRows = rowsOf K := by
  unfold MVCxt.dataRows rowsOf
  have hne : K.cols.map (·.data) ≠ [] := by simpa using h.cols_ne
  rw [zipStar_ne _ hne, minLen_const _ K.objs.length hne (by
    intro l hl
    obtain ⟨c, hc, rfl⟩ := List.mem_map.mp hl
    exact h.len c hc)]
  apply List.map_congr_left
  intro i _
  simp only [rowAt, List.map_map]
  rfl

def rowTexts (K : MVCxt) (i : Nat) : List Str := K.cols.map fun c => cellText c.ptype (c.data.getD i .none_)

theorem MVOk.cell {K : MVCxt} (h : MVOk K) {c : PCol} (hc : c ∈ K.cols) {i : Nat} (hi : i ∈ List.range K.objs.length) :
    c.data.getD i .none_ ∈ c.data :=
  ListAux.getD_mem _ i _ (by rw [h.len c hc]; exact List.mem_range.mp hi)

theorem encRows_ok (K : MVCxt) (h : MVOk K) :
    mapME (encRow (K.cols.map (·.ptype))) (rowsOf K) = .ok ((List.range K.objs.length).map (rowTexts K)) := by
  refine mapME_map_ok _ _ _ _ fun i hi => ?_
  unfold encRow rowAt rowTexts
  rw [List.zip_map']
  exact mapME_map_ok _ _ _ _ fun c hc => toJsonText_fits _ _ (h.fits c hc _ (h.cell hc hi)).1

theorem decRows_ok (K : MVCxt) (h : MVOk K) (hcod : MVCodecOk K) :
    mapME (decRow (K.cols.map (·.ptype))) (((List.range K.objs.length).map (rowTexts K)).map pvaluesJ)
      = .ok (rowsOf K) := by
  rw [List.map_map]
  refine mapME_map_ok _ _ _ _ fun i hi => ?_
  rw [Function.comp, decRow, pvaluesJ, JV.getKey_of_lookup (JV.lookup_cons_self _ _ _)]
  simp only [rowTexts, List.map_map, rowAt]
  rw [List.zip_map']
  exact mapME_map_ok _ _ _ _ fun c hc =>
    fromJsonText_cellText _ _ (h.fits c hc _ (h.cell hc hi)).1 (hcod c hc _ (h.cell hc hi))

/-- `pattern_types` as the reader rebuilds it -/
def ptypesOf (K : MVCxt) : List (Str × PType) := K.cols.map fun c => (c.name, c.ptype)

theorem dictOfZip_cols (K : MVCxt) (h : MVOk K) :
    dictOfZip K.attrs (K.cols.map (·.ptype)) = ptypesOf K := by
  rw [dictOfZip_nodup _ _ h.nodup, ← h.names, List.zip_map']
  rfl

theorem ptypesOf_keys (K : MVCxt) (h : MVOk K) : ((ptypesOf K).map (·.1)).Nodup := by
  have : (ptypesOf K).map (·.1) = K.attrs := by
    rw [← h.names]; simp [ptypesOf, List.map_map]
  rw [this]; exact h.nodup

theorem dget_ptypesOf (K : MVCxt) (h : MVOk K) (c : PCol) (hc : c ∈ K.cols) :
    dget c.name (ptypesOf K) = some c.ptype :=
  dget_of_mem _ _ _ (ptypesOf_keys K h) (List.mem_map.mpr ⟨c, hc, rfl⟩)

theorem lookupP_cols (K : MVCxt) (h : MVOk K) :
    mapME (lookupP (ptypesOf K)) K.attrs = .ok (K.cols.map (·.ptype)) := by
  rw [← h.names]
  apply mapME_map_ok
  intro c hc
  simp only [lookupP, dget_ptypesOf K h c hc]

theorem ptypesOfJ_cols (K : MVCxt) :
    ptypesOfJ (.arr (K.cols.map fun c => jStr c.ptype.name)) = .ok (K.cols.map (·.ptype)) := by
  unfold ptypesOfJ
  apply mapME_map_ok
  intro c _
  simp only [jStr, decPType, ofName_name]

theorem isSortedBy_zipIdx (l : List PCol) : ∀ s : Nat,
    isSortedBy leIdx ((l.zipIdx s).map fun p => (p.2, p.1.name, p.1.ptype)) = true := by
  induction l with
  | nil => intro s; rfl
  | cons c l ih =>
    intro s
    cases l with
    | nil => rfl
    | cons c' l' =>
      have := ih (s + 1)
      simp only [List.zipIdx_cons, List.map_cons] at this ⊢
      simp only [isSortedBy, this, Bool.and_true, leIdx]
      simp

theorem cellAt_rows (K : MVCxt) (h : MVOk K) (c : PCol) (k : Nat) (hk : K.cols[k]? = some c) :
    mapME (cellAt c.ptype k) (rowsOf K) = .ok c.data := by
  have hc : c ∈ K.cols := List.mem_of_getElem? hk
  have : mapME (cellAt c.ptype k) (rowsOf K)
      = .ok ((List.range K.objs.length).map fun i => c.data.getD i .none_) := by
    unfold rowsOf
    apply mapME_map_ok
    intro i hi
    have hrow : (rowAt K i)[k]? = some (c.data.getD i .none_) := by
      simp [rowAt, List.getElem?_map, hk]
    have hm := h.cell hc hi
    simp only [cellAt, hrow]
    exact (fits_codec _ _ (h.fits c hc _ hm).1).2.2 (h.fits c hc _ hm).2
  rw [this, ← h.len c hc, ListAux.range_map_getD]

theorem mkMVCxt_rows (K : MVCxt) (h : MVOk K) (d : Option Str) :
    mkMVCxt (rowsOf K) (ptypesOf K) (some K.objs) (some K.attrs) d = .ok ⟨K.objs, K.attrs, K.cols, d⟩ := by
  have hnpos : 0 < K.objs.length := List.length_pos_iff.mpr h.objs_ne
  have hlenrows : (rowsOf K).length = K.objs.length := by simp [rowsOf]
  have hattrs : K.attrs.length = K.cols.length := by rw [← h.names]; simp
  have hkeyed : mapME (ptypeIndexed K.attrs) (ptypesOf K)
      = .ok (K.cols.zipIdx.map fun p => (p.2, p.1.name, p.1.ptype)) := by
    have e : ptypesOf K = K.cols.zipIdx.map fun p => (p.1.name, p.1.ptype) := by
      conv => lhs; rw [ptypesOf, ← List.zipIdx_map_fst 0 K.cols, List.map_map]
      rfl
    rw [e]
    apply mapME_map_ok
    intro p hp
    have hget : K.cols[p.2]? = some p.1 := List.mem_zipIdx_iff_getElem?.mp hp
    have hname : K.attrs[p.2]? = some p.1.name := by
      rw [← h.names, List.getElem?_map, hget]; rfl
    simp only [ptypeIndexed, idxOf_nodup K.attrs p.2 p.1.name h.nodup hname]
  have hcols : mapME (mkPCol (rowsOf K)) (K.cols.zipIdx.map fun p => (p.2, p.1.name, p.1.ptype))
      = .ok K.cols := by
    have := mapME_map_ok (mkPCol (rowsOf K)) (fun p : PCol × Nat => (p.2, p.1.name, p.1.ptype)) (·.1)
      K.cols.zipIdx (by
        intro p hp
        have hget : K.cols[p.2]? = some p.1 := List.mem_zipIdx_iff_getElem?.mp hp
        simp only [mkPCol, cellAt_rows K h p.1 p.2 hget, bind_ok])
    rw [this, List.zipIdx_map_fst]
  have hall : (K.attrs.all fun a => (dget a (ptypesOf K)).isSome) = true := by
    rw [List.all_eq_true]
    intro a ha
    rw [← h.names] at ha
    obtain ⟨c, hc, rfl⟩ := List.mem_map.mp ha
    rw [dget_ptypesOf K h c hc]; rfl
  cases hr : rowsOf K with
  | nil => rw [hr] at hlenrows; exact absurd (hlenrows ▸ hnpos : 0 < ([] : List (List PVal)).length) (Nat.lt_irrefl 0)
  | cons row0 rest =>
    have hrow0 : row0.length = K.cols.length := by
      have : row0 ∈ rowsOf K := by rw [hr]; simp
      simp only [rowsOf, List.mem_map] at this
      obtain ⟨i, _, rfl⟩ := this
      simp [rowAt]
    rw [hr] at hlenrows hcols
    simp only [mkMVCxt, Option.getD_some, hlenrows, bne_self_eq_false, Bool.false_eq_true, ↓reduceIte,
      hrow0, hattrs, hall, Bool.not_true, hkeyed, bind_ok, sortedBy_of_sorted _ _ (isSortedBy_zipIdx K.cols 0),
      hcols]

theorem writeMVTree_eq (K : MVCxt) (h : MVOk K) :
    writeMVTree K = .ok (mvTreeOf K ((List.range K.objs.length).map (rowTexts K))) := by
  simp only [writeMVTree, dataRows_eq K h, encRows_ok K h, bind_ok]

theorem readMVBody_ok (K : MVCxt) (h : MVOk K) (hcod : MVCodecOk K) (dj : Option JV)
    (hdj : descrOf dj = .ok K.descr) (cnt : JV) :
    readMVBody dj (some (.arr (K.objs.map jStr)))
      (.obj [("AttrNames".toList, .arr (K.attrs.map jStr)),
             ("PTypes".toList, .arr (K.cols.map fun c => jStr c.ptype.name))])
      (.obj [("Count".toList, cnt),
             ("Data".toList, .arr (((List.range K.objs.length).map (rowTexts K)).map pvaluesJ))])
      = .ok K :=
  bind_of_ok ((JV.getOpt_obj _ _).trans (congrArg Except.ok (JV.lookup_cons_self _ _ _))) <|
  bind_of_ok (JV.getKey_of_lookup (v := .arr (K.cols.map fun c => jStr c.ptype.name))
    (by simp only [JV.lookup_lit_ne, String.reduceEq, not_false_eq_true, JV.lookup_cons_self])) <|
  bind_of_ok (namesOf_arr _) <| bind_of_ok (namesOf_arr _) <| bind_of_ok (ptypesOfJ_cols K) <|
  bind_of_ok ((dictOfZip_cols K h).symm ▸ lookupP_cols K h) <| bind_of_ok (dataLines_obj _ _) <|
  bind_of_ok (decRows_ok K h hcod) <| bind_of_ok hdj <| (dictOfZip_cols K h).symm ▸ mkMVCxt_rows K h _

end Fca.Codec
