/-
  The flag vectors each backend's `all/any` computes (per row, per column, with the early `break`s and masks)
  are the plain quantifiers over the cells `t.get i j` of the selected rows and columns (`none` = all of them);
  likewise the counts of the lists backend's `sum`.
-/
import Fca.Model.BinTable
import Fca.Lemmas.TableRows
namespace Fca

theorem pyAll_map {α} (xs : List α) (f : α → Bool) : pyAll (xs.map f) = xs.all f := by
  simp [pyAll, List.all_map]

theorem pyAny_map {α} (xs : List α) (f : α → Bool) : pyAny (xs.map f) = xs.any f := by
  simp [pyAny, List.any_map]

theorem countTrue_map {α} (xs : List α) (f : α → Bool) : ((xs.map f).filter id).length = (xs.filter f).length := by
  rw [List.filter_map, List.length_map]; rfl

theorem zipFilter_map (idx : List Nat) (p : Nat → Bool) :
    zipFilter idx (idx.map p) = idx.filter p := by
  induction idx with
  | nil => rfl
  | cons x xs ih =>
    simp only [zipFilter, List.map_cons, List.zip_cons_cons, List.filterMap_cons, List.filter_cons] at *
    cases h : p x <;> simp [ih]

theorem zipWith_map_map_self {α β γ δ} (xs : List α) (f : α → β) (g : α → γ) (h : β → γ → δ) :
    List.zipWith h (xs.map f) (xs.map g) = xs.map fun x => h (f x) (g x) := by
  rw [List.zipWith_map, List.zipWith_self]

theorem replicate_eq_map_range {β} (n : Nat) (b : β) : List.replicate n b = (List.range n).map fun _ => b := by
  rw [List.map_const', List.length_range]

theorem search1_cons (b : Bool) (bs : List Bool) :
    search1 (b :: bs) = (if b then [0] else []) ++ (search1 bs).map Nat.succ := by
  unfold search1
  rw [List.length_cons, List.range_succ_eq_map, List.filter_cons, List.filter_map]
  cases b <;> rfl

theorem search1_map_range (n : Nat) (p : Nat → Bool) :
    search1 ((List.range n).map p) = (List.range n).filter p := by
  unfold search1
  simp only [List.length_map, List.length_range]
  apply List.filter_congr
  intro i hi
  exact ListAux.getD_map_range p n i false (List.mem_range.mp hi)

theorem search1_pick (idx : List Nat) (p : Nat → Bool) :
    (search1 (idx.map p)).map (fun i => idx.getD i 0) = idx.filter p := by
  -- the positions whose flag is set, read off `idx`, are `idx` (= its entries by position) filtered
  unfold search1
  conv => rhs; rw [← ListAux.range_map_getD idx 0, List.filter_map]
  rw [List.length_map]
  exact congrArg _ (List.filter_congr fun i hi => ListAux.getD_map p idx i 0 false (List.mem_range.mp hi))

theorem filter_mask_length (w : Nat) (cs : List Nat) (hc : ∀ c ∈ cs, c < w) (hnd : cs.Nodup) (p : Nat → Bool) :
    ((List.range w).filter fun j => p j && cs.contains j).length = (cs.filter p).length := by
  rw [← List.filter_filter]
  apply List.Perm.length_eq
  apply List.Perm.filter
  rw [List.perm_ext_iff_of_nodup (List.Pairwise.filter _ List.nodup_range) hnd]
  intro a
  simp only [List.mem_filter, List.mem_range, List.contains_eq_mem, decide_eq_true_eq]
  exact ⟨fun h => h.2, fun h => ⟨hc a h, h⟩⟩

theorem all_mask (w : Nat) (cs : List Nat) (hc : ∀ c ∈ cs, c < w) (p : Nat → Bool) :
    ((List.range w).all fun j => p j || !cs.contains j) = cs.all p := by
  rw [Bool.eq_iff_iff]
  simp only [List.all_eq_true, List.mem_range, Bool.or_eq_true, Bool.not_eq_true', List.contains_eq_mem,
    decide_eq_false_iff_not]
  exact ⟨fun H c hcm => (H c (hc c hcm)).resolve_right (fun hn => hn hcm),
    fun H j _ => (Decidable.em (j ∈ cs)).imp (H j) id⟩

theorem any_mask (w : Nat) (cs : List Nat) (hc : ∀ c ∈ cs, c < w) (p : Nat → Bool) :
    ((List.range w).any fun j => p j && cs.contains j) = cs.any p := by
  rw [Bool.eq_iff_iff]
  simp only [List.any_eq_true, List.mem_range, Bool.and_eq_true, List.contains_eq_mem, decide_eq_true_eq]
  exact ⟨fun ⟨j, _, h1, h2⟩ => ⟨j, h2, h1⟩, fun ⟨j, h1, h2⟩ => ⟨j, hc j h1, h2, h1⟩⟩

theorem Table.map_row {β} (t : Table) (h : t.WF) {rows : List Nat} (hr : ∀ i ∈ rows, i < t.height) (q : Row → β) :
    rows.map (fun i => q (t.row i)) = rows.map fun i => q ((List.range t.width).map fun j => t.get i j) :=
  List.map_congr_left fun i hi => by rw [Table.row_eq_map t h (hr i hi)]

theorem zipWith_fixed {α β} (f : α → β → α) (v : List α) (cs : List β) (hlen : v.length ≤ cs.length)
    (hf : ∀ a ∈ v, ∀ c, f a c = a) : List.zipWith f v cs = v := by
  induction v generalizing cs with
  | nil => exact List.zipWith_nil_left
  | cons a v ih =>
    cases cs with
    | nil => exact absurd hlen (Nat.not_succ_le_zero _)
    | cons c cs =>
      rw [List.zipWith_cons_cons, hf a List.mem_cons_self c,
        ih cs (Nat.le_of_succ_le_succ hlen) fun a ha => hf a (List.mem_cons_of_mem _ ha)]

theorem foldl_zipWith_fixed {α ι κ} (op : α → ι → κ → α) (cs : List κ) (rs : List ι) (w : List α)
    (hlen : w.length ≤ cs.length)
    (hw : ∀ a ∈ w, ∀ i c, op a i c = a) : rs.foldl (fun v i => List.zipWith (fun a c => op a i c) v cs) w = w := by
  induction rs with
  | nil => rfl
  | cons i rest ih => rw [List.foldl_cons, zipWith_fixed _ w cs hlen fun a ha c => hw a ha i c, ih]

theorem foldl_zipWith_cols {α ι κ} (op : α → ι → κ → α) (cs : List κ) (rs : List ι) (f : κ → α) :
    rs.foldl (fun v i => List.zipWith (fun a c => op a i c) v cs) (cs.map f)
      = cs.map fun c => rs.foldl (fun a i => op a i c) (f c) := by
  induction rs generalizing f with
  | nil => rfl
  | cons i rest ih => rw [List.foldl_cons, List.zipWith_map_left, List.zipWith_self, ih]; rfl

theorem foldl_and {ι} (p : ι → Bool) (rs : List ι) (b : Bool) : rs.foldl (fun a i => a && p i) b = (b && rs.all p) := by
  induction rs generalizing b with
  | nil => simp
  | cons i rest ih => rw [List.foldl_cons, ih, List.all_cons, Bool.and_assoc]

theorem foldl_or {ι} (p : ι → Bool) (rs : List ι) (b : Bool) : rs.foldl (fun a i => a || p i) b = (b || rs.any p) := by
  induction rs generalizing b with
  | nil => simp
  | cons i rest ih => rw [List.foldl_cons, ih, List.any_cons, Bool.or_assoc]

theorem foldl_count {ι} (p : ι → Bool) (rs : List ι) (n : Nat) :
    rs.foldl (fun a i => a + if p i then 1 else 0) n = n + (rs.filter p).length := by
  induction rs generalizing n with
  | nil => rfl
  | cons i rest ih =>
    rw [List.foldl_cons, ih, List.filter_cons]
    cases p i
    · rfl
    · exact Nat.add_right_comm n 1 _

namespace L

section
variable (t : Table) (h : t.WF) (rows cols : Option (List Nat))
  (hr : ∀ rs, rows = some rs → ∀ i ∈ rs, i < t.height)
include h hr

theorem allPerRow_eq : allPerRow t rows cols
    = (rows.getD (List.range t.height)).map fun i => (cols.getD (List.range t.width)).all fun j => t.get i j := by
  cases cols with
  | none =>
    exact (Table.map_row t h (OptIdx.getD_lt hr) pyAll).trans (by simp only [pyAll_map, Option.getD_none])
  | some cs => simp only [allPerRow, rowsOf, pyAll_map, Option.getD_some]

theorem anyPerRow_eq : anyPerRow t rows cols
    = (rows.getD (List.range t.height)).map fun i => (cols.getD (List.range t.width)).any fun j => t.get i j := by
  cases cols with
  | none =>
    exact (Table.map_row t h (OptIdx.getD_lt hr) pyAny).trans (by simp only [pyAny_map, Option.getD_none])
  | some cs => simp only [anyPerRow, rowsOf, pyAny_map, Option.getD_some]

theorem sumPerRow_eq : sumPerRow t rows cols
    = (rows.getD (List.range t.height)).map fun i =>
        ((cols.getD (List.range t.width)).filter fun j => t.get i j).length := by
  cases cols with
  | none =>
    exact (Table.map_row t h (OptIdx.getD_lt hr) countTrue).trans
      (by simp only [countTrue, countTrue_map, Option.getD_none])
  | some cs => simp only [sumPerRow, rowsOf, countTrue, countTrue_map, Option.getD_some]

end

/-! The early `break`s of `_all_per_column` / `_any_per_column` are optimisations: once no (every) accumulator is
    set, no later row changes one. -/

theorem allPerColumnLoop_eq_foldl (t : Table) (cs rs : List Nat) (vals : List Bool) :
    allPerColumnLoop t cs rs vals = rs.foldl (fun v i => List.zipWith (fun v c => v && t.get i c) v cs) vals := by
  induction rs generalizing vals with
  | nil => rfl
  | cons i rest ih =>
    rw [allPerColumnLoop, List.foldl_cons]
    by_cases hstop : (!pyAny (List.zipWith (fun v c => v && t.get i c) vals cs)) = true
    · have hw : ∀ a ∈ List.zipWith (fun v c => v && t.get i c) vals cs, a = false := fun a ha =>
        Bool.eq_false_iff.mpr (List.any_eq_false.mp (Eq.mp (Bool.not_eq_true' _) hstop) a ha)
      rw [if_pos hstop, foldl_zipWith_fixed (fun a i c => a && t.get i c) cs rest _
        (Nat.le_trans (Nat.le_of_eq List.length_zipWith) (Nat.min_le_right _ _))
        fun a ha i c => by rw [hw a ha]; rfl]
    · rw [if_neg hstop, ih]

theorem anyPerColumnLoop_eq_foldl (t : Table) (cs rs : List Nat) (vals : List Bool) :
    anyPerColumnLoop t cs rs vals = rs.foldl (fun v i => List.zipWith (fun v c => v || t.get i c) v cs) vals := by
  induction rs generalizing vals with
  | nil => rfl
  | cons i rest ih =>
    rw [anyPerColumnLoop, List.foldl_cons]
    by_cases hstop : pyAll (List.zipWith (fun v c => v || t.get i c) vals cs) = true
    · have hw : ∀ a ∈ List.zipWith (fun v c => v || t.get i c) vals cs, a = true := List.all_eq_true.mp hstop
      rw [if_pos hstop, foldl_zipWith_fixed (fun a i c => a || t.get i c) cs rest _
        (Nat.le_trans (Nat.le_of_eq List.length_zipWith) (Nat.min_le_right _ _))
        fun a ha i c => by rw [hw a ha]; rfl]
    · rw [if_neg hstop, ih]

theorem sumPerColumnLoop_eq_foldl (t : Table) (cs rs : List Nat) (vals : List Nat) :
    sumPerColumnLoop t cs rs vals
      = rs.foldl (fun v i => List.zipWith (fun v c => v + if t.get i c then 1 else 0) v cs) vals := by
  induction rs generalizing vals with
  | nil => rfl
  | cons i rest ih => exact ih _

section
variable (t : Table) (rows cols : Option (List Nat))

theorem allPerColumn_eq : allPerColumn t rows cols
    = (cols.getD (List.range t.width)).map fun c => (rows.getD (List.range t.height)).all fun i => t.get i c := by
  simp only [allPerColumn, rowsOf, ← List.map_const', allPerColumnLoop_eq_foldl,
    foldl_zipWith_cols (fun a i c => a && t.get i c), foldl_and, Bool.true_and]

theorem anyPerColumn_eq : anyPerColumn t rows cols
    = (cols.getD (List.range t.width)).map fun c => (rows.getD (List.range t.height)).any fun i => t.get i c := by
  simp only [anyPerColumn, rowsOf, ← List.map_const', anyPerColumnLoop_eq_foldl,
    foldl_zipWith_cols (fun a i c => a || t.get i c), foldl_or, Bool.false_or]

theorem sumPerColumn_eq : sumPerColumn t rows cols
    = (cols.getD (List.range t.width)).map fun c =>
        ((rows.getD (List.range t.height)).filter fun i => t.get i c).length := by
  simp only [sumPerColumn, rowsOf, ← List.map_const', sumPerColumnLoop_eq_foldl,
    foldl_zipWith_cols (fun a i c => a + if t.get i c then 1 else 0), foldl_count, Nat.zero_add]

end
end L

namespace B

def maskPred : Option (List Nat) → Nat → Bool
  | none, _ => true
  | some cs, c => cs.contains c

section
variable (t : Table) (h : t.WF) (rows cols : Option (List Nat))
  (hr : ∀ rs, rows = some rs → ∀ i ∈ rs, i < t.height) (hc : ∀ cs, cols = some cs → ∀ c ∈ cs, c < t.width)
include h hr hc

theorem allPerRow_eq : allPerRow t rows cols
    = (rows.getD (List.range t.height)).map fun i => (cols.getD (List.range t.width)).all fun j => t.get i j := by
  cases cols with
  | none => exact L.allPerRow_eq t h rows none hr
  | some cs =>
    exact (Table.map_row t h (OptIdx.getD_lt hr) fun r => pyAll (bor r (maskNotIn t cs))).trans (by
      simp only [bor, maskNotIn, zipWith_map_map_self, pyAll_map, all_mask t.width cs (hc cs rfl), Option.getD_some])

theorem anyPerRow_eq : anyPerRow t rows cols
    = (rows.getD (List.range t.height)).map fun i => (cols.getD (List.range t.width)).any fun j => t.get i j := by
  cases cols with
  | none => exact L.anyPerRow_eq t h rows none hr
  | some cs =>
    exact (Table.map_row t h (OptIdx.getD_lt hr) fun r => pyAny (band r (maskIn t cs))).trans (by
      simp only [band, maskIn, zipWith_map_map_self, pyAny_map, any_mask t.width cs (hc cs rfl), Option.getD_some])

end

theorem stopAll_map (t : Table) (sel : Option (List Nat)) (g : Nat → Bool) :
    stopAll (sel.map (maskIn t)) ((List.range t.width).map g)
      = !((List.range t.width).any fun c => g c && maskPred sel c) := by
  cases sel with
  | none => simp only [Option.map_none, stopAll, pyAny_map, maskPred, Bool.and_true]
  | some cs => simp only [Option.map_some, stopAll, band, maskIn, zipWith_map_map_self, pyAny_map, maskPred]

theorem stopAny_map (t : Table) (sel : Option (List Nat)) (g : Nat → Bool) :
    stopAny (sel.map (maskNotIn t)) ((List.range t.width).map g)
      = (List.range t.width).all fun c => g c || !maskPred sel c := by
  cases sel with
  | none => simp only [Option.map_none, stopAny, pyAll_map, maskPred, Bool.not_true, Bool.or_false]
  | some cs => simp only [Option.map_some, stopAny, bor, maskNotIn, zipWith_map_map_self, pyAll_map, maskPred]

/-- the `&=` accumulator with its masked early `break`: on every column the mask keeps,
    the result is the plain conjunction over the rows. -/
theorem allPerColumnLoop_spec (t : Table) (h : t.WF) (sel : Option (List Nat))
    (rows : List Nat) (hr : ∀ i ∈ rows, i < t.height) (f : Nat → Bool) :
    ∃ f' : Nat → Bool,
      allPerColumnLoop t (sel.map (maskIn t)) rows ((List.range t.width).map f)
        = (List.range t.width).map f' ∧
      ∀ c, c < t.width → maskPred sel c = true → f' c = (f c && rows.all fun i => t.get i c) := by
  induction rows generalizing f with
  | nil => exact ⟨f, rfl, fun c _ _ => (Bool.and_true _).symm⟩
  | cons i rest ih =>
    simp only [allPerColumnLoop, Table.row_eq_map t h (hr i List.mem_cons_self), band, zipWith_map_map_self,
      stopAll_map, List.all_cons]
    split
    · rename_i hstop
      refine ⟨_, rfl, fun c hcw hm => ?_⟩
      have hc := List.any_eq_false.mp (Eq.mp (Bool.not_eq_true' _) hstop) c (List.mem_range.mpr hcw)
      rw [hm, Bool.and_true, Bool.not_eq_true] at hc
      rw [← Bool.and_assoc, hc, Bool.false_and]
    · obtain ⟨f', h1, h2⟩ := ih (fun k hk => hr k (List.mem_cons_of_mem _ hk)) (fun c => f c && t.get i c)
      exact ⟨f', h1, fun c hcw hm => by rw [h2 c hcw hm, Bool.and_assoc]⟩

theorem anyPerColumnLoop_spec (t : Table) (h : t.WF) (sel : Option (List Nat))
    (rows : List Nat) (hr : ∀ i ∈ rows, i < t.height) (f : Nat → Bool) :
    ∃ f' : Nat → Bool,
      anyPerColumnLoop t (sel.map (maskNotIn t)) rows ((List.range t.width).map f)
        = (List.range t.width).map f' ∧
      ∀ c, c < t.width → maskPred sel c = true → f' c = (f c || rows.any fun i => t.get i c) := by
  induction rows generalizing f with
  | nil => exact ⟨f, rfl, fun c _ _ => (Bool.or_false _).symm⟩
  | cons i rest ih =>
    simp only [anyPerColumnLoop, Table.row_eq_map t h (hr i List.mem_cons_self), bor, zipWith_map_map_self,
      stopAny_map, List.any_cons]
    split
    · rename_i hstop
      refine ⟨_, rfl, fun c hcw hm => ?_⟩
      have hc := List.all_eq_true.mp hstop c (List.mem_range.mpr hcw)
      rw [hm, Bool.not_true, Bool.or_false] at hc
      rw [← Bool.or_assoc, hc, Bool.true_or]
    · obtain ⟨f', h1, h2⟩ := ih (fun k hk => hr k (List.mem_cons_of_mem _ hk)) (fun c => f c || t.get i c)
      exact ⟨f', h1, fun c hcw hm => by rw [h2 c hcw hm, Bool.or_assoc]⟩

section
variable (t : Table) (h : t.WF) (rows cols : Option (List Nat))
  (hr : ∀ rs, rows = some rs → ∀ i ∈ rs, i < t.height) (hc : ∀ cs, cols = some cs → ∀ c ∈ cs, c < t.width)
include h hr hc

theorem allPerColumn_eq : allPerColumn t rows cols
    = (cols.getD (List.range t.width)).map fun c => (rows.getD (List.range t.height)).all fun i => t.get i c := by
  obtain ⟨f', h1, h2⟩ := allPerColumnLoop_spec t h cols _ (OptIdx.getD_lt hr) (fun _ => true)
  cases cols with
  | none =>
    simp only [allPerColumn, rowsOf, Option.getD_none, replicate_eq_map_range]
    exact h1.trans (List.map_congr_left fun c hcm => by rw [h2 c (List.mem_range.mp hcm) rfl, Bool.true_and])
  | some cs =>
    simp only [allPerColumn, rowsOf, Option.getD_some, replicate_eq_map_range]
    rw [show allPerColumnLoop t (some (maskIn t cs)) _ _ = _ from h1]
    exact List.map_congr_left fun c hcm => by
      rw [ListAux.getD_map_range f' _ c false (hc cs rfl c hcm), h2 c (hc cs rfl c hcm) (by simpa [maskPred] using hcm), Bool.true_and]

theorem anyPerColumn_eq : anyPerColumn t rows cols
    = (cols.getD (List.range t.width)).map fun c => (rows.getD (List.range t.height)).any fun i => t.get i c := by
  obtain ⟨f', h1, h2⟩ := anyPerColumnLoop_spec t h cols _ (OptIdx.getD_lt hr) (fun _ => false)
  cases cols with
  | none =>
    simp only [anyPerColumn, rowsOf, Option.getD_none, replicate_eq_map_range]
    exact h1.trans (List.map_congr_left fun c hcm => by rw [h2 c (List.mem_range.mp hcm) rfl, Bool.false_or])
  | some cs =>
    simp only [anyPerColumn, rowsOf, Option.getD_some, replicate_eq_map_range]
    rw [show anyPerColumnLoop t (some (maskNotIn t cs)) _ _ = _ from h1]
    exact List.map_congr_left fun c hcm => by
      rw [ListAux.getD_map_range f' _ c false (hc cs rfl c hcm), h2 c (hc cs rfl c hcm) (by simpa [maskPred] using hcm), Bool.false_or]

end
end B

namespace N

/-- a reduction `q` along axis 0 of the selected cells: column `k` of the selection is column `cs[k]` of the table -/
theorem axis0_cells {β} (q : List Bool → β) (t : Table) (rs cs : List Nat) :
    (List.range cs.length).map (fun k => q ((rs.map fun i => cs.map fun j => t.get i j).map fun r => r.getD k false))
      = cs.map fun c => q (rs.map fun i => t.get i c) := by
  conv => rhs; rw [← ListAux.range_map_getD cs 0, List.map_map]
  refine List.map_congr_left fun k hk => congrArg q ?_
  rw [List.map_map]
  exact List.map_congr_left fun i _ => ListAux.getD_map _ cs k 0 false (List.mem_range.mp hk)

section
variable (t : Table) (h : t.WF) (rows cols : Option (List Nat))
  (hr : ∀ rs, rows = some rs → ∀ i ∈ rs, i < t.height)
include h hr

/-- the selection `data[rows][:, columns]` is the selected cells -/
theorem slice_eq : slice t rows cols
    = ((rows.getD (List.range t.height)).map fun i => (cols.getD (List.range t.width)).map fun j => t.get i j,
       (cols.getD (List.range t.width)).length) := by
  have hd : slice t rows cols = slice t (some (rows.getD (List.range t.height))) cols := by
    cases rows with
    | none => simp only [slice, Option.getD_none, ← Table.data_eq_map_row]
    | some rs => rfl
  rw [hd]
  cases cols with
  | none =>
    simp only [slice, Option.getD_none, List.length_range]
    exact congrArg (·, t.width) (Table.map_row t h (OptIdx.getD_lt hr) id)
  | some cs => simp only [slice, List.map_map]; rfl

theorem allAxis1_eq : allAxis t 1 rows cols
    = (rows.getD (List.range t.height)).map fun i => (cols.getD (List.range t.width)).all fun j => t.get i j := by
  simp only [allAxis, slice_eq t h rows cols hr, Nat.one_ne_zero, if_false, allAxis1, List.map_map]
  exact List.map_congr_left fun i _ => pyAll_map _ _

theorem anyAxis1_eq : anyAxis t 1 rows cols
    = (rows.getD (List.range t.height)).map fun i => (cols.getD (List.range t.width)).any fun j => t.get i j := by
  simp only [anyAxis, slice_eq t h rows cols hr, Nat.one_ne_zero, if_false, anyAxis1, List.map_map]
  exact List.map_congr_left fun i _ => pyAny_map _ _

theorem allAxis0_eq : allAxis t 0 rows cols
    = (cols.getD (List.range t.width)).map fun c => (rows.getD (List.range t.height)).all fun i => t.get i c := by
  simp only [allAxis, slice_eq t h rows cols hr, if_true, allAxis0, ← pyAll_map, axis0_cells pyAll]

theorem anyAxis0_eq : anyAxis t 0 rows cols
    = (cols.getD (List.range t.width)).map fun c => (rows.getD (List.range t.height)).any fun i => t.get i c := by
  simp only [anyAxis, slice_eq t h rows cols hr, if_true, anyAxis0, ← pyAny_map, axis0_cells pyAny]

end
end N
end Fca
