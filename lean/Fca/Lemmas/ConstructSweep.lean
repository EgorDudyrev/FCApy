/-
  The chain sweep of `construct_lattice_from_spanning_tree` and of its `_parallel` twin, for an arbitrary order in
  which the chains are scanned for each concept: when all chains have been processed, `all_superconcepts[c]` is the
  complete set of strict superconcepts of `c` and `superconcepts_dict[c]` is a sound candidate set containing every
  upper cover.
-/
import Fca.Lemmas.ConstructScan
import Fca.Lemmas.ConstructFinal
namespace Fca.Construct
open Fca.Spec

variable {n : Nat} {lt : Nat → Nat → Bool} {rk : Nat → Nat}

theorem desc_of_chainStepsOK (h : StrictOrd lt rk) {par : Nat → Option Nat} :
    ∀ ch, chainStepsOK lt par ch = true → ch.Pairwise (fun a b => lt b a = true) := by
  intro ch
  induction ch with
  | nil => intro _; exact List.Pairwise.nil
  | cons p rest ih =>
    cases rest with
    | nil => intro _; exact List.pairwise_singleton _ p
    | cons c rest' =>
      intro hs
      simp only [chainStepsOK, Bool.and_eq_true] at hs
      have hrec := ih hs.2
      refine List.pairwise_cons.mpr ⟨fun x hx => ?_, hrec⟩
      rcases List.mem_cons.mp hx with e | hx
      · exact e ▸ hs.1.2
      · exact h.trans _ _ _ (List.rel_of_pairwise_cons hrec hx) hs.1.2

theorem SweepCtx.of_chainsOK {pos : Nat → Nat} {top : Nat} {chains : List (List Nat)} (h : StrictOrd lt rk)
    (hpos : ∀ a b, a < n → b < n → lt a b = true → pos b < pos a) (ht : Ord.Greatest n lt top)
    {par : Nat → Option Nat} (hok : chainsOK n lt par top chains = true) :
    SweepCtx n lt rk pos top chains := by
  simp only [chainsOK, Bool.and_eq_true, List.all_eq_true, List.any_eq_true, List.mem_range,
    List.contains_eq_mem, decide_eq_true_eq, beq_iff_eq] at hok
  exact ⟨h, hpos, ht, fun ch hch => (hok.1 ch hch).2,
    fun ch hch => desc_of_chainStepsOK h ch (hok.1 ch hch).1.2, fun ch hch => (hok.1 ch hch).1.1, hok.2⟩

/-- `c` has been processed: its candidate set is no longer empty -/
def Proc (sw : Sweep) (c : Nat) : Prop := sw.supD.getD c [] ≠ []

/-- the test `len(superconcepts_dict[c_i_cur]) > 0` -/
theorem isEmpty_iff_proc {sw : Sweep} {c : Nat} : (!(sw.supD.getD c []).isEmpty) = true ↔ Proc sw c := by
  rw [Bool.not_eq_true', ← Bool.not_eq_true, List.isEmpty_iff]; rfl

/-- the three sets of `c` between two concepts: empty until `c` is processed, then complete -/
structure RowOK (n : Nat) (lt : Nat → Nat → Bool) (c : Nat) (all inc sup : List Nat) : Prop where
  supSound : ∀ x ∈ sup, x < n ∧ lt c x = true
  supNodup : sup.Nodup
  allOK : sup ≠ [] → ∀ x, x ∈ all ↔ (x < n ∧ lt c x = true)
  supCov : sup ≠ [] → ∀ x ∈ upperCoversBy n lt c, x ∈ sup
  unproc : ¬ sup ≠ [] → all = [] ∧ inc = []

/-- invariant of the three shared dictionaries between two concepts -/
structure GInv (n : Nat) (lt : Nat → Nat → Bool) (sw : Sweep) : Prop where
  lenA : sw.allSup.length = n
  lenI : sw.incomp.length = n
  lenS : sw.supD.length = n
  row : ∀ c, c < n → RowOK n lt c (sw.allSup.getD c []) (sw.incomp.getD c []) (sw.supD.getD c [])

section
variable {pos : Nat → Nat} {top : Nat} {chains : List (List Nat)}

theorem SweepCtx.top_not_below (ctx : SweepCtx n lt rk pos top chains) {x : Nat} (hx : x < n) :
    ¬ lt top x = true := fun h =>
  (ctx.topGreatest.le hx).elim (fun e => ctx.so.irrefl top (e ▸ h)) (ctx.so.asymm h)

theorem GInv.top_unproc (ctx : SweepCtx n lt rk pos top chains) {sw : Sweep} (g : GInv n lt sw) :
    ¬ Proc sw top := by
  intro hp
  obtain ⟨x, hx⟩ := List.exists_mem_of_ne_nil _ hp
  have := (g.row top ctx.topGreatest.1).supSound x hx
  exact ctx.top_not_below this.1 this.2

theorem GInv.allComplete (ctx : SweepCtx n lt rk pos top chains) {sw : Sweep} (g : GInv n lt sw)
    {p : Nat} (hp : p < n) (h : Proc sw p ∨ p = top) :
    ∀ x, x ∈ sw.allSup.getD p [] ↔ (x < n ∧ lt p x = true) := by
  rcases h with h | rfl
  · exact (g.row p hp).allOK h
  · intro x
    rw [((g.row p hp).unproc (g.top_unproc ctx)).1]
    exact ⟨nofun, fun h => absurd h.2 (ctx.top_not_below h.1)⟩

/-- `sw'` is a consistent later state: what was processed stays processed -/
structure Advances (n : Nat) (lt : Nat → Nat → Bool) (sw sw' : Sweep) : Prop where
  ginv : GInv n lt sw'
  mono : ∀ c', Proc sw c' → Proc sw' c'

theorem Advances.trans {sw sw1 sw2 : Sweep} (a : Advances n lt sw sw1) (b : Advances n lt sw1 sw2) :
    Advances n lt sw sw2 := ⟨b.ginv, fun c h => b.mono c (a.mono c h)⟩

/-- invariant of the resume indexes while walking down one chain; `a` is the chain element just passed -/
structure LInv (n : Nat) (lt : Nat → Nat → Bool) (top : Nat) (chains : List (List Nat)) (sw : Sweep)
    (idxs : List Nat) (a : Nat) : Prop where
  idxLen : idxs.length = chains.length
  pre : ∀ chI, chI < chains.length → idxs.getD chI 0 ≤ (chains.getD chI []).length ∧
    ∀ x ∈ (chains.getD chI []).take (idxs.getD chI 0), lt a x = true
  aLt : a < n
  aOK : Proc sw a ∨ a = top

/-- invariant during the scans of one concept `c`; `sw0` is the state before `c` was started and
    `D` the chains already scanned -/
structure SInv (n : Nat) (lt : Nat → Nat → Bool) (top : Nat) (chains : List (List Nat)) (c : Nat)
    (sw0 sw : Sweep) (idxs : List Nat) (D : List Nat) : Prop where
  lenA : sw.allSup.length = n
  lenI : sw.incomp.length = n
  lenS : sw.supD.length = n
  idxLen : idxs.length = chains.length
  frameA : ∀ c', c' ≠ c → sw.allSup.getD c' [] = sw0.allSup.getD c' []
  frameI : ∀ c', c' ≠ c → sw.incomp.getD c' [] = sw0.incomp.getD c' []
  frameS : ∀ c', c' ≠ c → sw.supD.getD c' [] = sw0.supD.getD c' []
  allSound : ∀ x ∈ sw.allSup.getD c [], x < n ∧ lt c x = true
  supSound : ∀ x ∈ sw.supD.getD c [], x < n ∧ lt c x = true
  supNodup : (sw.supD.getD c []).Nodup
  supNe : sw.supD.getD c [] ≠ []
  incSound : ∀ x ∈ sw.incomp.getD c [], lt c x = false
  topIn : top ∈ sw.allSup.getD c []
  covIn : ∀ q ∈ sw.allSup.getD c [], q ∈ upperCoversBy n lt c → q ∈ sw.supD.getD c []
  starts : ∀ chI, chI < chains.length → idxs.getD chI 0 ≤ (chains.getD chI []).length ∧
    ∀ x ∈ (chains.getD chI []).take (idxs.getD chI 0), x ∈ sw.allSup.getD c []
  done : ∀ chI ∈ D, ∀ x ∈ chains.getD chI [], lt c x = true → x ∈ sw.allSup.getD c []

/-- one scan and its write-back.  The new state is a variable tied by equations: rewriting does not see through the
    projections of the literal pair that `scanOne` returns. -/
theorem SInv.scan (ctx : SweepCtx n lt rk pos top chains) {c : Nat} (hc : c < n) {sw0 sw sw' : Sweep}
    {idxs idxs' D : List Nat} (inv : SInv n lt top chains c sw0 sw idxs D) {chI : Nat}
    (hchI : chI < chains.length) {r : Scan}
    (hr : iterateChain lt pos (chains.getD chI []) c
      ⟨sw.supD.getD c [], sw.allSup.getD c [], sw.incomp.getD c [], idxs.getD chI 0⟩ = r)
    (hA : sw'.allSup = sw.allSup.set c r.all) (hI : sw'.incomp = sw.incomp.set c r.inc)
    (hS : sw'.supD = sw.supD.set c r.sup) (hidx : idxs' = idxs.set chI r.start) :
    SInv n lt top chains c sw0 sw' idxs' (chI :: D) := by
  have hmem := ListAux.getD_mem _ _ [] hchI
  have res := iterateChain_ok ctx hmem hc
    ⟨sw.supD.getD c [], sw.allSup.getD c [], sw.incomp.getD c [], idxs.getD chI 0⟩
    ⟨inv.allSound, inv.supSound, inv.supNodup, inv.incSound⟩ inv.topIn (inv.starts chI hchI).1
    (inv.starts chI hchI).2 inv.covIn
  rw [hr] at res
  have eA : sw'.allSup.getD c [] = r.all := hA ▸ ListAux.getD_set_eq _ _ _ _ (inv.lenA ▸ hc)
  have eI : sw'.incomp.getD c [] = r.inc := hI ▸ ListAux.getD_set_eq _ _ _ _ (inv.lenI ▸ hc)
  have eS : sw'.supD.getD c [] = r.sup := hS ▸ ListAux.getD_set_eq _ _ _ _ (inv.lenS ▸ hc)
  refine ⟨hA ▸ List.length_set.trans inv.lenA, hI ▸ List.length_set.trans inv.lenI,
    hS ▸ List.length_set.trans inv.lenS, hidx ▸ List.length_set.trans inv.idxLen,
    fun c' hne => hA ▸ (ListAux.getD_set_ne _ _ _ _ _ (Ne.symm hne)).trans (inv.frameA c' hne),
    fun c' hne => hI ▸ (ListAux.getD_set_ne _ _ _ _ _ (Ne.symm hne)).trans (inv.frameI c' hne),
    fun c' hne => hS ▸ (ListAux.getD_set_ne _ _ _ _ _ (Ne.symm hne)).trans (inv.frameS c' hne), eA ▸ res.allSound, eS ▸ res.supSound,
    eS ▸ res.supNodup, ?_, eI ▸ res.incSound, eA ▸ res.all _ inv.topIn, ?_, fun chJ hchJ => ?_,
    fun chJ hchJ x hx hlt => ?_⟩
  · obtain ⟨x, hx⟩ := List.exists_mem_of_ne_nil _ inv.supNe
    exact List.ne_nil_of_mem (eS ▸ res.sup x hx)
  · rw [eA, eS]; exact res.covIn
  · rw [eA, hidx]
    by_cases e : chJ = chI
    · rw [e, ListAux.getD_set_eq _ _ _ _ (inv.idxLen ▸ hchI)]
      exact ⟨res.startLe, res.startIn⟩
    · rw [ListAux.getD_set_ne _ _ _ _ _ (Ne.symm e)]
      exact ⟨(inv.starts chJ hchJ).1, fun x hx => res.all x ((inv.starts chJ hchJ).2 x hx)⟩
  · rw [eA]
    rcases List.mem_cons.mp hchJ with e | hD
    · exact res.done x (e ▸ hx) hlt
    · exact res.all x (inv.done chJ hD x hx hlt)

theorem scans_ok (ctx : SweepCtx n lt rk pos top chains) {c : Nat} (hc : c < n) {sw0 : Sweep} :
    ∀ (order : List Nat) (sw : Sweep) (idxs D : List Nat), (∀ chI ∈ order, chI < chains.length) →
      SInv n lt top chains c sw0 sw idxs D →
      SInv n lt top chains c sw0 (order.foldl (scanOne lt pos chains c) (sw, idxs)).1
        (order.foldl (scanOne lt pos chains c) (sw, idxs)).2 (order.reverse ++ D) := by
  intro order
  induction order with
  | nil => intro sw idxs D _ inv; exact inv
  | cons chI rest ih =>
    intro sw idxs D hlt inv
    have := ih (scanOne lt pos chains c (sw, idxs) chI).1 (scanOne lt pos chains c (sw, idxs) chI).2 (chI :: D)
      (fun x hx => hlt x (List.mem_cons_of_mem _ hx))
      (inv.scan ctx hc (hlt chI (List.mem_cons_self ..)) rfl rfl rfl rfl rfl)
    rw [List.reverse_cons, List.append_assoc]
    exact this

/-- the state `sw1` in which the scans of an unprocessed `c` below the chain element `p` start -/
theorem sInv_start (ctx : SweepCtx n lt rk pos top chains) {sw sw1 : Sweep} {idxs : List Nat} {p c : Nat}
    (g : GInv n lt sw) (l : LInv n lt top chains sw idxs p) (hc : c < n) (hcp : lt c p = true)
    (hNP : ¬ Proc sw c)
    (hA : sw1.allSup = sw.allSup.set c (union (sw.allSup.getD c []) (union [p] (sw.allSup.getD p []))))
    (hI : sw1.incomp = sw.incomp) (hS : sw1.supD = sw.supD.set c [p]) :
    SInv n lt top chains c sw sw1 idxs [] := by
  have hpn := l.aLt
  obtain ⟨ua, ui⟩ := (g.row c hc).unproc hNP
  have hpAll := g.allComplete ctx hpn l.aOK
  have hall : ∀ x, x ∈ sw1.allSup.getD c [] ↔ (x = p ∨ (x < n ∧ lt p x = true)) := fun x => by
    rw [hA, ListAux.getD_set_eq _ _ _ _ (g.lenA ▸ hc), mem_union, mem_union, ua, hpAll x, List.mem_singleton]
    exact or_iff_right (List.not_mem_nil)
  have hsup : sw1.supD.getD c [] = [p] := hS ▸ ListAux.getD_set_eq _ _ _ _ (g.lenS ▸ hc)
  refine ⟨hA ▸ List.length_set.trans g.lenA, hI ▸ g.lenI, hS ▸ List.length_set.trans g.lenS, l.idxLen,
    fun c' hne => hA ▸ ListAux.getD_set_ne _ _ _ _ _ (Ne.symm hne), fun _ _ => hI ▸ rfl, fun c' hne => hS ▸ ListAux.getD_set_ne _ _ _ _ _ (Ne.symm hne),
    fun x hx => ?_, fun x hx => ?_, hsup ▸ List.pairwise_singleton _ p, hsup ▸ List.cons_ne_nil p [],
    fun x hx => ?_, (hall top).mpr ?_, fun q hq hcov => ?_,
    fun chI hchI => ⟨(l.pre chI hchI).1, fun x hx => ?_⟩, nofun⟩
  · rcases (hall x).mp hx with e | ⟨h1, h2⟩
    · exact e ▸ ⟨hpn, hcp⟩
    · exact ⟨h1, ctx.so.trans _ _ _ hcp h2⟩
  · rw [hsup, List.mem_singleton] at hx
    exact hx ▸ ⟨hpn, hcp⟩
  · rw [hI, ui] at hx; cases hx
  · exact (ctx.topGreatest.le hpn).imp Eq.symm (fun h => ⟨ctx.topGreatest.1, h⟩)
  · rw [hsup, List.mem_singleton]
    rcases (hall q).mp hq with e | ⟨_, h2⟩
    · exact e
    · exact absurd h2 ((mem_upperCoversBy.mp hcov).2.2 p hpn hcp)
  · exact (hall x).mpr (Or.inr ⟨ctx.chainsLt _ (ListAux.getD_mem _ _ _ hchI) x (List.mem_of_mem_take hx),
      (l.pre chI hchI).2 x hx⟩)

theorem gInv_of_sInv (ctx : SweepCtx n lt rk pos top chains) {sw sw' : Sweep} {idxs' D : List Nat} {c : Nat}
    (g : GInv n lt sw) (hc : c < n) (fin : SInv n lt top chains c sw sw' idxs' D)
    (hD : ∀ chI, chI < chains.length → chI ∈ D) :
    Advances n lt sw sw' ∧ LInv n lt top chains sw' idxs' c := by
  have hPc : Proc sw' c := fin.supNe
  -- completeness of `all_superconcepts[c]`: every superconcept lies on some chain, and that chain was scanned
  have hcomplete : ∀ x, x ∈ sw'.allSup.getD c [] ↔ (x < n ∧ lt c x = true) := by
    refine fun x => ⟨fin.allSound x, fun ⟨hx, hlt⟩ => ?_⟩
    obtain ⟨ch, hch, hxch⟩ := ctx.chainsCover x hx
    obtain ⟨chI, hchI, hget⟩ := List.getElem_of_mem hch
    have hgd : chains.getD chI [] = ch := (ListAux.getD_eq_get _ _ _ hchI).trans hget
    exact fin.done chI (hD chI hchI) x (hgd ▸ hxch) hlt
  refine ⟨⟨⟨fin.lenA, fin.lenI, fin.lenS, fun c' hc' => ?_⟩, fun c' hP => ?_⟩,
    ⟨fin.idxLen, fun chI hchI => ?_, hc, Or.inl hPc⟩⟩
  · by_cases e : c' = c
    · subst e
      exact ⟨fin.supSound, fin.supNodup, fun _ => hcomplete, fun _ x hx => fin.covIn x
        ((hcomplete x).mpr ⟨(mem_upperCoversBy.mp hx).1, (mem_upperCoversBy.mp hx).2.1⟩) hx, fun h => absurd hPc h⟩
    · rw [fin.frameA c' e, fin.frameI c' e, fin.frameS c' e]; exact g.row c' hc'
  · by_cases e : c' = c
    · exact e ▸ hPc
    · exact fun h => hP ((fin.frameS c' e).symm.trans h)
  · exact ⟨(fin.starts chI hchI).1, fun x hx => (fin.allSound x ((fin.starts chI hchI).2 x hx)).2⟩

def ScanOrderOK (chains : List (List Nat)) (scanOrder : Nat → List Nat) : Prop :=
  ∀ c chI, chI ∈ scanOrder c ↔ chI < chains.length

theorem processConcept_ok (ctx : SweepCtx n lt rk pos top chains) {scanOrder : Nat → List Nat}
    (hso : ScanOrderOK chains scanOrder) {sw : Sweep} {idxs : List Nat} {p c : Nat}
    (g : GInv n lt sw) (l : LInv n lt top chains sw idxs p) (hc : c < n) (hcp : lt c p = true)
    (st' : Sweep × List Nat) (e : processConcept lt pos chains scanOrder (sw, idxs) p c = st') :
    Advances n lt sw st'.1 ∧ LInv n lt top chains st'.1 st'.2 c := by
  subst e
  by_cases hP : Proc sw c
  · -- already processed: `continue`; the recorded prefixes are above `p`, hence above `c`
    have e : processConcept lt pos chains scanOrder (sw, idxs) p c = (sw, idxs) :=
      if_pos (isEmpty_iff_proc.mpr hP)
    rw [e]
    exact ⟨⟨g, fun _ h => h⟩, l.idxLen, fun chI hchI => ⟨(l.pre chI hchI).1,
      fun x hx => ctx.so.trans _ _ _ hcp ((l.pre chI hchI).2 x hx)⟩, hc, Or.inl hP⟩
  · have e : processConcept lt pos chains scanOrder (sw, idxs) p c = (scanOrder c).foldl (scanOne lt pos chains c)
        (⟨sw.allSup.set c (union (sw.allSup.getD c []) (union [p] (sw.allSup.getD p []))), sw.incomp,
          sw.supD.set c [p]⟩, idxs) := if_neg (mt isEmpty_iff_proc.mp hP)
    rw [e]
    exact gInv_of_sInv ctx g hc
      (scans_ok ctx hc (scanOrder c) _ idxs [] (fun chI h => (hso c chI).mp h)
        (sInv_start ctx g l hc hcp hP rfl rfl rfl))
      (fun chI hchI => List.mem_append_left _ (List.mem_reverse.mpr ((hso c chI).mpr hchI)))

theorem processChainAux_ok (ctx : SweepCtx n lt rk pos top chains) {scanOrder : Nat → List Nat}
    (hso : ScanOrderOK chains scanOrder) :
    ∀ (rest : List Nat) (p : Nat) (sw : Sweep) (idxs : List Nat) (st' : Sweep × List Nat),
      processChainAux lt pos chains scanOrder (sw, idxs) (p :: rest) = st' → (∀ x ∈ p :: rest, x < n) →
      (p :: rest).Pairwise (fun a b => lt b a = true) →
      GInv n lt sw → LInv n lt top chains sw idxs p →
      Advances n lt sw st'.1 ∧ ∀ x ∈ rest, Proc st'.1 x := by
  intro rest
  induction rest with
  | nil => intro p sw idxs st' e _ _ g _; subst e; exact ⟨⟨g, fun _ h => h⟩, nofun⟩
  | cons c rest ih =>
    intro p sw idxs st' e hlt hdesc g l
    have hcp : lt c p = true := List.rel_of_pairwise_cons hdesc (List.mem_cons_self ..)
    obtain ⟨a1, l1⟩ := processConcept_ok ctx hso g l
      (hlt c (List.mem_cons_of_mem _ (List.mem_cons_self ..))) hcp _ rfl
    obtain ⟨a2, p2⟩ := ih c _ _ st' e (fun x hx => hlt x (List.mem_cons_of_mem _ hx)) hdesc.of_cons a1.ginv l1
    refine ⟨a1.trans a2, fun x hx => ?_⟩
    rcases List.mem_cons.mp hx with e | hx
    · -- `c` is processed now: it is not the top, being below `p`
      exact e ▸ a2.mono c (l1.aOK.resolve_right fun e => ctx.top_not_below l.aLt (e ▸ hcp))
    · exact p2 x hx

theorem processChain_ok (ctx : SweepCtx n lt rk pos top chains) {scanOrder : Nat → List Nat}
    (hso : ScanOrderOK chains scanOrder) {sw : Sweep} (g : GInv n lt sw) {ch : List Nat}
    (hch : ch ∈ chains) :
    Advances n lt sw (processChain lt pos chains scanOrder sw ch) ∧
    ∀ x ∈ ch, x ≠ top → Proc (processChain lt pos chains scanOrder sw ch) x := by
  have hhead := ctx.chainsHead ch hch
  cases ch with
  | nil => cases hhead
  | cons a rest =>
    cases hhead
    obtain ⟨a1, p1⟩ := processChainAux_ok ctx hso rest _ sw (List.replicate chains.length 0) _ rfl
      (ctx.chainsLt _ hch) (ctx.chainsDesc _ hch) g
      ⟨List.length_replicate, fun chI _ => by
        rw [ListAux.getD_replicate_self _ _ _]
        exact ⟨Nat.zero_le _, nofun⟩, ctx.topGreatest.1, Or.inr rfl⟩
    exact ⟨a1, fun x hx hne => p1 x ((List.mem_cons.mp hx).resolve_left hne)⟩

theorem sweepInit_ginv (n : Nat) (lt : Nat → Nat → Bool) : GInv n lt (sweepInit n) := by
  have e : ∀ c, (List.replicate n ([] : List Nat)).getD c [] = [] := fun c => ListAux.getD_replicate_self _ _ _
  exact ⟨List.length_replicate, List.length_replicate, List.length_replicate, fun c _ => (e c).symm ▸
    ⟨nofun, List.nodup_nil, fun h => absurd rfl h, fun h => absurd rfl h, fun _ => ⟨rfl, rfl⟩⟩⟩

theorem sweep_fold_ok (ctx : SweepCtx n lt rk pos top chains) {scanOrder : Nat → List Nat}
    (hso : ScanOrderOK chains scanOrder) :
    ∀ (todo : List (List Nat)) (sw : Sweep), (∀ ch ∈ todo, ch ∈ chains) → GInv n lt sw →
      Advances n lt sw (todo.foldl (processChain lt pos chains scanOrder) sw) ∧
      ∀ ch ∈ todo, ∀ x ∈ ch, x ≠ top → Proc (todo.foldl (processChain lt pos chains scanOrder) sw) x := by
  intro todo
  induction todo with
  | nil => intro sw _ g; exact ⟨⟨g, fun _ h => h⟩, nofun⟩
  | cons ch rest ih =>
    intro sw hsub g
    obtain ⟨a1, p1⟩ := processChain_ok ctx hso g (hsub ch (List.mem_cons_self ..))
    obtain ⟨a2, p2⟩ := ih _ (fun c hc => hsub c (List.mem_cons_of_mem _ hc)) a1.ginv
    refine ⟨a1.trans a2, fun ch' hch' x hx hne => ?_⟩
    rcases List.mem_cons.mp hch' with e | hch'
    · exact a2.mono x (p1 x (e ▸ hx) hne)
    · exact p2 ch' hch' x hx hne

theorem sweep_post (ctx : SweepCtx n lt rk pos top chains) {scanOrder : Nat → List Nat}
    (hso : ScanOrderOK chains scanOrder) :
    SweepPost n lt (chains.foldl (processChain lt pos chains scanOrder) (sweepInit n)) := by
  obtain ⟨⟨g, _⟩, p⟩ := sweep_fold_ok ctx hso chains (sweepInit n) (fun _ h => h) (sweepInit_ginv n lt)
  have hall : ∀ c, c < n → Proc (chains.foldl (processChain lt pos chains scanOrder) (sweepInit n)) c ∨
      c = top := fun c hc => by
    obtain ⟨ch, hch, hcch⟩ := ctx.chainsCover c hc
    exact Classical.byCases Or.inr (fun hne => Or.inl (p ch hch c hcch hne))
  refine ⟨fun c hc => g.allComplete ctx hc (hall c hc), fun c hc => (g.row c hc).supSound, fun c hc => ?_,
    fun c hc => (g.row c hc).supNodup⟩
  rcases hall c hc with h | rfl
  · exact (g.row c hc).supCov h
  · intro x hx
    have hx' := mem_upperCoversBy.mp hx
    exact absurd hx'.2.1 (ctx.top_not_below hx'.1)

theorem sweep_finalize_ok (ctx : SweepCtx n lt rk pos top chains) {scanOrder : Nat → List Nat}
    (hso : ScanOrderOK chains scanOrder) (ord : List Nat → List Nat) (hord : OrdOK ord) :
    CoverDictBy n lt
      (finalize n pos ord (chains.foldl (processChain lt pos chains scanOrder) (sweepInit n))) :=
  finalize_ok ctx.so pos ctx.posOK ord hord (sweep_post ctx hso)

end

theorem scanOrderOK_seq (chains : List (List Nat)) :
    ScanOrderOK chains (fun _ => List.range chains.length) := fun _ _ => List.mem_range

theorem mem_batches {nJobs nChains k chI : Nat} (hk : k < (batches nJobs nChains).length) :
    chI ∈ (batches nJobs nChains).getD k [] ↔ (∃ r, r < nJobs ∧ k * nJobs + r = chI) ∧ chI < nChains := by
  unfold batches at hk ⊢
  rw [List.length_map, List.length_range] at hk
  rw [ListAux.getD_map_range _ _ _ _ hk]
  simp only [List.mem_filterMap, List.mem_range]
  constructor
  · rintro ⟨r, hr, he⟩
    split at he
    · rename_i hlt
      cases he
      exact ⟨⟨r, hr, rfl⟩, hlt⟩
    · cases he
  · rintro ⟨⟨r, hr, he⟩, hlt⟩
    exact ⟨r, hr, by rw [if_pos (he ▸ hlt), he]⟩

/-- a thread schedule at scan granularity: for every concept and batch a rearrangement of the batch -/
def SchedOK (sched : Nat → Nat → List Nat → List Nat) : Prop := ∀ c k b, (sched c k b).Perm b

/-- chain `chI` is in batch `chI / nJobs` -/
theorem scanOrderOK_par (chains : List (List Nat)) {nJobs : Nat} (hj : 1 ≤ nJobs)
    (sched : Nat → Nat → List Nat → List Nat) (hsched : SchedOK sched) :
    ScanOrderOK chains (fun cCur => (List.range (batches nJobs chains.length).length).flatMap
      fun k => sched cCur k ((batches nJobs chains.length).getD k [])) := by
  intro c chI
  simp only [List.mem_flatMap, List.mem_range]
  constructor
  · rintro ⟨k, hk, hm⟩
    rw [(hsched _ _ _).mem_iff] at hm
    exact ((mem_batches hk).mp hm).2
  · intro hlt
    have hkk : chI / nJobs < (batches nJobs chains.length).length := by
      rw [batches, List.length_map, List.length_range]
      calc chI / nJobs < (chI + nJobs) / nJobs := by rw [Nat.add_div_right chI hj]; exact Nat.lt_succ_self _
        _ ≤ (chains.length + nJobs - 1) / nJobs := Nat.div_le_div_right (by omega)
    refine ⟨chI / nJobs, hkk, ?_⟩
    rw [(hsched _ _ _).mem_iff, mem_batches hkk]
    refine ⟨⟨chI % nJobs, Nat.mod_lt _ hj, ?_⟩, hlt⟩
    rw [Nat.mul_comm]; exact Nat.div_add_mod chI nJobs

end Fca.Construct
