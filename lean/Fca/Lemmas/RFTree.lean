/-
  The random-forest miner of C15.  The descent of a row passes a node iff the row passes every half-space test
  `x[f] <= thr` / `x[f] > thr` on the way, so the rows reaching a node are closed under "coordinate-wise between"; an
  object in the interval closure of point-valued rows lies between them, hence every node extent is closed
  (`C15.rf_node_extents_closed`).
-/
import Fca.Model.RFTree
import Fca.Lemmas.DecisionLatticeTree
import Fca.Lemmas.SofiaApprox
import Fca.Lemmas.ListAux
import Fca.Lemmas.SharedLoops
namespace Fca.RF
open Fca.DL Fca.SofiaApprox

theorem subtree_succ (t : Tree) (fuel i : Nat) :
    subtree t (fuel + 1) i =
      match node? t i with
      | none => [i]
      | some (l, r, _, _) => i :: (subtree t fuel l.toNat ++ subtree t fuel r.toNat) := by
  rw [subtree]
  exact node?_elim t i _ _

theorem treeOK_succ (t : Tree) (fuel i : Nat) :
    treeOK t (fuel + 1) i =
      match node? t i with
      | none => true
      | some (l, r, _, _) =>
        ((subtree t fuel l.toNat).all fun y => !(subtree t fuel r.toNat).contains y) &&
          treeOK t fuel l.toNat && treeOK t fuel r.toNat := by
  rw [treeOK]
  exact node?_elim t i _ _

theorem testsTo_succ (t : Tree) (j fuel i : Nat) (h : i ≠ j) :
    testsTo t j (fuel + 1) i =
      match node? t i with
      | none => none
      | some (l, r, f, thr) =>
        match testsTo t j fuel l.toNat with
        | some ts => some ((f.toNat, thr, true) :: ts)
        | none =>
          match testsTo t j fuel r.toNat with
          | some ts => some ((f.toNat, thr, false) :: ts)
          | none => none := by
  rw [testsTo, if_neg h]
  exact node?_elim t i _ _

theorem testsTo_self (t : Tree) (j fuel : Nat) : testsTo t j fuel j = some [] := by
  cases fuel <;> exact if_pos rfl

theorem testsTo_subtree (t : Tree) (j : Nat) : ∀ fuel i ts, testsTo t j fuel i = some ts → j ∈ subtree t fuel i := by
  intro fuel
  induction fuel with
  | zero =>
    intro i ts h
    rw [testsTo] at h
    split at h
    · rename_i e
      exact e ▸ List.mem_singleton.mpr rfl
    · cases h
  | succ fuel ih =>
    intro i ts h
    rw [subtree_succ]
    by_cases e : i = j
    · subst e
      split <;> exact List.mem_cons_self
    · rw [testsTo_succ t j fuel i e] at h
      split at h
      · cases h
      · refine List.mem_cons_of_mem _ (List.mem_append.mpr ?_)
        split at h
        · rename_i hl
          exact Or.inl (ih _ _ hl)
        · split at h
          · rename_i hr
            exact Or.inr (ih _ _ hr)
          · cases h

theorem passes_cons (x : List Rat) (f : Nat) (thr : Rat) (b : Bool) (ts : List (Nat × Rat × Bool)) :
    passes x ((f, thr, b) :: ts) = true ↔ (x.getD f 0 ≤ thr ↔ b = true) ∧ passes x ts = true := by
  rw [passes, List.all_cons, Bool.and_eq_true, beq_iff_eq]
  refine and_congr_left' ?_
  cases b <;> simp

theorem contains_pathFrom (t : Tree) (j : Nat) (x : List Rat) :
    ∀ fuel i, treeOK t fuel i = true →
      (pathFrom t x fuel i).contains j =
        match testsTo t j fuel i with
        | some ts => passes x ts
        | none => false := by
  have hne : ∀ {i : Nat}, i ≠ j → ∀ l', (i :: l').contains j = l'.contains j := fun e l' => by
    rw [List.contains_cons, beq_false_of_ne (Ne.symm e), Bool.false_or]
  intro fuel
  induction fuel with
  | zero =>
    intro i _
    rw [pathFrom, testsTo]
    by_cases e : i = j
    · rw [if_pos e, e]
      exact List.contains_iff_mem.mpr List.mem_cons_self
    · rw [if_neg e, hne e]
      rfl
  | succ fuel ih =>
    intro i hok
    by_cases e : i = j
    · subst e
      rw [testsTo_self]
      exact List.contains_iff_mem.mpr (self_mem_pathFrom t x _ i)
    rw [DL.pathFrom_succ, child, testsTo_succ t j fuel i e]
    rw [treeOK_succ] at hok
    generalize node? t i = o at hok ⊢
    rcases o with _ | ⟨l, r, f, thr⟩
    · exact hne e []
    · dsimp only
      simp only [Bool.and_eq_true, List.all_eq_true, Bool.not_eq_true', List.contains_eq_mem,
        decide_eq_false_iff_not] at hok
      obtain ⟨⟨hdis, hokl⟩, hokr⟩ := hok
      -- `passes x ((f, thr, b) :: ts)` unfolds to `(decide (x[f] ≤ thr) == b) && passes x ts`, and `hx` decides the test
      by_cases hx : x.getD f.toNat 0 ≤ thr
      · rw [if_pos hx, hne e, ih _ hokl]
        cases testsTo t j fuel l.toNat with
        | some ts => exact (congrArg (fun b => (b == true) && passes x ts) (decide_eq_true hx)).symm
        | none =>
          cases testsTo t j fuel r.toNat with
          | some ts => exact (congrArg (fun b => (b == false) && passes x ts) (decide_eq_true hx)).symm
          | none => rfl
      · rw [if_neg hx, hne e, ih _ hokr]
        cases hL : testsTo t j fuel l.toNat with
        | some ts0 =>
          -- `j` is below the left child, so not below the right one
          have hR : testsTo t j fuel r.toNat = none := by
            cases hR : testsTo t j fuel r.toNat with
            | none => rfl
            | some ts => exact absurd (testsTo_subtree t j fuel _ ts hR) (hdis j (testsTo_subtree t j fuel _ ts0 hL))
          rw [hR]
          exact (congrArg (fun b => (b == true) && passes x ts0) (decide_eq_false hx)).symm
        | none =>
          cases testsTo t j fuel r.toNat with
          | some ts => exact (congrArg (fun b => (b == false) && passes x ts) (decide_eq_false hx)).symm
          | none => rfl

def Between (As : List (List Rat)) (x : List Rat) : Prop :=
  ∀ f : Nat, (∃ a ∈ As, a.getD f 0 ≤ x.getD f 0) ∧ (∃ a ∈ As, x.getD f 0 ≤ a.getD f 0)

/-- every test is a half-space test: a row between rows that pass passes -/
theorem passes_between {As : List (List Rat)} {x : List Rat} (hb : Between As x)
    (ts : List (Nat × Rat × Bool)) (h : ∀ a ∈ As, passes a ts = true) : passes x ts = true := by
  induction ts with
  | nil => rfl
  | cons p ts ih =>
    obtain ⟨f, thr, b⟩ := p
    rw [passes_cons]
    refine ⟨?_, ih fun a ha => ((passes_cons ..).mp (h a ha)).2⟩
    cases b with
    | true =>
      obtain ⟨a, ha, hxa⟩ := (hb f).2
      exact iff_of_true (Rat.le_trans hxa (((passes_cons ..).mp (h a ha)).1.mpr rfl)) rfl
    | false =>
      obtain ⟨a, ha, hax⟩ := (hb f).1
      exact iff_of_false (fun hx => Bool.false_ne_true (((passes_cons ..).mp (h a ha)).1.mp (Rat.le_trans hax hx)))
        Bool.false_ne_true

/-- the rows whose descent from `i` passes `j` all pass the same tests, those on the way from `i` to `j` -/
theorem path_between (t : Tree) (j : Nat) {As : List (List Rat)} {x : List Rat} (hb : Between As x)
    (fuel i : Nat) (hok : treeOK t fuel i = true) (h : ∀ a ∈ As, (pathFrom t a fuel i).contains j = true) :
    (pathFrom t x fuel i).contains j = true := by
  have h' := fun a ha => contains_pathFrom t j a fuel i hok ▸ h a ha
  rw [contains_pathFrom t j x fuel i hok]
  generalize testsTo t j fuel i = o at h' ⊢
  cases o with
  | none => exact (hb 0).1.elim fun a ha => h' a ha.1
  | some ts => exact passes_between hb ts h'

theorem intPS_isHull (D : IRows) (c : Nat) {A : List Nat} (hA : A ≠ []) :
    ∃ h, intPS D c A = some h ∧ IsHull (fun g => icell D g c) A h := by
  obtain ⟨g, gs, rfl⟩ := List.exists_cons_of_ne_nil hA
  -- `intStep D c acc g` unfolds to `hullStep acc (icell D g c)`
  have := isHull_foldl (fun g => icell D g c) g gs
  rw [List.foldl_map] at this
  exact ⟨_, rfl, this⟩

/-- the description depends on the SET of objects only (the order in which scipy lists the rows of a node, and
    repetitions, do not matter) -/
theorem intPS_congr (D : IRows) (c : Nat) (A B : List Nat) (h : ∀ g, g ∈ A ↔ g ∈ B) : intPS D c A = intPS D c B := by
  by_cases hA : A = []
  · subst hA
    rw [List.eq_nil_iff_forall_not_mem.mpr fun g hg => List.not_mem_nil ((h g).mpr hg)]
  · have hB : B ≠ [] := fun hB =>
      hA (List.eq_nil_iff_forall_not_mem.mpr fun g hg => List.not_mem_nil (hB ▸ (h g).mp hg))
    obtain ⟨x, e, hx⟩ := intPS_isHull D c hA
    obtain ⟨y, e', hy⟩ := intPS_isHull D c hB
    rw [e, e', hx.unique hy h]

theorem intPS_perm (D : IRows) (c : Nat) {A B : List Nat} (h : A.Perm B) : intPS D c A = intPS D c B :=
  intPS_congr D c A B fun _ => h.mem_iff

theorem sat_some (D : IRows) (c : Nat) (lo hi : Rat) (g : Nat) :
    sat D c (some (lo, hi)) g = true ↔ lo ≤ (icell D g c).1 ∧ (icell D g c).2 ≤ hi := by
  rw [sat, Bool.and_eq_true, decide_eq_true_eq, decide_eq_true_eq]

theorem sat_intPS_of_mem (D : IRows) (c : Nat) {A : List Nat} {g : Nat} (hg : g ∈ A) :
    sat D c (intPS D c A) g = true := by
  obtain ⟨h, e, b, _⟩ := intPS_isHull D c (List.ne_nil_of_mem hg)
  rw [e, sat_some]
  exact b g hg

/-- the early `break` changes nothing: filtering an empty extent further leaves it empty.  Stated for descriptions
    given per column, as `intentionI` lists them: the loop's column counter is then the element of `range'` itself. -/
theorem extLoop_map_range' (D : IRows) (f : Nat → IDescr) : ∀ (n c : Nat) (e : List Nat),
    extLoop D c ((List.range' c n).map f) e = e.filter fun g => (List.range' c n).all fun c => sat D c (f c) g := by
  intro n
  induction n with
  | zero => exact fun _ _ => (List.filter_eq_self.mpr fun _ _ => rfl).symm
  | succ n ih =>
    intro c e
    rw [List.range'_succ, List.map_cons, extLoop]
    have key : (extPS D c (f c) e).filter (fun g => (List.range' (c + 1) n).all fun c => sat D c (f c) g)
        = e.filter fun g => (c :: List.range' (c + 1) n).all fun c => sat D c (f c) g := by
      rw [extPS, List.filter_filter]
      exact List.filter_congr fun g _ => Bool.and_comm _ _
    split
    · rename_i hemp
      rw [← key, List.isEmpty_iff.mp hemp]
      rfl
    · rw [ih, key]

theorem closure_eq_filter (D : IRows) (k : Nat) (A : List Nat) :
    closure D k A = (List.range D.length).filter fun g => (List.range k).all fun c => sat D c (intPS D c A) g := by
  rw [closure, extensionI, intentionI, List.range_eq_range' (n := k), extLoop_map_range']

theorem mem_closure (D : IRows) (k : Nat) (A : List Nat) (g : Nat) :
    g ∈ closure D k A ↔ g < D.length ∧ ∀ c < k, sat D c (intPS D c A) g = true := by
  rw [closure_eq_filter, List.mem_filter, List.mem_range, List.all_eq_true]
  simp only [List.mem_range]

/-- the closure of the empty object list is empty as soon as there is a column (`intention_i([])` is `None`
    everywhere, and `None` describes no object) -/
theorem closure_nil (D : IRows) (k : Nat) (hk : 0 < k) : closure D k [] = [] :=
  List.eq_nil_iff_forall_not_mem.mpr fun g hg => Bool.false_ne_true (((mem_closure D k [] g).mp hg).2 0 hk)

/-- the row of `castRows cast (toNumeric D)` belonging to the object with cells `row` -/
def numRow (cast : Rat → Rat) (row : List ICell) : List Rat := (row.flatMap fun c => [c.1, c.2]).map cast

theorem castRows_toNumeric (cast : Rat → Rat) (D : IRows) : castRows cast (toNumeric D) = D.map (numRow cast) :=
  List.map_map ..

theorem numRow_cons (cast : Rat → Rat) (c : ICell) (row : List ICell) :
    numRow cast (c :: row) = cast c.1 :: cast c.2 :: numRow cast row := by
  rw [numRow, List.flatMap_cons, List.map_append]
  rfl

/-- both numeric columns `2 c` and `2 c + 1` of a row of points are the cast point of interval column `c` -/
theorem numRow_getD (cast : Rat → Rat) (row : List ICell) (hrow : ∀ c ∈ row, c.1 = c.2) : ∀ f : Nat,
    (numRow cast row).getD f 0 = if f / 2 < row.length then cast (row.getD (f / 2) (0, 0)).1 else 0 := by
  induction row with
  | nil => exact fun _ => rfl
  | cons c rest ih =>
    intro f
    match f with
    | 0 => rfl
    | 1 => exact congrArg cast (hrow c List.mem_cons_self).symm
    | f + 2 =>
      rw [numRow_cons, List.getD_cons_succ, List.getD_cons_succ, ih (fun c hc => hrow c (List.mem_cons_of_mem _ hc)) f,
        Nat.add_div_right f Nat.two_pos, List.length_cons, List.getD_cons_succ]
      simp only [Nat.succ_lt_succ_iff]

theorem mem_values {D : IRows} {g c : Nat} (hg : g < D.length) (hc : c < (D.getD g []).length) :
    (icell D g c).1 ∈ values D := by
  simp only [values, List.mem_flatMap]
  exact ⟨_, ListAux.getD_mem _ _ _ hg, _, ListAux.getD_mem _ _ _ hc, List.mem_cons_self⟩

theorem cast_le_of_castMonoOn {cast : Rat → Rat} {D : IRows} (h : castMonoOn cast D = true) {u v : Rat}
    (hu : u ∈ values D) (hv : v ∈ values D) (huv : u ≤ v) : cast u ≤ cast v := by
  simp only [castMonoOn, List.all_eq_true, Bool.or_eq_true, Bool.not_eq_true', decide_eq_false_iff_not,
    decide_eq_true_eq] at h
  exact (h u hu v hv).resolve_left (not_not_intro huv)

theorem monoTable_iff (tbl : List (Rat × Rat)) :
    monoTable tbl = true ↔ tbl.Pairwise fun p q => p.1 < q.1 ∧ p.2 ≤ q.2 := by
  induction tbl with
  | nil => exact iff_of_true rfl .nil
  | cons p rest ih =>
    rw [monoTable, Bool.and_eq_true, List.pairwise_cons, ih, List.all_eq_true]
    simp only [Bool.and_eq_true, decide_eq_true_eq]

/-- the keys being distinct, the lookup finds the entry itself -/
theorem castOfList_of_mem {tbl : List (Rat × Rat)} (hs : tbl.Pairwise fun p q => p.1 < q.1 ∧ p.2 ≤ q.2)
    {p : Rat × Rat} (hp : p ∈ tbl) : castOfList tbl p.1 = p.2 := by
  obtain ⟨l₁, l₂, rfl⟩ := List.append_of_mem hp
  have : (l₁ ++ p :: l₂).lookup p.1 = some p.2 := List.lookup_eq_some_iff.mpr ⟨l₁, l₂, rfl, fun x hx =>
    bne_iff_ne.mpr fun e => Rat.lt_irrefl (e ▸ ((List.pairwise_append.mp hs).2.2 x hx p List.mem_cons_self).1)⟩
  rw [castOfList, this]
  rfl

theorem monoTable_lookup (tbl : List (Rat × Rat)) (hm : monoTable tbl = true) (u v : Rat)
    (hu : (tbl.any fun p => p.1 == u) = true) (hv : (tbl.any fun p => p.1 == v) = true) (huv : u ≤ v) :
    castOfList tbl u ≤ castOfList tbl v := by
  have hs := (monoTable_iff tbl).mp hm
  obtain ⟨p, hp, eu⟩ := List.any_eq_true.mp hu
  obtain ⟨q, hq, ev⟩ := List.any_eq_true.mp hv
  cases beq_iff_eq.mp eu
  cases beq_iff_eq.mp ev
  rw [castOfList_of_mem hs hp, castOfList_of_mem hs hq]
  -- `q` stands before `p` (impossible: its key would be smaller), is `p`, or stands behind `p`
  obtain ⟨l₁, l₂, rfl⟩ := List.append_of_mem hp
  obtain ⟨_, h2, h12⟩ := List.pairwise_append.mp hs
  rcases List.mem_append.mp hq with hq | hq
  · exact absurd huv (Rat.not_le.mpr (h12 q hq p List.mem_cons_self).1)
  · rcases List.mem_cons.mp hq with rfl | hq
    · exact Rat.le_refl
    · exact (List.rel_of_pairwise_cons h2 hq).2

/-- what the driver evaluates implies the hypothesis of the theorems -/
theorem castMonoOn_of_table {tbl : List (Rat × Rat)} {D : IRows} (h : castTableOK tbl D = true) :
    castMonoOn (castOfList tbl) D = true := by
  simp only [castTableOK, Bool.and_eq_true, List.all_eq_true] at h
  obtain ⟨hm, hkeys⟩ := h
  simp only [castMonoOn, List.all_eq_true, Bool.or_eq_true, Bool.not_eq_true', decide_eq_false_iff_not,
    decide_eq_true_eq]
  intro u hu v hv
  by_cases huv : u ≤ v
  · exact Or.inr (monoTable_lookup tbl hm u v (hkeys u hu) (hkeys v hv) huv)
  · exact Or.inl huv

theorem rect_row {D : IRows} {k g : Nat} (h : rect D k = true) (hg : g < D.length) : (D.getD g []).length = k :=
  beq_iff_eq.mp (List.all_eq_true.mp h _ (ListAux.getD_mem _ _ _ hg))

theorem point_row {D : IRows} (h : pointValued D = true) (g : Nat) : ∀ c ∈ D.getD g [], c.1 = c.2 := by
  by_cases hg : g < D.length
  · exact fun c hc => beq_iff_eq.mp (List.all_eq_true.mp (List.all_eq_true.mp h _ (ListAux.getD_mem _ _ _ hg)) c hc)
  · rw [ListAux.getD_of_ge D _ _ (Nat.le_of_not_lt hg)]
    exact fun _ h => nomatch h

theorem point_cell {D : IRows} {g c : Nat} (h : pointValued D = true) : (icell D g c).1 = (icell D g c).2 := by
  by_cases hc : c < (D.getD g []).length
  · exact point_row h g _ (ListAux.getD_mem _ _ _ hc)
  · rw [icell, ListAux.getD_of_ge _ _ _ (Nat.le_of_not_lt hc)]

theorem numRow_getD_le {D : IRows} {k : Nat} {cast : Rat → Rat} (hrect : rect D k = true)
    (hpt : pointValued D = true) (hmono : castMonoOn cast D = true) {a b : Nat} (ha : a < D.length)
    (hb : b < D.length) (f : Nat) (h : f / 2 < k → (icell D a (f / 2)).1 ≤ (icell D b (f / 2)).1) :
    (numRow cast (D.getD a [])).getD f 0 ≤ (numRow cast (D.getD b [])).getD f 0 := by
  rw [numRow_getD cast _ (point_row hpt a), numRow_getD cast _ (point_row hpt b), rect_row hrect ha, rect_row hrect hb]
  split
  · rename_i hf
    have hmem : ∀ a, a < D.length → (icell D a (f / 2)).1 ∈ values D := fun a ha =>
      mem_values ha (by rw [rect_row hrect ha]; exact hf)
    exact cast_le_of_castMonoOn hmono (hmem a ha) (hmem b hb) (h hf)
  · exact Rat.le_refl

theorem between_of_sat {D : IRows} {k : Nat} {cast : Rat → Rat} (hrect : rect D k = true)
    (hpt : pointValued D = true) (hmono : castMonoOn cast D = true) {A : List Nat} (hA : A ≠ [])
    (hAlt : ∀ a ∈ A, a < D.length) {g : Nat} (hg : g < D.length)
    (hsat : ∀ c < k, sat D c (intPS D c A) g = true) :
    Between (A.map fun a => numRow cast (D.getD a [])) (numRow cast (D.getD g [])) := by
  intro f
  -- the objects of `A` with the least and the greatest cell in interval column `f / 2`
  obtain ⟨⟨lo, hi⟩, e, _, ⟨g1, hg1, e1⟩, ⟨g2, hg2, e2⟩⟩ := intPS_isHull D (f / 2) hA
  have hs := fun hf => (sat_some ..).mp (e ▸ hsat (f / 2) hf)
  refine ⟨⟨_, List.mem_map.mpr ⟨g1, hg1, rfl⟩, numRow_getD_le hrect hpt hmono (hAlt g1 hg1) hg f fun hf => ?_⟩,
    ⟨_, List.mem_map.mpr ⟨g2, hg2, rfl⟩, numRow_getD_le hrect hpt hmono hg (hAlt g2 hg2) f fun hf => ?_⟩⟩
  · exact e1.symm ▸ (hs hf).1
  · rw [point_cell (g := g) hpt, point_cell (g := g2) hpt]
    exact e2.symm ▸ (hs hf).2

/-- the objects selected by a property of their numeric rows that passes to rows lying between rows that have it
    form a closed set: the closure adds only objects between the selected ones -/
theorem closed_of_between {D : IRows} {k : Nat} {cast : Rat → Rat} (hk : 0 < k) (hrect : rect D k = true)
    (hpt : pointValued D = true) (hmono : castMonoOn cast D = true) (p : List Rat → Bool)
    (hp : ∀ As x, Between As x → (∀ a ∈ As, p a = true) → p x = true) :
    closure D k ((List.range D.length).filter fun g => p (numRow cast (D.getD g []))) =
      (List.range D.length).filter fun g => p (numRow cast (D.getD g [])) := by
  rw [closure_eq_filter]
  refine List.filter_congr fun g hg => ?_
  generalize hA : ((List.range D.length).filter fun g => p (numRow cast (D.getD g []))) = A
  rw [Bool.eq_iff_iff, List.all_eq_true]
  simp only [List.mem_range]
  constructor
  · intro hsat
    -- `A` is not empty: the description of no object is `none` in column 0, which `g` does not satisfy
    have hne : A ≠ [] := fun h0 => Bool.false_ne_true (h0 ▸ hsat 0 hk :)
    have hAp := fun a (ha : a ∈ A) => List.mem_filter.mp (hA ▸ ha)
    exact hp _ _ (between_of_sat hrect hpt hmono hne (fun a ha => List.mem_range.mp (hAp a ha).1)
      (List.mem_range.mp hg) hsat) (List.forall_mem_map.mpr fun a ha => (hAp a ha).2)
  · exact fun hpg c _ => sat_intPS_of_mem D c (hA ▸ List.mem_filter.mpr ⟨hg, hpg⟩)

/-- the tree and the node a column of the forest's path matrix belongs to -/
def locate : List Tree → Nat → Option (Tree × Nat)
  | [], _ => none
  | t :: ts, j => if j < t.n then some (t, j) else locate ts (j - t.n)

theorem locate_mem (ts : List Tree) : ∀ (j : Nat) {t : Tree} {j' : Nat}, locate ts j = some (t, j') → t ∈ ts := by
  induction ts with
  | nil => exact fun _ _ _ h => nomatch h
  | cons t0 ts ih =>
    intro j t j' h
    rw [locate] at h
    split at h
    · cases h
      exact List.mem_cons_self
    · exact List.mem_cons_of_mem _ (ih _ h)

theorem pathRow_length (t : Tree) (x : List Rat) : (pathRow t x).length = t.n := by
  rw [pathRow, List.length_map, List.length_range]

theorem forestRow_getD (x : List Rat) (ts : List Tree) : ∀ j : Nat,
    (ts.flatMap fun t => pathRow t x).getD j false =
      match locate ts j with
      | none => false
      | some (t, j') => (pathFrom t x t.n 0).contains j' := by
  induction ts with
  | nil => exact fun _ => rfl
  | cons t ts ih =>
    intro j
    rw [List.flatMap_cons, locate]
    by_cases hj : j < t.n
    · rw [if_pos hj, ListAux.getD_append_left _ _ _ _ (by rw [pathRow_length]; exact hj), pathRow,
        ListAux.getD_map_range _ _ _ _ hj]
    · rw [if_neg hj, ListAux.getD_append_right _ _ _ _ (by rw [pathRow_length]; exact Nat.le_of_not_lt hj),
        pathRow_length, ih]

theorem colSupport_pathMatrix (ts : List Tree) (X : Rows) (j : Nat) :
    colSupport (pathMatrix ts X) j = (List.range X.length).filter fun g =>
      match locate ts j with
      | none => false
      | some (t, j') => (pathFrom t (X.getD g []) t.n 0).contains j' := by
  rw [colSupport, pathMatrix, List.length_map]
  refine List.filter_congr fun g hg => ?_
  rw [ListAux.getD_map _ X g [] [] (List.mem_range.mp hg), forestRow_getD]

theorem colSupport_forest (D : IRows) (cast : Rat → Rat) (ts : List Tree) (j : Nat) :
    colSupport (pathMatrix ts (castRows cast (toNumeric D))) j = (List.range D.length).filter fun g =>
      match locate ts j with
      | none => false
      | some (t, j') => (pathFrom t (numRow cast (D.getD g [])) t.n 0).contains j' := by
  rw [colSupport_pathMatrix, castRows_toNumeric, List.length_map]
  exact List.filter_congr fun g hg => by rw [ListAux.getD_map _ D g [] [] (List.mem_range.mp hg)]

end Fca.RF
