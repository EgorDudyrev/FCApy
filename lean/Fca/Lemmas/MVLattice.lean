/-
  The three mining paths of `close_by_one` on a many-valued context (C14).  The binarising paths rest on property
  C02's analysis of `cboFbarray` (`FcaExact` is what they need of it); the object-wise path is the worklist machine of
  `Lemmas/CbOMachine` run on the many-valued closure, whose hypothesis `c_trans` is where `BottomOK` enters.
-/
import Fca.Lemmas.MVBinarize
import Fca.Lemmas.CbOTable
namespace Fca.MV
open Fca.Spec Fca.CbOM

/-- What the binarising paths need of `close_by_one_objectwise_fbarray`'s run on the binarised table `t`, and what
    `bin_direct_exact` / `bin_transposed_exact` get from property C02's analysis: the listed extents are pairwise
    different and are exactly the extents of the formal concepts of `t`.  (For the transposed shape the list is the
    intents of the concepts of `t.T`, which are the same sets by `Spec.isConcept_transpose`.) -/
def FcaExact (t : Table) (exts : List (List Nat)) : Prop :=
  exts.Nodup ∧ ∀ E, E ∈ exts ↔ ∃ B, Spec.isConcept t E B = true

theorem fcaExact_of_concepts {t : Table} {l : List (List Nat × List Nat)} (hnd : l.Nodup)
    (hmem : ∀ A B, (A, B) ∈ l ↔ Spec.isConcept t A B = true) : FcaExact t (l.map (·.1)) := by
  constructor
  · refine (List.pairwise_map.mpr (List.Pairwise.imp_of_mem ?_ hnd) : (l.map (·.1)).Pairwise (· ≠ ·))
    intro x y hx hy hne hxy
    exact hne (isConcept_eq_of_extent_eq ((hmem x.1 x.2).mp hx) ((hmem y.1 y.2).mp hy) hxy)
  · intro E
    rw [List.mem_map]
    exact ⟨fun ⟨p, h, e⟩ => ⟨p.2, (hmem E p.2).mp (e ▸ h)⟩, fun ⟨B, h⟩ => ⟨(E, B), (hmem E B).mpr h, rfl⟩⟩

/-- `FcaExact` can be met for every table: the brute-force enumeration does -/
theorem fcaExact_allConcepts (t : Table) : FcaExact t ((Spec.allConcepts t).map (·.1)) :=
  fcaExact_of_concepts (Spec.allConcepts_nodup t) fun _ _ => Spec.mem_allConcepts t

theorem fcaExact_of_exact {t : Table} {cs : List ConceptRec} (h : ExactConcepts t cs)
    (hs : ∀ c ∈ cs, sortIdx c.extentI = c.extentI) : FcaExact t (cs.map (·.extentI)) := by
  have hmap : cs.map (·.extentI) = (cs.map conceptKey).map (·.1) := by
    rw [List.map_map]
    exact List.map_congr_left fun c hc => (hs c hc).symm
  rw [hmap]
  exact fcaExact_of_concepts h.1 fun A B => (h.2 A B).trans (mem_allConcepts t)

/-- the `FormalContext` handed to the formal-context miner -/
def MVCtx.binCtx (K : MVCtx) : Ctx := (⟨K.binTable, K.objNames⟩ : MVCtx.BinCtx).toCtx

theorem MVCtx.binCtx_table (K : MVCtx) : K.binCtx.table = K.binTable := rfl

/-- `FormalConcept.from_objects(A, K, is_extent=False)` lists extent and intent of in-range objects ascending -/
theorem fromObjects_false_sorted (K : Ctx) (hwf : K.table.WF) (A : List Nat) (hA : ∀ g ∈ A, g < K.nObjects) :
    sortIdx (K.fromObjects A false).extentI = (K.fromObjects A false).extentI ∧
    sortIdx (K.fromObjects A false).intentI = (K.fromObjects A false).intentI := by
  simp only [Ctx.fromObjects, Bool.not_false, ↓reduceIte, K.intentionI_none hwf hA,
    K.extensionI_none hwf (intAll_lt K.table)]
  exact ⟨sortIdx_eq_self_of_sorted (extAll_sorted _ _), sortIdx_eq_self_of_sorted (intAll_sorted _ _)⟩

theorem MVCtx.bin_direct_exact (K : MVCtx) (hwf : K.WF) (hc : K.cols ≠ []) (fuel : Nat)
    (hf : cboFuel K.nObjects ≤ fuel) :
    ∃ cs, cboFbarray K.binCtx fuel = .ok cs ∧ FcaExact K.binTable (cs.map (·.extentI)) := by
  have hwfT : K.binCtx.table.WF := transpose_wf _
  have hn : K.binCtx.nObjects = K.nObjects := K.binTable_height hwf hc
  obtain ⟨tr, htr, hok⟩ := fbarray_trace K.binCtx hwfT fuel (hn ▸ hf)
  refine ⟨tr.map fun p => K.binCtx.fromObjects p.2 false, by unfold cboFbarray; rw [htr], ?_⟩
  refine fcaExact_of_exact (exact_of_trace K.binCtx hwfT hok false) fun c hc' => ?_
  obtain ⟨p, hp, rfl⟩ := List.mem_map.mp hc'
  exact (fromObjects_false_sorted K.binCtx hwfT p.2 (hok.sound p hp).1).1

theorem MVCtx.bin_transposed_exact (K : MVCtx) (fuel : Nat) (hf : cboFuel K.binTable.width ≤ fuel) :
    ∃ cs, cboFbarray K.binCtx.T fuel = .ok cs ∧ FcaExact K.binTable (cs.map (·.intentI)) := by
  have hwf : K.binCtx.table.WF := transpose_wf _
  have hwfT : K.binCtx.T.table.WF := transpose_wf K.binCtx.table
  have hn : K.binCtx.T.nObjects = K.binTable.width := transpose_height K.binCtx.table
  obtain ⟨tr, htr, hok⟩ := fbarray_trace K.binCtx.T hwfT fuel (hn ▸ hf)
  refine ⟨tr.map fun p => K.binCtx.T.fromObjects p.2 false, by unfold cboFbarray; rw [htr], ?_⟩
  -- `exact_of_trace_T` speaks of the swapped concepts `from_objects(c.intent_i, K, is_extent=True)`, whose extents
  -- are the intents mined
  have := fcaExact_of_exact (exact_of_trace_T K.binCtx hwf hok) fun r hr => by
    obtain ⟨c, hc', rfl⟩ := List.mem_map.mp hr
    obtain ⟨p, hp, rfl⟩ := List.mem_map.mp hc'
    exact (fromObjects_false_sorted K.binCtx.T hwfT p.2 (hok.sound p hp).1).2
  rwa [List.map_map] at this

/-- "`g` lies in the closure of the combination `X`" for the machine: members of `X` count as closed over
    (the machine asks this of arbitrary lists), otherwise in-range objects under the description of `X` -/
def MVCtx.cMV (K : MVCtx) (X : List Nat) (g : Nat) : Bool := decide (g ∈ X ∨ g ∈ K.clSpec X)

theorem MVCtx.extIter_eq (K : MVCtx) (X base : List Nat) :
    K.extIter (K.intentionI X) base = base.filter (K.coversAll (K.intentionI X)) := by
  unfold MVCtx.extIter
  rw [K.extensionI_eq _ (some base) (K.wellTyped_intentionI X)]
  rfl

theorem MVCtx.cMV_iff (K : MVCtx) (X : List Nat) (g : Nat) : K.cMV X g = true ↔ g ∈ X ∨ g ∈ K.clSpec X :=
  decide_eq_true_iff

/-- the machine's hypotheses hold for the many-valued closure; `c_trans` for the empty combination is
    exactly `BottomOK` (the closure of `∅` lies inside every closure) -/
theorem MVCtx.hyp_mv (K : MVCtx) (hb : K.BottomOK) :
    Hyp .objectwise K.nObjects K.intentionI K.extIter K.cMV where
  ext_iter := by
    intro X base _ hbase
    rw [K.extIter_eq]
    refine List.filter_congr fun g hg => Bool.eq_iff_iff.mpr ?_
    rw [K.cMV_iff, K.mem_clSpec]
    exact ⟨fun h => Or.inr ⟨hbase g hg, h⟩, fun h => h.elim (K.coversAll_intention_self X g) (·.2)⟩
  c_ext := fun X g hg => (K.cMV_iff X g).mpr (Or.inl hg)
  c_trans := by
    intro X Y h k hk
    rcases (K.cMV_iff X k).mp hk with hkX | hmem
    · exact h k hkX
    · refine (K.cMV_iff Y k).mpr (Or.inr ?_)
      by_cases hX : X = []
      · subst hX
        rw [K.bottomOK_iff.mp hb] at hmem
        exact K.extBottom_subset_clSpec Y k hmem
      · exact K.clSpec_subset X Y hX (fun g hg => ((K.cMV_iff Y g).mp (h g hg)).elim
          (K.coversAll_intention_self Y g) fun hg' => ((K.mem_clSpec Y g).mp hg').2) k hmem
  key_of_eq := by intro h; cases h

theorem MVCtx.closed_cMV_iff (K : MVCtx) (A : List Nat) :
    Closed K.nObjects K.cMV A ↔ ∀ g ∈ K.clSpec A, g ∈ A :=
  ⟨fun h g hg => h g (K.clSpec_lt A g hg) ((K.cMV_iff A g).mpr (Or.inr hg)),
   fun h g _ hc => ((K.cMV_iff A g).mp hc).elim id (h g)⟩

theorem MVCtx.closedSets_fix (K : MVCtx) (hb : K.BottomOK) : ∀ S ∈ K.closedSets, K.clSpec S = S := by
  intro S hS
  rcases (K.mem_closedSets S).mp hS with rfl | ⟨A, hA, hne, rfl⟩
  · by_cases he : K.extBottom = []
    · rw [he, K.bottomOK_iff.mp hb, he]
    · exact ListAux.filter_eq_of_same_mem fun g =>
        ⟨fun hg => (K.mem_extBottom g).mpr ⟨K.clSpec_lt _ g hg, K.clSpec_least K.extBottom he K.bottomDesc
          K.wellTyped_bottomDesc (fun x hx => ((K.mem_extBottom x).mp hx).2) g hg⟩,
         K.clSpec_extensive K.extBottom (fun x hx => ((K.mem_extBottom x).mp hx).1) g⟩
  · exact K.clSpec_idem A hne (fun x hx => List.mem_range.mp (mem_of_mem_sublists hA x hx))

/-- a non-empty object set that `clSpec` fixes is the filter of `range n` it equals, so it is listed -/
theorem MVCtx.mem_closedSets_of_fix (K : MVCtx) {S : List Nat} (hne : S ≠ []) (h : K.clSpec S = S) :
    S ∈ K.closedSets :=
  (K.mem_closedSets S).mpr (Or.inr ⟨S, by rw [← h]; exact filter_mem_sublists _ _, hne, h⟩)

theorem MVCtx.closed_mem_closedSets (K : MVCtx) (E : List Nat) (hr : ∀ g ∈ E, g < K.nObjects)
    (hcl : ∀ g ∈ K.clSpec E, g ∈ E) : ∃ S ∈ K.closedSets, MVCtx.SetEqL E S := by
  cases E with
  | nil =>
    exact ⟨K.extBottom, (K.mem_closedSets _).mpr (Or.inl rfl),
      fun g => ⟨nofun, fun h => hcl g (K.extBottom_subset_clSpec [] g h)⟩⟩
  | cons a as =>
    exact ⟨_, K.mem_closedSets_of_fix (List.ne_nil_of_mem (K.clSpec_extensive _ hr a List.mem_cons_self))
      (K.clSpec_idem _ (List.cons_ne_nil _ _) hr), fun g => ⟨K.clSpec_extensive _ hr g, hcl g⟩⟩

theorem MVCtx.mapFromObjects_eq (K : MVCtx) (b : Bool) (f : List Nat → MVCtx.PC) (exts : List (List Nat))
    (h : ∀ E ∈ exts, K.fromObjects E b = .ok (f E)) : MVCtx.mapFromObjects K b exts = .ok (exts.map f) := by
  induction exts with
  | nil => rfl
  | cons E Es ih =>
    simp only [MVCtx.mapFromObjects, h E List.mem_cons_self, ih fun E' hE' => h E' (List.mem_cons_of_mem _ hE'),
      List.map_cons]

theorem MVCtx.fromObjects_false (K : MVCtx) {E : List Nat} (h : K.clSpec E = E) :
    K.fromObjects E false = .ok ⟨E, K.intentionI E⟩ := by
  have := K.cl_eq E
  unfold MVCtx.cl at this
  simp only [MVCtx.fromObjects, Bool.false_eq_true, ↓reduceIte, this, h]

theorem sameSet_iff (a b : List Nat) : MVCtx.sameSet a b = true ↔ MVCtx.SetEqL a b :=
  ListAux.all_contains_and_iff a b

theorem hasDupExtent_false (pcs : List MVCtx.PC)
    (h : pcs.Pairwise fun p q => ¬ MVCtx.SetEqL p.extent q.extent) : MVCtx.hasDupExtent pcs = false := by
  induction pcs with
  | nil => rfl
  | cons c cs ih =>
    rw [List.pairwise_cons] at h
    simp only [MVCtx.hasDupExtent, Bool.or_eq_false_iff, ih h.2, and_true]
    rw [Bool.eq_false_iff]
    intro hany
    obtain ⟨c', hc', hs⟩ := List.any_eq_true.mp hany
    exact h.1 c' hc' ((sameSet_iff _ _).mp hs)

/-- What each of the three mining paths owes for `ExactMV`. -/
theorem MVCtx.exactMV_of_closed (K : MVCtx) (hb : K.BottomOK) (exts : List (List Nat))
    (hs : ∀ E ∈ exts, (∀ g ∈ E, g < K.nObjects) ∧ E.Nodup ∧ ∀ g ∈ K.clSpec E, g ∈ E)
    (hd : exts.Pairwise fun E F => ¬ MVCtx.SetEqL E F)
    (hcomp : ∀ A, (∀ g ∈ A, g < K.nObjects) → (∀ g ∈ K.clSpec A, g ∈ A) → ∃ E ∈ exts, MVCtx.SetEqL E A) :
    MVCtx.ExactMV K (exts.map fun E => ⟨E, K.intentionI E⟩) where
  wf pc hpc := by
    obtain ⟨E, hE, rfl⟩ := List.mem_map.mp hpc
    exact ⟨(hs E hE).1, (hs E hE).2.1, rfl⟩
  distinct := List.pairwise_map.mpr hd
  sound pc hpc := by
    obtain ⟨E, hE, rfl⟩ := List.mem_map.mp hpc
    exact K.closed_mem_closedSets E (hs E hE).1 (hs E hE).2.2
  complete S hS := by
    have hfix := K.closedSets_fix hb S hS
    obtain ⟨E, hE, hES⟩ := hcomp S (fun g hg => K.clSpec_lt S g (by rw [hfix]; exact hg))
      (by rw [hfix]; exact fun _ h => h)
    exact ⟨_, List.mem_map.mpr ⟨E, hE, rfl⟩, hES⟩

theorem MVCtx.cboObjectwise_exact (K : MVCtx) (hb : K.BottomOK) (fuel : Nat) (hf : cboFuel K.nObjects ≤ fuel) :
    ∃ pcs, K.cboObjectwise fuel = .ok pcs ∧ MVCtx.ExactMV K pcs := by
  obtain ⟨tr, htr, hsound, hdist, hcompl⟩ := CbOM.run (K.hyp_mv hb) fuel hf
  refine ⟨_, by unfold MVCtx.cboObjectwise MVCtx.cboObjectwiseTrace; rw [htr]; exact K.mapFromObjects_eq true _ _ fun _ _ => rfl,
    K.exactMV_of_closed hb _ (fun E hE => ?_) (List.pairwise_map.mpr hdist) fun A hA hcl => ?_⟩
  · obtain ⟨p, hp, rfl⟩ := List.mem_map.mp hE
    exact (hsound p hp).imp_right (And.imp_right (K.closed_cMV_iff p.2).mp)
  · obtain ⟨p, hp, h⟩ := hcompl A hA ((K.closed_cMV_iff A).mpr hcl)
    exact ⟨p.2, List.mem_map_of_mem hp, h⟩

/-- the concept extents of the binarised table are closed (they are fixed by its closure, which is `clSpec`), and every
    closed set is, as a set, its own closure, a concept extent -/
theorem MVCtx.exact_of_fcaExact (K : MVCtx) (hwf : K.WF) (hc : K.cols ≠ []) (hb : K.BottomOK)
    (exts : List (List Nat)) (hex : FcaExact K.binTable exts) :
    ∃ pcs, MVCtx.mapFromObjects K false exts = .ok pcs ∧ MVCtx.ExactMV K pcs := by
  have hh := K.binTable_height hwf hc
  have key : ∀ E ∈ exts, (∀ g ∈ E, g < K.nObjects) ∧ E.Pairwise (· < ·) ∧ K.clSpec E = E := fun E hE => by
    obtain ⟨B, hB⟩ := (hex.2 E).mp hE
    have hlt : ∀ g ∈ E, g < K.nObjects := hh ▸ isConcept_extent_lt hB
    exact ⟨hlt, isConcept_extent_sorted hB,
      (K.closure_binTable_all hwf hc hb E hlt).symm.trans (closure_eq_of_isConcept _ hB)⟩
  refine ⟨_, K.mapFromObjects_eq false _ exts fun E hE => K.fromObjects_false (key E hE).2.2,
    K.exactMV_of_closed hb exts (fun E hE => ?_) ?_ fun A hA hcl => ?_⟩
  · exact ⟨(key E hE).1, (key E hE).2.1.imp Nat.ne_of_lt, by rw [(key E hE).2.2]; exact fun _ h => h⟩
  · exact hex.1.imp_of_mem fun hp hq hne hse => hne (ListAux.sorted_ext (key _ hp).2.1 (key _ hq).2.1 hse)
  · refine ⟨Spec.closure K.binTable A, (hex.2 _).mpr ⟨_, isConcept_of_objs K.binTable (hh.symm ▸ hA)⟩, ?_⟩
    rw [K.closure_binTable_all hwf hc hb A hA]
    exact fun g => ⟨hcl g, K.clSpec_extensive A hA g⟩

theorem setEqL_nil_iff {A B : List Nat} (h : MVCtx.SetEqL A B) : A = [] ↔ B = [] := by
  constructor <;> intro e <;> subst e
  · exact List.eq_nil_iff_forall_not_mem.mpr fun g hg => List.not_mem_nil ((h g).mpr hg)
  · exact List.eq_nil_iff_forall_not_mem.mpr fun g hg => List.not_mem_nil ((h g).mp hg)

theorem Col.intentionI_equiv (c : Col) (A B : List Nat) (h : MVCtx.SetEqL A B) :
    (c.intentionI A).Equiv (c.intentionI B) := by
  cases c with
  | interval data =>
    show Col.ivIntention data A = Col.ivIntention data B
    by_cases hA : A = []
    · rw [hA, (setEqL_nil_iff h).mp hA]
    · obtain ⟨a, as, rfl⟩ := List.exists_cons_of_ne_nil hA
      obtain ⟨b, bs, rfl⟩ := List.exists_cons_of_ne_nil (mt (setEqL_nil_iff h).mpr hA)
      obtain ⟨x, e1, hx⟩ := ivIntention_isHull data a as
      obtain ⟨y, e2, hy⟩ := ivIntention_isHull data b bs
      rw [e1, e2, hx.unique hy h]
  | set data =>
    intro x
    rw [mem_setIntention, mem_setIntention]
    exact ⟨fun ⟨g, hg, hx⟩ => ⟨g, (h g).mp hg, hx⟩, fun ⟨g, hg, hx⟩ => ⟨g, (h g).mpr hg, hx⟩⟩
  | attr data =>
    show Col.attrIntention data A = Col.attrIntention data B
    have hemp : A.isEmpty = B.isEmpty := by
      rw [Bool.eq_iff_iff, List.isEmpty_iff, List.isEmpty_iff]
      exact setEqL_nil_iff h
    rw [Col.attrIntention, Col.attrIntention, hemp, ListAux.all_eq_of_mem_iff h]

theorem MVCtx.intentionI_equiv (K : MVCtx) (A B : List Nat) (h : MVCtx.SetEqL A B) :
    DescEquiv (K.intentionI A) (K.intentionI B) := by
  unfold DescEquiv MVCtx.intentionI
  refine ⟨by simp, ?_⟩
  rw [List.zip_map']
  intro p hp
  obtain ⟨ci, _, rfl⟩ := List.mem_map.mp hp
  exact ⟨rfl, ci.1.intentionI_equiv A B h⟩

theorem MVCtx.exactMV_agree (K : MVCtx) (p₁ p₂ : List MVCtx.PC) (h₁ : MVCtx.ExactMV K p₁) (h₂ : MVCtx.ExactMV K p₂) :
    ∀ pc ∈ p₁, ∃ pc' ∈ p₂, MVCtx.SetEqL pc.extent pc'.extent ∧ DescEquiv pc.intent pc'.intent := by
  intro pc hpc
  obtain ⟨S, hS, hpS⟩ := h₁.sound pc hpc
  obtain ⟨pc', hpc', hpS'⟩ := h₂.complete S hS
  have hse : MVCtx.SetEqL pc.extent pc'.extent := fun g => (hpS g).trans (hpS' g).symm
  refine ⟨pc', hpc', hse, ?_⟩
  rw [(h₁.wf pc hpc).2.2, (h₂.wf pc' hpc').2.2]
  exact K.intentionI_equiv _ _ hse

def Col.isAttr : Col → Bool
  | .attr _ => true
  | _ => false

def Col.isInterval : Col → Bool
  | .interval _ => true
  | _ => false

end Fca.MV
