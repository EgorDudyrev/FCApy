/-
  `remove_concept`: the closures of `get_all_{sub,super}concepts_dict`, the pruning loop (it keeps the maximal
  candidates), the reconnection of the neighbours of the removed index and the index shift.  All of it is shown for a
  strict order `L` on `0 … n-1` and used for the order of the list and for its reverse.
-/
import Fca.Lemmas.ConstructTopBottom
namespace Fca.Construct
open Fca.Spec
open Fca.ListAux (upIdx upIdx_ne upIdx_lt)

variable {n : Nat} {L : Nat → Nat → Bool} {rk : Nat → Nat}

def ClosedAt (n : Nat) (L : Nat → Nat → Bool) (cl : List (Nat × List Nat)) (c : Nat) : Prop :=
  ∃ a, cl.lookup c = some a ∧ ∀ x, x ∈ a ↔ (x < n ∧ L x c = true)

def ClosureOK (n : Nat) (L : Nat → Nat → Bool) (cl : List (Nat × List Nat)) : Prop :=
  ∀ c, c < n → ClosedAt n L cl c

/-- `ancestors[c] |= ancestors[p]` over parents `l` whose entries are complete -/
theorem closure_inner (acc : List (Nat × List Nat)) :
    ∀ (l cur : List Nat), (∀ p ∈ l, ClosedAt n L acc p) →
      ∃ res, l.foldl (closureStep acc) (.ok cur) = .ok res ∧
        ∀ x, x ∈ res ↔ x ∈ cur ∨ ∃ p ∈ l, x < n ∧ L x p = true := by
  intro l
  induction l with
  | nil => intro cur _; exact ⟨cur, rfl, fun x => ⟨Or.inl, fun h => h.elim id (fun ⟨_, hp, _⟩ => nomatch hp)⟩⟩
  | cons p ps ih =>
    intro cur hk
    obtain ⟨a, ha, hax⟩ := hk p (List.mem_cons_self ..)
    obtain ⟨res, h1, h3⟩ := ih (union cur a) (fun q hq => hk q (List.mem_cons_of_mem _ hq))
    refine ⟨res, ?_, fun x => ?_⟩
    · rw [List.foldl_cons, closureStep, ha]; exact h1
    rw [h3 x, mem_union, hax x, or_assoc]
    simp only [List.mem_cons, exists_eq_or_imp]

/-- the keys are visited in an order in which the lower covers of a key come before it -/
theorem closureDict_ok (h : StrictOrd L rk) {D : List (List Nat)} (hD : CoverDictBy n L D)
    (ord : List Nat → List Nat) (hord : OrdOK ord) :
    ∀ (rest : List Nat) (acc : List (Nat × List Nat)),
      rest.Pairwise (fun a b => ¬ L b a = true) → (∀ x ∈ rest, x < n) →
      (∀ p, p < n → ClosedAt n L acc p ∨ p ∈ rest) →
      ∃ acc', closureDict D ord rest acc = .ok acc' ∧ ClosureOK n L acc' := by
  intro rest
  induction rest with
  | nil => intro acc _ _ hcov; exact ⟨acc, rfl, fun p hp => (hcov p hp).resolve_right nofun⟩
  | cons c rest ih =>
    intro acc hpw hlt hcov
    have hc : c < n := hlt c (List.mem_cons_self ..)
    have hordD : ∀ p, p ∈ ord (D.getD c []) ↔ p ∈ coversBy n L c :=
      fun p => hord.mem_iff.trans (hD.mem_iff hc)
    -- the lower covers of `c` have been processed before
    have hkn : ∀ p ∈ ord (D.getD c []), ClosedAt n L acc p := by
      intro p hp
      have hp' := mem_coversBy.mp ((hordD p).mp hp)
      refine (hcov p hp'.1).resolve_right fun h1 => ?_
      rcases List.mem_cons.mp h1 with e | h1
      · exact h.irrefl c (e ▸ hp'.2.1)
      · exact List.rel_of_pairwise_cons hpw h1 hp'.2.1
    obtain ⟨a, ha1, ha3⟩ := closure_inner acc (ord (D.getD c [])) (D.getD c []) hkn
    have hcov' : ∀ p, p < n → ClosedAt n L ((c, a) :: acc) p ∨ p ∈ rest := by
      intro p hp
      by_cases e : p = c
      · refine Or.inl ⟨a, by rw [e, List.lookup_cons, beq_self_eq_true], fun x => ?_⟩
        rw [e, ha3 x]
        constructor
        · rintro (hx | ⟨q, hq, hxn, hxq⟩)
          · have := mem_coversBy.mp ((hD.mem_iff hc).mp hx); exact ⟨this.1, this.2.1⟩
          · exact ⟨hxn, h.trans _ _ _ hxq (mem_coversBy.mp ((hordD q).mp hq)).2.1⟩
        · rintro ⟨hx, hxc⟩
          -- `x` is a lower cover of `c`, or lies below one
          obtain ⟨b, hb, hxb⟩ := exists_lower_cover_ge h x hx hxc
          rcases hxb with rfl | hxb
          · exact Or.inl ((hD.mem_iff hc).mpr hb)
          · exact Or.inr ⟨b, (hordD b).mpr hb, hx, hxb⟩
      · refine (hcov p hp).imp (fun ⟨b, hb, hb'⟩ => ⟨b, ?_, hb'⟩) (fun h1 => (List.mem_cons.mp h1).resolve_left e)
        rw [List.lookup_cons, beq_false_of_ne e]; exact hb
    rw [closureDict, ListAux.getElem?_eq_some_getD [] (hD.1 ▸ hc)]
    simp only [ha1]
    exact ih ((c, a) :: acc) hpw.of_cons (fun x hx => hlt x (List.mem_cons_of_mem _ hx)) hcov'

def IsMax (L : Nat → Nat → Bool) (s1 : List Nat) (m : Nat) : Prop := m ∈ s1 ∧ ∀ c ∈ s1, ¬ L m c = true

theorem pruneBy_spec (h : StrictOrd L rk) {cl : List (Nat × List Nat)} (hcl : ClosureOK n L cl) :
    ∀ (lst S : List Nat), (∀ y ∈ S, y < n) → S.Nodup →
      ∃ S', pruneBy cl lst S = .ok S' ∧ S'.Nodup ∧
        ∀ y, y ∈ S' ↔ y ∈ S ∧ ∀ c ∈ lst, c ∈ S → ¬ L y c = true := by
  intro lst
  induction lst with
  | nil => intro S _ hnd; exact ⟨S, rfl, hnd, fun y => ⟨fun hy => ⟨hy, nofun⟩, fun hy => hy.1⟩⟩
  | cons c rest ih =>
    intro S hS hnd
    rw [pruneBy]
    by_cases hcS : c ∈ S
    · -- `S -= closure[c]`
      obtain ⟨a, ha, hax⟩ := hcl c (hS c hcS)
      rw [if_neg (by simpa using hcS), ha]
      obtain ⟨S', h1, h2, h3⟩ := ih (diff S a) (fun y hy => hS y (mem_diff.mp hy).1) (nodup_diff hnd)
      refine ⟨S', h1, h2, fun y => (h3 y).trans ?_⟩
      rw [mem_diff, hax y]
      constructor
      · rintro ⟨⟨hy, hyc⟩, hrest⟩
        refine ⟨hy, fun c' hc' hc'S hyc' => ?_⟩
        rcases List.mem_cons.mp hc' with rfl | hc'
        · exact hyc ⟨hS y hy, hyc'⟩
        · -- a `c'` that `closure[c]` has taken will be skipped, but it lies below `c`, and so does everything below it
          by_cases hc'a : c' ∈ a
          · exact hyc ⟨hS y hy, h.trans _ _ _ hyc' ((hax c').mp hc'a).2⟩
          · exact hrest c' hc' (mem_diff.mpr ⟨hc'S, hc'a⟩) hyc'
      · rintro ⟨hy, hall⟩
        exact ⟨⟨hy, fun hya => hall c (List.mem_cons_self ..) hcS hya.2⟩,
          fun c' hc' hc'D => hall c' (List.mem_cons_of_mem _ hc') (mem_diff.mp hc'D).1⟩
    · rw [if_pos (by simpa using hcS)]
      obtain ⟨S', h1, h2, h3⟩ := ih S hS hnd
      refine ⟨S', h1, h2, fun y => (h3 y).trans (and_congr_right fun _ =>
        ⟨fun hall c' hc' hc'S => ?_, fun hall c' hc' => hall c' (List.mem_cons_of_mem _ hc')⟩)⟩
      rcases List.mem_cons.mp hc' with rfl | hc'
      · exact absurd hc'S hcS
      · exact hall c' hc' hc'S

theorem pruneBy_max (h : StrictOrd L rk) {cl : List (Nat × List Nat)} (hcl : ClosureOK n L cl)
    (s1 lst : List Nat) (hs1 : ∀ y ∈ s1, y < n) (hnd : s1.Nodup) (hlst : ∀ c, c ∈ lst ↔ c ∈ s1) :
    ∃ S', pruneBy cl lst s1 = .ok S' ∧ S'.Nodup ∧ ∀ y, y ∈ S' ↔ IsMax L s1 y := by
  obtain ⟨S', h1, h2, h3⟩ := pruneBy_spec h hcl lst s1 hs1 hnd
  exact ⟨S', h1, h2, fun y => (h3 y).trans (and_congr_right fun _ =>
    ⟨fun hall c hc => hall c ((hlst c).mpr hc) hc, fun hall c _ hc => hall c hc⟩)⟩

/-- `y` is a lower cover of `x` among the indexes different from `ci` (old indexing) -/
def NewCov (n : Nat) (L : Nat → Nat → Bool) (ci x y : Nat) : Prop :=
  y < n ∧ y ≠ ci ∧ Ord.CoverBut n L ci y x

/-- for an upper cover `x` of `ci`: the maximal elements of `(covers x - {ci}) ∪ covers ci` -/
theorem isMax_iff_newCov (h : StrictOrd L rk) {ci x : Nat} (hci : ci < n)
    (hxU : x ∈ upperCoversBy n L ci) (s1 : List Nat)
    (hs1 : ∀ y, y ∈ s1 ↔ (y ∈ coversBy n L x ∧ y ≠ ci) ∨ y ∈ coversBy n L ci) (y : Nat) :
    IsMax L s1 y ↔ NewCov n L ci x y :=
  have ⟨hx, hcx⟩ := mem_upperCoversBy_iff.mp hxU
  h.strict.coverBut_patch hci hx hcx (nc := (· ∈ s1)) (fun c => (hs1 c).trans (by
    rw [mem_coversBy_iff, mem_coversBy_iff]
    exact ⟨fun hh => hh.elim (fun a => ⟨Or.inl a.1, a.2⟩) fun a => ⟨Or.inr a, h.ne_of_lt a.2.1⟩,
      fun hh => hh.1.elim (fun a => Or.inl ⟨a, hh.2⟩) Or.inr⟩)) y

theorem covers_iff_newCov (h : StrictOrd L rk) {ci x : Nat} (hx : x < n)
    (hxU : x ∉ upperCoversBy n L ci) (y : Nat) :
    y ∈ coversBy n L x ↔ NewCov n L ci x y :=
  have hc := fun hy => h.strict.coverBut_of_not_cover (x := y) hy
    fun hc => hxU (mem_upperCoversBy_iff.mpr ⟨hx, hc⟩)
  mem_coversBy_iff.trans ⟨fun ⟨hy, hyx⟩ =>
      ⟨hy, fun e => hxU (mem_upperCoversBy_iff.mpr ⟨hx, e ▸ hyx⟩), (hc hy).mpr hyx⟩,
    fun ⟨hy, _, hyx⟩ => ⟨hy, (hc hy).mp hyx⟩⟩

theorem reconnect_ok (h : StrictOrd L rk) {cl : List (Nat × List Nat)} (hcl : ClosureOK n L cl)
    (le : Nat → Nat → Bool) (ord : List Nat → List Nat) (hord : OrdOK ord)
    {ci x : Nat} (hci : ci < n) (others : List Nat) (minusSelf : Bool) (D : List (List Nat))
    (hxU : x ∈ upperCoversBy n L ci) (hoth : SameSetC others (coversBy n L ci))
    (hDx : (D.getD x []).Nodup ∧ SameSetC (D.getD x []) (coversBy n L x)) :
    ∃ S', reconnect cl le ord ci others minusSelf D x = .ok (D.set x S') ∧ S'.Nodup ∧
      ∀ y, y ∈ S' ↔ NewCov n L ci x y := by
  -- `x` is above `ci`, hence none of its lower covers: `- {x}` takes nothing away
  have hxo : x ∉ others := fun hx =>
    h.asymm (mem_upperCoversBy.mp hxU).2.1 (mem_coversBy.mp ((hoth x).mp hx)).2.1
  have hoth' : ∀ y, y ∈ (if minusSelf then diff others [x] else others) ↔ y ∈ coversBy n L ci := by
    intro y
    split
    · rw [mem_diff, List.mem_singleton, ← hoth y]
      exact and_iff_left_of_imp fun hy e => hxo (e ▸ hy)
    · exact hoth y
  have hs1 : ∀ y, y ∈ union (diff (D.getD x []) [ci]) (if minusSelf then diff others [x] else others)
      ↔ (y ∈ coversBy n L x ∧ y ≠ ci) ∨ y ∈ coversBy n L ci := fun y => by
    rw [mem_union, mem_diff, hDx.2 y, hoth' y, List.mem_singleton]
  obtain ⟨S', p1, p2, p3⟩ := pruneBy_max h hcl _ (sortBy le (ord (union (diff (D.getD x []) [ci])
      (if minusSelf then diff others [x] else others))))
    (fun y hy => ((hs1 y).mp hy).elim (fun hh => (mem_coversBy.mp hh.1).1) (fun hh => (mem_coversBy.mp hh).1))
    (nodup_union (nodup_diff hDx.1)) (fun c => mem_sortBy.trans hord.mem_iff)
  refine ⟨S', ?_, p2, fun y => (p3 y).trans (isMax_iff_newCov h hci hxU _ hs1 y)⟩
  rw [reconnect]
  simp only [p1]

theorem reconnectAll_ok (h : StrictOrd L rk) {cl : List (Nat × List Nat)} (hcl : ClosureOK n L cl)
    (le : Nat → Nat → Bool) (ord : List Nat → List Nat) (hord : OrdOK ord)
    {ci : Nat} (hci : ci < n) (others : List Nat) (minusSelf : Bool)
    (hoth : SameSetC others (coversBy n L ci)) :
    ∀ (xs : List Nat) (D : List (List Nat)), xs.Nodup → D.length = n →
      (∀ x ∈ xs, x ∈ upperCoversBy n L ci ∧ (D.getD x []).Nodup ∧ SameSetC (D.getD x []) (coversBy n L x)) →
      ∃ D', reconnectAll cl le ord ci others minusSelf xs D = .ok D' ∧ D'.length = n ∧
        (∀ x ∈ xs, (D'.getD x []).Nodup ∧ ∀ y, y ∈ D'.getD x [] ↔ NewCov n L ci x y) ∧
        (∀ x, x ∉ xs → D'.getD x [] = D.getD x []) := by
  intro xs
  induction xs with
  | nil => intro D _ hl _; exact ⟨D, rfl, hl, nofun, fun _ _ => rfl⟩
  | cons x rest ih =>
    intro D hnd hl hall
    have hnd' := List.nodup_cons.mp hnd
    obtain ⟨hxU, hDx⟩ := hall x (List.mem_cons_self ..)
    obtain ⟨S', e1, e2, e3⟩ := reconnect_ok h hcl le ord hord hci others minusSelf D hxU hoth hDx
    have hxn : x < D.length := hl ▸ (mem_upperCoversBy.mp hxU).1
    obtain ⟨D', f1, f2, f3, f4⟩ := ih (D.set x S') hnd'.2 (List.length_set.trans hl)
      (fun x' hx' => by
        rw [ListAux.getD_set_ne _ _ _ _ _ (fun e : x = x' => hnd'.1 (e ▸ hx'))]
        exact hall x' (List.mem_cons_of_mem _ hx'))
    refine ⟨D', ?_, f2, fun x' hx' => ?_, fun x' hx' => ?_⟩
    · rw [reconnectAll, e1]; exact f1
    · rcases List.mem_cons.mp hx' with rfl | hx'
      · rw [f4 x' hnd'.1, ListAux.getD_set_eq _ _ _ _ hxn]
        exact ⟨e2, e3⟩
      · exact f3 x' hx'
    · rw [f4 x' (fun hm => hx' (List.mem_cons_of_mem _ hm)),
        ListAux.getD_set_ne _ _ _ _ _ (fun e : x = x' => hx' (e ▸ List.mem_cons_self ..))]

theorem decrement_upIdx (ci j : Nat) : decrement (upIdx ci j) ci = j := by
  unfold upIdx decrement
  by_cases h : j < ci
  · rw [if_pos h, if_neg (Nat.not_le.mpr h)]
  · rw [if_neg h, if_pos (Nat.le_succ_of_le (Nat.le_of_not_lt h))]; rfl

theorem upIdx_decrement {ci y : Nat} (h : y ≠ ci) : upIdx ci (decrement y ci) = y := by
  unfold upIdx decrement
  by_cases hy : y ≥ ci
  · have hlt : ci < y := Nat.lt_of_le_of_ne hy (Ne.symm h)
    rw [if_pos hy, if_neg (Nat.not_lt.mpr (Nat.le_sub_one_of_lt hlt)),
      Nat.sub_add_cancel (Nat.succ_le_of_lt (Nat.zero_lt_of_lt hlt))]
  · rw [if_neg hy, if_pos (Nat.lt_of_not_le hy)]

theorem decrement_lt {ci y n : Nat} (hci : ci < n) (hy : y < n) (hne : y ≠ ci) : decrement y ci < n - 1 := by
  unfold decrement
  by_cases h : y ≥ ci
  · rw [if_pos h]
    exact Nat.sub_lt_sub_right (Nat.succ_le_of_lt (Nat.zero_lt_of_lt (Nat.lt_of_le_of_ne h (Ne.symm hne)))) hy
  · rw [if_neg h]; exact Nat.lt_of_lt_of_le (Nat.lt_of_not_le h) (Nat.le_sub_one_of_lt hci)

theorem getD_eraseIdx {α : Type} (l : List α) (ci j : Nat) (d : α) :
    (l.eraseIdx ci).getD j d = l.getD (upIdx ci j) d := by
  rw [List.getD_eq_getElem?_getD, ListAux.getElem?_eraseIdx_upIdx, List.getD_eq_getElem?_getD]

theorem reindex_ok {ci : Nat} (hci : ci < n) (D' : List (List Nat)) (hlen : D'.length = n)
    (hD' : ∀ x, x < n → x ≠ ci → (D'.getD x []).Nodup ∧ ∀ y, y ∈ D'.getD x [] ↔ NewCov n L ci x y) :
    CoverDictBy (n - 1) (fun a b => L (upIdx ci a) (upIdx ci b)) (reindex ci D') := by
  unfold reindex
  refine ⟨by rw [List.length_map, List.length_eraseIdx, hlen, if_pos hci], fun j hj => ?_⟩
  have hget : ((D'.eraseIdx ci).map fun s => s.map fun v => decrement v ci).getD j []
      = (D'.getD (upIdx ci j) []).map fun v => decrement v ci :=
    getD_eraseIdx D' ci j [] ▸ ListAux.getD_map_default (fun s : List Nat => s.map fun v => decrement v ci) _ j []
  rw [hget]
  obtain ⟨d1, d2⟩ := hD' (upIdx ci j) (upIdx_lt hci hj) (upIdx_ne ci j)
  constructor
  · -- `decrement` is injective away from `ci`
    refine ListAux.nodup_map_of_injOn d1 fun a ha b hb e => ?_
    rw [← upIdx_decrement ((d2 a).mp ha).2.1, ← upIdx_decrement ((d2 b).mp hb).2.1, e]
  · intro x
    have he := @Ord.cover_erase n L (n - 1) ci (upIdx ci) (fun a ha => ⟨upIdx_lt hci ha, upIdx_ne ci a⟩)
      (fun b hb hbk => ⟨decrement b ci, decrement_lt hci hb hbk, upIdx_decrement hbk⟩)
    rw [List.mem_map, mem_coversBy_iff, he]
    constructor
    · rintro ⟨y, hy, rfl⟩
      obtain ⟨y1, y2, y3⟩ := (d2 y).mp hy
      rw [upIdx_decrement y2]
      exact ⟨decrement_lt hci y1 y2, y3⟩
    · rintro ⟨x1, x2⟩
      exact ⟨upIdx ci x, (d2 _).mpr ⟨upIdx_lt hci x1, upIdx_ne ci x, x2⟩, decrement_upIdx ci x⟩

/-- the extreme index after the removal, for either direction (`L j t` = "`j` is strictly on the far side of
    `t`"): if the extreme itself is removed its only neighbour takes over -/
theorem remExtreme_ok (h : StrictOrd L rk) {ci t0 : Nat} (hci : ci < n) (ht : Ord.Greatest n L t0)
    (nbrs : List Nat) (hnb : nbrs.Nodup ∧ SameSetC nbrs (coversBy n L ci))
    (htop' : ∃ t', Ord.Greatest (n - 1) (fun a b => L (upIdx ci a) (upIdx ci b)) t') :
    ∃ t2, remExtreme (some t0) ci nbrs = .ok (some t2) ∧
      Ord.Greatest (n - 1) (fun a b => L (upIdx ci a) (upIdx ci b)) (decrement t2 ci) := by
  unfold remExtreme
  by_cases e : t0 = ci
  · subst e
    rw [if_pos (beq_self_eq_true _)]
    obtain ⟨t', ht', hall⟩ := htop'
    have hg : upIdx t0 t' < n := upIdx_lt hci ht'
    have hgt : L (upIdx t0 t') t0 = true := ht.2 _ hg (upIdx_ne t0 t')
    -- every other index below `t0` is below the new greatest `g`
    have hbelow : ∀ y, y < n → y ≠ t0 → y ≠ upIdx t0 t' → L y (upIdx t0 t') = true := fun y hy yne hne => by
      have : L (upIdx t0 (decrement y t0)) (upIdx t0 t') = true :=
        hall (decrement y t0) (decrement_lt hci hy yne) (fun e => hne (by rw [← e, upIdx_decrement yne]))
      rwa [upIdx_decrement yne] at this
    have hsing : ∀ y, y ∈ nbrs ↔ y = upIdx t0 t' := by
      intro y
      rw [hnb.2 y, mem_coversBy]
      constructor
      · rintro ⟨y1, y2, y3⟩
        exact Classical.byContradiction fun hne => y3 _ hg (hbelow y y1 (h.ne_of_lt y2) hne) hgt
      · rintro rfl
        exact ⟨hg, hgt, fun k hk hgk hkt =>
          h.asymm hgk (hbelow k hk (h.ne_of_lt hkt) (h.ne_of_lt hgk).symm)⟩
    rw [ListAux.eq_singleton_of_nodup hnb.1 hsing]
    exact ⟨upIdx t0 t', rfl, by rw [decrement_upIdx]; exact ⟨ht', hall⟩⟩
  · rw [if_neg (by simpa using e)]
    refine ⟨t0, rfl, decrement_lt hci ht.1 e, fun j hj hne => ?_⟩
    show L (upIdx ci j) (upIdx ci (decrement t0 ci)) = true
    rw [upIdx_decrement e]
    exact ht.2 _ (upIdx_lt hci hj) (fun e2 => hne (by rw [← e2, decrement_upIdx]))

/-- one of the two dictionaries of `remove_concept` (`D` lists the lower covers w.r.t. `L`; the other one is the
    same for `Ord.flipR L`): closure, reconnection of the upper covers `xs` of `ci`, index shift -/
theorem removeHalf_ok (h : StrictOrd L rk) {ci : Nat} (hci : ci < n) {D : List (List Nat)}
    (hD : CoverDictBy n L D) (ord : List Nat → List Nat) (hord : OrdOK ord) (order : List Nat)
    (hpw : order.Pairwise (fun a b => ¬ L b a = true)) (hp : order.Perm (List.range n))
    (le : Nat → Nat → Bool) (minusSelf : Bool) {xs : List Nat} (hxsnd : xs.Nodup)
    (hxs : ∀ x, x ∈ xs ↔ x ∈ upperCoversBy n L ci) :
    ∃ cl D', closureDict D ord order [] = .ok cl ∧
      reconnectAll cl le ord ci (D.getD ci []) minusSelf xs D = .ok D' ∧
      CoverDictBy (n - 1) (fun a b => L (upIdx ci a) (upIdx ci b)) (reindex ci D') := by
  obtain ⟨cl, ec, hcl⟩ := closureDict_ok h hD ord hord order [] hpw
    (fun _ hx => (ListAux.mem_of_perm_range hp).mp hx) (fun _ hpn => Or.inr ((ListAux.mem_of_perm_range hp).mpr hpn))
  obtain ⟨D', er, l1, g1, k1⟩ := reconnectAll_ok h hcl le ord hord hci (D.getD ci []) minusSelf (hD.2 ci hci).2
    xs D hxsnd hD.1 (fun x hx => ⟨(hxs x).mp hx, hD.2 x (mem_upperCoversBy.mp ((hxs x).mp hx)).1⟩)
  refine ⟨cl, D', ec, er, reindex_ok hci D' l1 fun x hx hne => ?_⟩
  by_cases hm : x ∈ xs
  · exact g1 x hm
  · rw [k1 x hm]
    exact ⟨(hD.2 x hx).1, fun y =>
      ((hD.2 x hx).2 y).trans (covers_iff_newCov h hx (fun e => hm ((hxs x).mpr e)) y)⟩

/-- what `remove_concept` is given: as `AddInput`, with an index whose removal leaves both extremes unique -/
structure RemInput (cs : List Ext) (ci : Nat) (r : Rel) (t0 b0 : Nat) : Prop where
  nodup : ExtsNodup cs
  len : 3 ≤ cs.length
  ciLt : ci < cs.length
  sub : IsCoverDict cs r.sub
  sup : IsUpperCoverDict cs r.sup
  top : IsTop cs t0
  bot : IsBottom cs b0
  rtop : r.top = none ∨ r.top = some t0
  rbot : r.bot = none ∨ r.bot = some b0
  top' : ∃ t', IsTop (cs.eraseIdx ci) t'
  bot' : ∃ b', IsBottom (cs.eraseIdx ci) b'

section
variable {cs : List Ext} {ci : Nat} {r : Rel} {t0 b0 : Nat}

theorem RemInput.tb (hin : RemInput cs ci r t0 b0) : remTopBottom cs ci r = (some t0, some b0) :=
  topBottom_of_given hin.nodup hin.top hin.bot hin.rtop hin.rbot _

theorem ltAt_eraseIdx (cs : List Ext) (ci : Nat) :
    ltAt (cs.eraseIdx ci) = fun a b => ltAt cs (upIdx ci a) (upIdx ci b) := by
  funext a b
  unfold ltAt
  rw [getD_eraseIdx, getD_eraseIdx]

theorem pairwise_bySupportAsc (n : Nat) (supp : Nat → Nat) :
    (bySupportAsc n supp).Pairwise (fun a b => supp a ≤ supp b) :=
  pairwise_sortBy_decide (R := fun a b => supp a ≤ supp b) (fun _ _ => Nat.le_total _ _)
    (fun _ _ _ => Nat.le_trans) _

theorem pairwise_bySupportDesc (n : Nat) (supp : Nat → Nat) :
    (bySupportDesc n supp).Pairwise (fun a b => supp b ≤ supp a) :=
  pairwise_sortBy_decide (R := fun a b => supp b ≤ supp a) (fun _ _ => Nat.le_total _ _)
    (fun _ _ _ h1 h2 => Nat.le_trans h2 h1) _

end

end Fca.Construct
