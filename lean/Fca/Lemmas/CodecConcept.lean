/-
  Fca.Lemmas.CodecConcept — the dictionary `FormalConcept.to_dict` builds (`FConcept.dictKVs`) and what `from_dict`
  reads out of it; a written lattice file is read by rebuilding the lattice from its node dictionaries.
-/
import Fca.Model.CodecMV
import Fca.Lemmas.CodecJson
namespace Fca.Codec

def isSortedBy {α : Type} (le : α → α → Bool) : List α → Bool
  | [] => true
  | [_] => true
  | a :: b :: r => le a b && isSortedBy le (b :: r)

theorem sortedBy_of_sorted {α : Type} (le : α → α → Bool) : ∀ xs : List α,
    isSortedBy le xs = true → sortedBy le xs = xs
  | [], _ => rfl
  | [_], _ => rfl
  | a :: b :: r, h => by
    simp only [isSortedBy, Bool.and_eq_true] at h
    have ih := sortedBy_of_sorted le (b :: r) h.2
    simp only [sortedBy, List.foldr_cons] at ih ⊢
    rw [ih]
    simp [insertBy, h.1]

theorem lookup_dictSet (k' : Str) (v : JV) (d : List (Str × JV)) (k : Str) :
    JV.lookup k (JV.dictSet k' v d) = if k = k' then some v else JV.lookup k d :=
  ListAux.get_set (get := fun d k => JV.lookup k d) (set := fun d k v => JV.dictSet k v d)
    (fun _ _ _ _ => rfl) (fun _ _ => rfl) (fun _ _ _ _ _ => rfl) d k' v k

theorem lookup_dictSet_ne (k k' : Str) (v : JV) (h : k' ≠ k) (d : List (Str × JV)) :
    JV.lookup k (JV.dictSet k' v d) = JV.lookup k d :=
  (lookup_dictSet k' v d k).trans (if_neg (Ne.symm h))

theorem lookup_dictSet_eq (k : Str) (v : JV) (d : List (Str × JV)) :
    JV.lookup k (JV.dictSet k v d) = some v :=
  (lookup_dictSet k v d k).trans (if_pos rfl)

theorem lookup_dictSet_lit_ne {s t : String} (h : ¬ s = t) (v : JV) (d : List (Str × JV)) :
    JV.lookup t.toList (JV.dictSet s.toList v d) = JV.lookup t.toList d :=
  lookup_dictSet_ne _ _ v (toList_ne h) d

theorem lookup_addMeasures (k : Str) : ∀ (ms d : List (Str × JV)), (∀ kv ∈ ms, kv.1 ≠ k) →
    JV.lookup k (addMeasures ms d) = JV.lookup k d
  | [], _, _ => rfl
  | kv :: ms, d, h => by
    simp only [addMeasures, List.foldl_cons]
    have := lookup_addMeasures k ms (JV.dictSet kv.1 kv.2 d) (fun x hx => h x (List.mem_cons_of_mem _ hx))
    simp only [addMeasures] at this
    rw [this, lookup_dictSet_ne k kv.1 kv.2 (h kv (by simp))]

def NamesInOrder (order names : List Str) : Prop :=
  (∀ g ∈ names, (idxOf order g).isSome = true) ∧
    isSortedBy leKey (names.map fun g => ((idxOf order g).getD 0, g)) = true
instance (order names : List Str) : Decidable (NamesInOrder order names) := by
  unfold NamesInOrder; infer_instance

theorem sortNamesBy_id (order names : List Str) (h : NamesInOrder order names) :
    sortNamesBy order names = .ok names := by
  have hm : mapME (keyed order) names = .ok (names.map fun g => ((idxOf order g).getD 0, g)) := by
    apply mapME_ok
    intro g hg
    have := h.1 g hg
    cases hi : idxOf order g with
    | none => rw [hi] at this; cases this
    | some k => simp [keyed, hi]
  simp only [sortNamesBy, hm, sortedBy_of_sorted leKey _ h.2, List.map_map]
  exact congrArg _ (List.map_id'' (fun _ => rfl) names)

theorem intsOf_ints (is : List Int) : intsOf (.arr (is.map .int)) = .ok is :=
  mapME_map_inv asInt JV.int is (fun _ _ => rfl)

theorem strsOf_strs (ns : List Str) : strsOf (.arr (ns.map jStr)) = .ok ns :=
  mapME_map_inv asStr jStr ns (fun _ _ => rfl)

theorem extIntFields_entry (inds : List Int) (names : List Str) :
    extIntFields (extIntEntry inds names) = .ok (sortedInts inds, names) :=
  bind_of_ok (JV.getKey_of_lookup (JV.lookup_cons_self _ _ _)) <|
  bind_of_ok ((JV.getOpt_obj _ _).trans (congrArg Except.ok
      (by simp only [JV.lookup_lit_ne, String.reduceEq, not_false_eq_true, JV.lookup_cons_self] :
        JV.lookup _ _ = some (.arr (names.map jStr))))) <|
  bind_of_ok (intsOf_ints _) <| bind_of_ok (strsOf_strs _) rfl

/-- what `to_dict` needs to give the concept back unchanged -/
structure FConceptOk (c : FConcept) (objsOrder attrsOrder : List Str) : Prop where
  ext_sorted : isSortedBy leInt c.extentI = true
  int_sorted : isSortedBy leInt c.intentI = true
  ext_names : NamesInOrder objsOrder c.extent
  int_names : NamesInOrder attrsOrder c.intent
  meas : ∀ kv ∈ c.measures, kv.1 ≠ "Ext".toList ∧ kv.1 ≠ "Int".toList

instance (c : FConcept) (oo ao : List Str) : Decidable (FConceptOk c oo ao) :=
  decidable_of_iff (isSortedBy leInt c.extentI = true ∧ isSortedBy leInt c.intentI = true ∧
      NamesInOrder oo c.extent ∧ NamesInOrder ao c.intent ∧
      ∀ kv ∈ c.measures, kv.1 ≠ "Ext".toList ∧ kv.1 ≠ "Int".toList)
    ⟨fun ⟨a, b, c, d, e⟩ => ⟨a, b, c, d, e⟩, fun h => ⟨h.ext_sorted, h.int_sorted, h.ext_names, h.int_names, h.meas⟩⟩

theorem hashOf_jOptInt (h : Option Int) : hashOf (some (jOptInt h)) = .ok h := by
  cases h <;> rfl

/-- the dict `to_dict` builds for a concept whose names are already in order -/
def FConcept.dictKVs (c : FConcept) : List (Str × JV) :=
  JV.dictSet "Monotone".toList (.bool c.monotone)
    (JV.dictSet "Context_Hash".toList (jOptInt c.contextHash)
      (addMeasures c.measures
        [("Ext".toList, extIntEntry c.extentI c.extent), ("Int".toList, extIntEntry c.intentI c.intent),
         ("Supp".toList, jNat c.extentI.length)]))

/-- what `from_dict` makes of it: the same concept, its measures extended by the non-`Ext`/`Int` keys -/
def FConcept.readBack (c : FConcept) : FConcept :=
  ⟨c.extentI, c.extent, c.intentI, c.intent, measuresOf c.dictKVs, c.contextHash, c.monotone⟩

theorem fconcept_toDict_of (c : FConcept) (oo ao en inn : List Str) (he : sortNamesBy oo c.extent = .ok en)
    (hi : sortNamesBy ao c.intent = .ok inn) :
    c.toDict oo ao = .ok (.obj ({ c with extent := en, intent := inn } : FConcept).dictKVs) :=
  bind_of_ok he <| bind_of_ok hi rfl

theorem fconcept_toDict (c : FConcept) (oo ao : List Str) (h : FConceptOk c oo ao) :
    c.toDict oo ao = .ok (.obj c.dictKVs) :=
  fconcept_toDict_of c oo ao _ _ (sortNamesBy_id _ _ h.ext_names) (sortNamesBy_id _ _ h.int_names)

theorem fconcept_lookup_ext (c : FConcept) (hm : ∀ kv ∈ c.measures, kv.1 ≠ "Ext".toList) :
    JV.lookup "Ext".toList c.dictKVs = some (extIntEntry c.extentI c.extent) := by
  simp only [FConcept.dictKVs, lookup_dictSet_lit_ne, String.reduceEq, not_false_eq_true,
    lookup_addMeasures _ _ _ hm, JV.lookup_cons_self]

theorem fconcept_lookup_int (c : FConcept) (hm : ∀ kv ∈ c.measures, kv.1 ≠ "Int".toList) :
    JV.lookup "Int".toList c.dictKVs = some (extIntEntry c.intentI c.intent) := by
  simp only [FConcept.dictKVs, lookup_dictSet_lit_ne, String.reduceEq, not_false_eq_true,
    lookup_addMeasures _ _ _ hm, JV.lookup_cons_self, JV.lookup_lit_ne]

theorem fconcept_fromDict_sorted (c : FConcept)
    (hm : ∀ kv ∈ c.measures, kv.1 ≠ "Ext".toList ∧ kv.1 ≠ "Int".toList) :
    FConcept.fromDict (.obj c.dictKVs)
      = .ok { c.readBack with extentI := sortedInts c.extentI, intentI := sortedInts c.intentI } := by
  have lHash : JV.lookup "Context_Hash".toList c.dictKVs = some (jOptInt c.contextHash) := by
    simp only [FConcept.dictKVs, lookup_dictSet_lit_ne, String.reduceEq, not_false_eq_true, lookup_dictSet_eq]
  have lMono : JV.lookup "Monotone".toList c.dictKVs = some (.bool c.monotone) := by
    simp only [FConcept.dictKVs, lookup_dictSet_eq]
  have hbot : isBottomStr (extIntEntry c.intentI c.intent) = false := rfl
  simp only [bind_ok, FConcept.fromDict, fconcept_lookup_ext c fun kv hkv => (hm kv hkv).1,
    fconcept_lookup_int c fun kv hkv => (hm kv hkv).2, lHash, lMono, hbot, Bool.false_eq_true, ↓reduceIte,
    extIntFields_entry, hashOf_jOptInt, monoOf, FConcept.readBack]

theorem fconcept_fromDict (c : FConcept) (oo ao : List Str) (h : FConceptOk c oo ao) :
    FConcept.fromDict (.obj c.dictKVs) = .ok c.readBack := by
  rw [fconcept_fromDict_sorted c h.meas, sortedInts, sortedInts, sortedBy_of_sorted _ _ h.ext_sorted,
    sortedBy_of_sorted _ _ h.int_sorted]
  rfl

/-- Whatever the order of the stored lists, the indexes are read back ascending and the names in the order
    `to_dict` sorted them into. -/
theorem fconcept_roundtrip (c : FConcept) (oo ao en inn : List Str) (he : sortNamesBy oo c.extent = .ok en)
    (hi : sortNamesBy ao c.intent = .ok inn)
    (hm : ∀ kv ∈ c.measures, kv.1 ≠ "Ext".toList ∧ kv.1 ≠ "Int".toList) :
    (c.toDict oo ao).bind FConcept.fromDict
      = .ok { ({ c with extent := en, intent := inn } : FConcept).readBack with
          extentI := sortedInts c.extentI, intentI := sortedInts c.intentI } := by
  rw [fconcept_toDict_of c oo ao en inn he hi, bind_ok]
  exact fconcept_fromDict_sorted _ hm

theorem fconcept_notPattern (c : FConcept) (hm : ∀ kv ∈ c.measures, kv.1 ≠ "Int".toList) :
    isPatternNode (.obj c.dictKVs) = .ok false := by
  rw [isPatternNode, JV.getKey_of_lookup (fconcept_lookup_int c hm)]
  simp only [extIntEntry, JV.lookup_lit_ne, String.reduceEq, not_false_eq_true, JV.lookup_nil, Option.isSome_none]

theorem arcCheck_arcJ (s d : Nat) : arcCheck (arcJ s d) = .ok () :=
  bind_of_ok (JV.getKey_of_lookup (JV.lookup_cons_self _ _ _)) <|
  bind_of_ok (JV.getKey_of_lookup (v := jNat d)
    (by simp only [JV.lookup_lit_ne, String.reduceEq, not_false_eq_true, JV.lookup_cons_self])) rfl

theorem readLatHeader_ok (t b n a : JV) (children : List (List Nat)) :
    readLatHeader (.obj [("Top".toList, .arr [t]), ("Bottom".toList, .arr [b]), ("NodesCount".toList, n),
        ("ArcsCount".toList, a)]) (.obj [("Arcs".toList, .arr (arcsTree children))]) = .ok () := by
  have harcs : mapME arcCheck (arcsTree children) = .ok ((arcsTree children).map fun _ => ()) := by
    apply mapME_ok
    intro a ha
    simp only [arcsTree, List.mem_flatMap, List.mem_map] at ha
    obtain ⟨p, _, d, _, rfl⟩ := ha
    exact arcCheck_arcJ p.1 d
  exact bind_of_ok (JV.getKey_of_lookup (JV.lookup_cons_self _ _ _)) <| bind_of_ok rfl <|
    bind_of_ok (JV.getKey_of_lookup (v := .arr [b])
      (by simp only [JV.lookup_lit_ne, String.reduceEq, not_false_eq_true, JV.lookup_cons_self])) <|
    bind_of_ok rfl <| bind_of_ok (by rw [arcsOf, JV.getKey_of_lookup (JV.lookup_cons_self _ _ _)]) <|
    bind_of_ok harcs rfl

theorem readLatTree_writeLatTree {C : Type} (L : Lat C) (hlen : 3 ≤ L.concepts.length) (node : C → JV) (p : Bool)
    (hp : ∀ c ∈ L.concepts, isPatternNode (node c) = .ok p) :
    (writeLatTree L (L.concepts.map node)).bind readLatTree
      = if p then buildPLat (L.concepts.map node) else buildFLat (L.concepts.map node) := by
  -- `read_json` chooses the builder by looking at the first node
  obtain ⟨c0, cs, hcs⟩ := List.exists_cons_of_length_pos (Nat.lt_of_lt_of_le (Nat.zero_lt_succ 2) hlen)
  have hp0 := hp c0 (by rw [hcs]; exact List.mem_cons_self)
  rw [writeLatTree, if_neg (Nat.not_lt.mpr hlen), bind_ok, readLatTree, nodesOf,
    JV.getKey_of_lookup (JV.lookup_cons_self _ _ _), hcs]
  exact bind_of_ok rfl <| bind_of_ok (readLatHeader_ok ..) <| bind_of_ok hp0 rfl

end Fca.Codec
