/-
  `complete_comparison`: the in-place subtraction loop over the (aliased) dictionary of all-subconcept sets ends
  with exactly the lower covers, for both values of the flag.  Every set the loop holds is a filter of `range n`,
  so the dictionary is followed as a list of lists: the result is the list `i ↦ coversBy n lt i` itself.
-/
import Fca.Lemmas.ConstructBasic
namespace Fca.Construct
open Fca.Spec

variable {n : Nat} {lt : Nat → Nat → Bool} {rank : Nat → Nat}

structure CCInv (n : Nat) (lt : Nat → Nat → Bool) (k : Nat) (D : List (List Nat)) : Prop where
  len : D.length = n
  done : ∀ i, i < k → i < n → D.getD i [] = coversBy n lt i
  todo : ∀ i, k ≤ i → i < n → D.getD i [] = (List.range n).filter fun x => lt x i

/-- whether reduced or not, a stored set lies between the lower covers and the strict subconcepts of its key -/
theorem CCInv.row {k : Nat} {D : List (List Nat)} (inv : CCInv n lt k D) {b : Nat} (hb : b < n) {x : Nat} :
    (x ∈ D.getD b [] → x < n ∧ lt x b = true) ∧ (x ∈ coversBy n lt b → x ∈ D.getD b []) := by
  have hc : x ∈ coversBy n lt b → x < n ∧ lt x b = true := fun h => ⟨(mem_coversBy.mp h).1, (mem_coversBy.mp h).2.1⟩
  by_cases hbk : b < k
  · rw [inv.done b hbk hb]; exact ⟨hc, id⟩
  · rw [inv.todo b (Nat.le_of_not_lt hbk) hb, List.mem_filter, List.mem_range]; exact ⟨id, hc⟩

/-- the `b_i < a_i` shortcut skips nothing when subconcepts are listed after their superconcepts -/
theorem getSubconcepts_eq {s : Bool} {a : Nat} (htopo : s = true → ∀ j, j < n → lt j a = true → a < j) :
    getSubconcepts n lt s a = (List.range n).filter fun x => lt x a := by
  refine List.filter_congr fun x hx => ?_
  split
  · rename_i hxa
    rw [Bool.and_eq_true] at hxa
    exact ((Bool.not_eq_true _).mp fun hlt =>
      Nat.lt_asymm (htopo hxa.1 x (List.mem_range.mp hx) hlt) (of_decide_eq_true hxa.2)).symm
  · rfl

theorem ccInv_init (s : Bool) (nj : Nat) (htopo : s = true → ∀ a j, a < n → j < n → lt j a = true → a < j) :
    CCInv n lt 0 (allSubconcepts n lt s nj) :=
  ⟨by simp [allSubconcepts], fun i hi => absurd hi (Nat.not_lt_zero i),
    fun i _ hi => (ListAux.getD_map_range _ _ _ _ hi).trans (getSubconcepts_eq fun hs j => htopo hs i j hi)⟩

/-- the inner loop only rewrites key `a`; none of the visited keys is `a`, so what they hold does not change
    while it runs, and what stays at `a` is what none of them holds -/
theorem foldl_set_diff_eq (a : Nat) :
    ∀ (iter : List Nat) (D : List (List Nat)), a < D.length → (∀ b ∈ iter, b ≠ a) →
      iter.foldl (fun D b_i => D.set a (diff (D.getD a []) (D.getD b_i []))) D =
        D.set a ((D.getD a []).filter fun x => !iter.any fun b => (D.getD b []).contains x) := by
  intro iter
  induction iter with
  | nil =>
    intro D ha _
    rw [show (D.getD a []).filter (fun x => ![].any fun b => (D.getD b []).contains x) = D.getD a [] from
      List.filter_eq_self.mpr fun _ _ => rfl, ListAux.getD_eq_get _ _ _ ha, List.set_getElem_self]; rfl
  | cons b bs ih =>
    intro D ha hne
    rw [List.foldl_cons, ih _ (by rw [List.length_set]; exact ha) (fun c hc => hne c (List.mem_cons_of_mem _ hc)),
      ListAux.getD_set_eq _ _ _ _ ha, List.set_set, diff, List.filter_filter]
    refine congrArg _ (List.filter_congr fun x _ => ?_)
    rw [List.any_cons, Bool.not_or, Bool.and_comm]
    exact congrArg (_ && !·) (ListAux.any_congr_of_mem fun c hc => by
      rw [ListAux.getD_set_ne _ _ _ _ _ (Ne.symm (hne c (List.mem_cons_of_mem _ hc)))])

theorem ccInv_step (h : StrictOrd lt rank) (ord : List Nat → List Nat) (s : Bool)
    (hord : OrdOK ord) {k : Nat} {D : List (List Nat)} (hk : k < n)
    (inv : CCInv n lt k D) : CCInv n lt (k + 1) (reduceStep ord s D k) := by
  have hkD : k < D.length := inv.len.symm ▸ hk
  have hrow := inv.todo k (Nat.le_refl _) hk
  have hiter : ∀ x, x ∈ (if s then sortAsc (D.getD k []) else ord (D.getD k [])) ↔ x < n ∧ lt x k = true := by
    intro x
    rw [← List.mem_range, ← List.mem_filter (p := fun x => lt x k), ← hrow]
    cases s
    · exact hord.mem_iff
    · exact mem_sortBy
  rw [show reduceStep ord s D k = _ from foldl_set_diff_eq k _ D hkD
    fun b hb e => h.irrefl k (e ▸ ((hiter b).mp hb).2)]
  generalize (if s then sortAsc (D.getD k []) else ord (D.getD k [])) = iter at hiter ⊢
  refine ⟨(List.length_set ..).trans inv.len, fun i hik1 hi => ?_, fun i hik1 hi => ?_⟩
  · by_cases hik : i = k
    · subst hik
      rw [ListAux.getD_set_eq _ _ _ _ hkD, hrow, List.filter_filter]
      refine List.filter_congr fun x hx => ?_
      have hx := List.mem_range.mp hx
      rw [Bool.and_comm]
      refine congrArg (_ && !·) ?_
      rw [Bool.eq_iff_iff, List.any_eq_true, List.any_eq_true]
      constructor
      · rintro ⟨b, hb, hxb⟩
        have hbi := (hiter b).mp hb
        have hxb := ((inv.row hbi.1).1 (List.contains_iff_mem.mp hxb)).2
        exact ⟨b, List.mem_range.mpr hbi.1, by rw [hxb, hbi.2]; rfl⟩
      · rintro ⟨m, hm, hxm⟩
        rw [Bool.and_eq_true] at hxm
        -- an upper cover `b` of `x` at or below `m` is still subtracted, and it holds `x`
        obtain ⟨b, hb, hbm⟩ := exists_upper_cover_le h m (List.mem_range.mp hm) hxm.1
        have hbn := (mem_upperCoversBy.mp hb).1
        have hbi : lt b i = true := hbm.elim (fun e => e ▸ hxm.2) (fun hbm => h.trans _ _ _ hbm hxm.2)
        exact ⟨b, (hiter b).mpr ⟨hbn, hbi⟩,
          List.contains_iff_mem.mpr ((inv.row hbn).2 ((mem_upperCoversBy_comm hx hbn).mp hb))⟩
    · rw [ListAux.getD_set_ne _ _ _ _ _ (Ne.symm hik)]; exact inv.done i (lt_of_lt_succ_of_ne hik1 hik) hi
  · rw [ListAux.getD_set_ne _ _ _ _ _ (Nat.ne_of_lt hik1)]; exact inv.todo i (Nat.le_of_succ_le hik1) hi

theorem ccInv_loop (h : StrictOrd lt rank) (ord : List Nat → List Nat) (s : Bool)
    (hord : OrdOK ord) (D0 : List (List Nat)) (inv0 : CCInv n lt 0 D0) :
    ∀ k, k ≤ n → CCInv n lt k ((List.range k).foldl (reduceStep ord s) D0) := by
  intro k
  induction k with
  | zero => intro _; exact inv0
  | succ k ih =>
    intro hk
    rw [List.range_succ, List.foldl_append]
    exact ccInv_step h ord s hord hk (ih (Nat.le_of_succ_le hk))

/-- not only the same sets: the very lists of `Spec.coversDict` -/
theorem completeComparison_eq (h : StrictOrd lt rank) (ord : List Nat → List Nat) (s : Bool) (nj : Nat)
    (hord : OrdOK ord)
    (htopo : s = true → ∀ a j, a < n → j < n → lt j a = true → a < j) :
    completeComparison n lt s nj ord = (List.range n).map (coversBy n lt) := by
  have inv : CCInv n lt n (completeComparison n lt s nj ord) :=
    ccInv_loop h ord s hord _ (ccInv_init s nj htopo) n (Nat.le_refl _)
  rw [← ListAux.range_map_getD (completeComparison n lt s nj ord) [], inv.len]
  exact List.map_congr_left fun i hi => inv.done i (List.mem_range.mp hi) (List.mem_range.mp hi)

end Fca.Construct
