/-
  Association lists (Python dicts) beyond `Lemmas/PosetBasic`: membership against lookup and `dict.items()`.
-/
import Fca.Model.PosetAlgebra
import Fca.Lemmas.PosetBasic
namespace Fca.Poset

section
variable {κ β : Type} [DecidableEq κ]

theorem alookup_isSome_of_mem {k : κ} {v : β} {c : List (κ × β)} (h : (k, v) ∈ c) : (alookup k c).isSome = true := by
  induction c with
  | nil => cases h
  | cons p c ih =>
    obtain ⟨k', v'⟩ := p
    rw [alookup_cons]
    split
    · rfl
    · rename_i hne
      rcases List.mem_cons.mp h with e | h
      · cases e
        exact absurd rfl hne
      · exact ih h

theorem mem_items {c : List (κ × β)} {k : κ} {v : β} : (k, v) ∈ items c ↔ alookup k c = some v := by
  unfold items
  rw [List.mem_filterMap]
  constructor
  · rintro ⟨k', _, h⟩
    cases hl : alookup k' c with
    | none =>
      rw [hl] at h
      cases h
    | some w =>
      rw [hl] at h
      cases h
      exact hl
  · intro h
    exact ⟨k, mem_dedupKeys.mpr (by rw [h]; rfl), by rw [h]; rfl⟩

theorem items_nil : items ([] : List (κ × β)) = [] := rfl

theorem isEmpty_items {c : List (κ × β)} (h : c.isEmpty = true) : items c = [] :=
  (congrArg items (List.isEmpty_iff.mp h)).trans items_nil

end
end Fca.Poset
