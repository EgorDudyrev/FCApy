/-
  The element lists of the four set operators, and the index maps of `_combine_caches`: `idxMap E C` sends a position
  of an operand to the position of the same element in the result.
-/
import Fca.Model.PosetAlgebra
import Fca.Lemmas.PosetFresh
import Fca.Lemmas.Names
namespace Fca.Poset
open Fca.Poset.Fresh

section
variable {α : Type} [DecidableEq α]

theorem mem_toSet {x : Nat} {l : List Nat} : x ∈ toSet l ↔ x ∈ l := by
  induction l with
  | nil => simp [toSet]
  | cons a l ih =>
    simp only [toSet]
    split
    · rename_i h
      rw [ih, List.mem_cons]
      constructor
      · exact Or.inr
      · rintro (rfl | h')
        · exact ih.mp h
        · exact h'
    · simp [List.mem_cons, ih]

theorem nodup_toSet (l : List Nat) : (toSet l).Nodup := by
  induction l with
  | nil => simp [toSet]
  | cons a l ih =>
    simp only [toSet]
    split
    · exact ih
    · rename_i h
      exact List.nodup_cons.mpr ⟨h, ih⟩

def SetOp.sem (op : SetOp) (inA inB : Prop) : Prop :=
  match op with
  | .and => inA ∧ inB
  | .or => inA ∨ inB
  | .xor => (inA ∧ ¬inB) ∨ (inB ∧ ¬inA)
  | .sub => inA ∧ ¬inB

theorem mem_combineElems (op : SetOp) (A B : List α) (x : α) :
    x ∈ combineElems op A B ↔ op.sem (x ∈ A) (x ∈ B) := by
  cases op <;> simp only [combineElems, SetOp.sem, List.mem_filter, List.mem_append, decide_eq_true_eq]
  case or =>
    constructor
    · rintro (h | ⟨h, _⟩)
      · exact Or.inl h
      · exact Or.inr h
    · rintro (h | h)
      · exact Or.inl h
      · by_cases hx : x ∈ A
        · exact Or.inl hx
        · exact Or.inr ⟨h, hx⟩

/-- the test a member of the first operand has to pass, given whether it is in the second -/
def SetOp.keepA (op : SetOp) (inB : Prop) [Decidable inB] : Bool :=
  match op with
  | .and => decide inB
  | .or => true
  | .xor => decide ¬inB
  | .sub => decide ¬inB

/-- the four comprehensions are one: the members of `A` that pass the operator's test, then all or none of the
    members of `B` outside `A`: all for the two operators that pass `drop_notcommon_elements` -/
theorem combineElems_eq_filter_append (op : SetOp) (A B : List α) :
    combineElems op A B =
      A.filter (fun x => op.keepA (x ∈ B)) ++
        (B.filter fun x => decide (x ∉ A)).filter fun _ => op.dropNotCommon := by
  have ht : ∀ l : List α, l.filter (fun _ => true) = l := fun l => List.filter_eq_self.mpr fun _ _ => rfl
  have hf : ∀ l : List α, l.filter (fun _ => false) = [] :=
    fun l => List.filter_eq_nil_iff.mpr fun _ _ h => Bool.noConfusion h
  cases op
  · show A.filter _ = A.filter _ ++ List.filter (fun _ => false) _
    rw [hf, List.append_nil]
    rfl
  · show A ++ _ = A.filter (fun _ => true) ++ List.filter (fun _ => true) _
    rw [ht, ht]
  · show _ ++ _ = _ ++ List.filter (fun _ => true) _
    rw [ht]
    rfl
  · show A.filter _ = A.filter _ ++ List.filter (fun _ => false) _
    rw [hf, List.append_nil]
    rfl

theorem nodup_combineElems (op : SetOp) {A B : List α} (hA : A.Nodup) (hB : B.Nodup) :
    (combineElems op A B).Nodup := by
  rw [combineElems_eq_filter_append, List.nodup_append]
  refine ⟨hA.filter _, (hB.filter _).filter _, fun x hx y hy e => ?_⟩
  exact of_decide_eq_true (List.mem_filter.mp (List.mem_filter.mp hy).1).2 (e ▸ (List.mem_filter.mp hx).1)

theorem mem_or_of_mem_combineElems (op : SetOp) (A B : List α) (x : α) (h : x ∈ combineElems op A B) : x ∈ A ∨ x ∈ B := by
  rw [combineElems_eq_filter_append] at h
  rcases List.mem_append.mp h with h | h
  · exact Or.inl (List.mem_filter.mp h).1
  · exact Or.inr (List.mem_filter.mp (List.mem_filter.mp h).1).1

/-- `&`, `-`: every member of the result belongs to the first operand; and to the second as soon as one does -/
theorem combineElems_subset {op : SetOp} (h : op.dropNotCommon = false) (A B : List α) :
    (∀ e ∈ combineElems op A B, e ∈ A) ∧
      ∀ e' ∈ combineElems op A B, e' ∈ B → ∀ e ∈ combineElems op A B, e ∈ B := by
  cases op
  · exact ⟨fun e he => ((mem_combineElems _ A B e).mp he).1, fun _ _ _ e he => ((mem_combineElems _ A B e).mp he).2⟩
  · cases h
  · cases h
  · exact ⟨fun e he => ((mem_combineElems _ A B e).mp he).1,
      fun e' he' hB => absurd hB ((mem_combineElems _ A B e').mp he').2⟩

theorem combineElems_order (op : SetOp) (A B : List α) :
    combineElems op A B =
      A.filter (fun x => decide (x ∈ combineElems op A B)) ++
        (B.filter fun x => decide (x ∉ A)).filter (fun x => decide (x ∈ combineElems op A B)) := by
  -- membership in the result is the test that selected the member
  have hA : ∀ x ∈ A, decide (x ∈ combineElems op A B) = op.keepA (x ∈ B) := by
    intro x hx
    rw [combineElems_eq_filter_append, Bool.eq_iff_iff, decide_eq_true_eq, List.mem_append, List.mem_filter, List.mem_filter,
      List.mem_filter, decide_eq_true_eq]
    exact ⟨fun h => h.elim (·.2) fun h => absurd hx h.1.2, fun h => Or.inl ⟨hx, h⟩⟩
  have hB : ∀ x ∈ B.filter (fun x => decide (x ∉ A)), decide (x ∈ combineElems op A B) = op.dropNotCommon := by
    intro x hx
    rw [combineElems_eq_filter_append, Bool.eq_iff_iff, decide_eq_true_eq, List.mem_append, List.mem_filter, List.mem_filter]
    exact ⟨fun h => h.elim (fun h => absurd h.1 (of_decide_eq_true (List.mem_filter.mp hx).2)) (·.2),
      fun h => Or.inr ⟨hx, h⟩⟩
  rw [List.filter_congr hA, List.filter_congr hB]
  exact combineElems_eq_filter_append op A B

theorem idxMap_some {E C : List α} {i x : Nat} (h : idxMap E C i = some x) :
    ∃ e, E[i]? = some e ∧ C[x]? = some e := by
  unfold idxMap at h
  split at h
  · cases h
  · rename_i el hel
    exact ⟨el, hel, dictIdx?_some h⟩

theorem idxMap_lt {E C : List α} {i x : Nat} (h : idxMap E C i = some x) : i < E.length ∧ x < C.length := by
  obtain ⟨e, h1, h2⟩ := idxMap_some h
  exact ⟨(List.getElem?_eq_some_iff.mp h1).1, (List.getElem?_eq_some_iff.mp h2).1⟩

theorem idxMap_inj {E C : List α} (hE : E.Nodup) {i j x : Nat} (hi : idxMap E C i = some x)
    (hj : idxMap E C j = some x) : i = j := by
  obtain ⟨e, h1, h2⟩ := idxMap_some hi
  obtain ⟨e', h1', h2'⟩ := idxMap_some hj
  cases h2.symm.trans h2'
  exact (List.getElem?_inj (idxMap_lt hi).1 hE).mp (h1.trans h1'.symm)

theorem idxMap_of_elems {E C : List α} (hC : C.Nodup) {i x : Nat} {e : α} (hi : E[i]? = some e)
    (hx : C[x]? = some e) : idxMap E C i = some x := by
  unfold idxMap
  rw [hi]
  exact dictIdx?_of_getElem? hC hx

theorem idxMap_symm {E C : List α} (hC : C.Nodup) {i x : Nat} (h : idxMap C E x = some i) : idxMap E C i = some x :=
  (idxMap_some h).elim fun _ he => idxMap_of_elems hC he.2 he.1

theorem idxMap_surj {E C : List α} (hC : C.Nodup) {x : Nat} {e : α} (hx : C[x]? = some e) (he : e ∈ E) :
    ∃ i, idxMap E C i = some x := by
  obtain ⟨i, hi, rfl⟩ := List.getElem_of_mem he
  exact ⟨i, idxMap_of_elems hC (List.getElem?_eq_getElem hi) hx⟩

variable {leq : α → α → Bool}

theorem rel_idxMap {E C : List α} {i j x y : Nat} (hi : idxMap E C i = some x) (hj : idxMap E C j = some y) :
    rel leq C x y = rel leq E i j := by
  obtain ⟨e, h1, h2⟩ := idxMap_some hi
  obtain ⟨e', h1', h2'⟩ := idxMap_some hj
  unfold rel
  rw [h1, h2, h1', h2']

theorem relD_idxMap {E C : List α} (d : Dir) {i j x y : Nat} (hi : idxMap E C i = some x)
    (hj : idxMap E C j = some y) : relD leq d C x y = relD leq d E i j := by
  cases d <;> simp only [relD]
  · exact rel_idxMap hi hj
  · exact rel_idxMap hj hi

theorem ltD_idxMap {E C : List α} (hE : E.Nodup) (d : Dir) {i j x y : Nat} (hi : idxMap E C i = some x)
    (hj : idxMap E C j = some y) : ltD leq d C x y = ltD leq d E i j := by
  unfold ltD
  rw [relD_idxMap d hi hj]
  congr 1
  rw [Bool.eq_iff_iff, bne_iff_ne, bne_iff_ne]
  exact not_congr ⟨fun e => idxMap_inj hE hi (e ▸ hj), fun e => Option.some.inj (hi.symm.trans (e ▸ hj))⟩

end
end Fca.Poset
