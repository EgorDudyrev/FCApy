/-
  Python sets and dictionaries as lists, the stable insertion sort, and the concept comparison: on duplicate-free
  extents the coded `ltAt cs` is the specification's `ssubAt cs`, so the predicates in which C12 states its results
  are the order notions of `ConstructOrder` at `ltAt cs` and at its reverse.  The routines are verified for an
  arbitrary strict order and meet those predicates through `isCoverDict_iff` … `isBottom_iff`.
-/
import Fca.Model.Construct
import Fca.Lemmas.ExtentOrder
import Fca.Lemmas.ListAux
namespace Fca.Construct
open Fca.Spec

theorem mem_addSet {s : List Nat} {x y : Nat} : x ∈ addSet s y ↔ x ∈ s ∨ x = y :=
  ListAux.mem_addNew List.contains_iff_mem

theorem mem_addSet_of_mem {s : List Nat} {x y : Nat} (h : x ∈ s) : x ∈ addSet s y := mem_addSet.mpr (Or.inl h)

theorem mem_addSet_self {s : List Nat} {y : Nat} : y ∈ addSet s y := mem_addSet.mpr (Or.inr rfl)

theorem forall_mem_addSet {P : Nat → Prop} {s : List Nat} {y : Nat} :
    (∀ x ∈ addSet s y, P x) ↔ (∀ x ∈ s, P x) ∧ P y := by
  simp only [mem_addSet, or_imp, forall_and, forall_eq]

theorem nodup_addSet {s : List Nat} {y : Nat} (h : s.Nodup) : (addSet s y).Nodup :=
  ListAux.nodup_addNew List.contains_iff_mem h

theorem length_addSet_of_not_mem {s : List Nat} {y : Nat} (h : y ∉ s) :
    (addSet s y).length = s.length + 1 := by
  unfold addSet
  rw [if_neg (by simpa using h)]; simp

theorem mem_union {s t : List Nat} {x : Nat} : x ∈ union s t ↔ x ∈ s ∨ x ∈ t :=
  (ListAux.foldl_iff (m := (x ∈ ·)) (q := (x = ·)) (fun _ _ => mem_addSet) t s).trans
    (or_congr_right exists_eq_right')

theorem nodup_union {s t : List Nat} (h : s.Nodup) : (union s t).Nodup :=
  ListAux.foldl_inv (fun _ _ => nodup_addSet) t s h

theorem mem_diff {s t : List Nat} {x : Nat} : x ∈ diff s t ↔ x ∈ s ∧ x ∉ t := by
  simp [diff]

theorem nodup_diff {s t : List Nat} (h : s.Nodup) : (diff s t).Nodup := h.filter _

/-- the way Python happens to iterate a set: any rearrangement of its elements -/
def OrdOK (ord : List Nat → List Nat) : Prop := ∀ xs, (ord xs).Perm xs

theorem OrdOK.mem_iff {ord : List Nat → List Nat} (h : OrdOK ord) {xs : List Nat} {x : Nat} :
    x ∈ ord xs ↔ x ∈ xs := (h xs).mem_iff

theorem isInsertionSort_sortBy (le : Nat → Nat → Bool) :
    ListAux.IsInsertionSort (fun a b => le a b = true) (insertBy le) (sortBy le) :=
  ⟨fun _ => rfl, fun _ _ _ => rfl, rfl, fun _ _ => rfl⟩

theorem mem_insertBy {le : Nat → Nat → Bool} {x y : Nat} {l : List Nat} :
    y ∈ insertBy le x l ↔ y = x ∨ y ∈ l := by
  rw [((isInsertionSort_sortBy le).ins_perm x l).mem_iff, List.mem_cons]

theorem perm_sortBy (le : Nat → Nat → Bool) (l : List Nat) : (sortBy le l).Perm l :=
  (isInsertionSort_sortBy le).perm l

theorem mem_sortBy {le : Nat → Nat → Bool} {l : List Nat} {y : Nat} : y ∈ sortBy le l ↔ y ∈ l :=
  (perm_sortBy le l).mem_iff

theorem nodup_sortBy {le : Nat → Nat → Bool} {l : List Nat} (h : l.Nodup) : (sortBy le l).Nodup :=
  (perm_sortBy le l).nodup_iff.mpr h

theorem length_sortBy {le : Nat → Nat → Bool} {l : List Nat} : (sortBy le l).length = l.length :=
  (perm_sortBy le l).length_eq

/-- `R` may be coarser than the comparison, which only has to decide it one way -/
theorem pairwise_sortBy {le : Nat → Nat → Bool} {R : Nat → Nat → Prop}
    (h1 : ∀ x y, le x y = true → R x y) (h2 : ∀ x y, le x y = false → R y x)
    (htr : ∀ x y z, R x y → R y z → R x z) (l : List Nat) : (sortBy le l).Pairwise R :=
  (isInsertionSort_sortBy le).pairwise h1 (fun x y h => h2 x y (Bool.eq_false_iff.mpr h)) htr l

theorem pairwise_sortBy_decide {R : Nat → Nat → Prop} [DecidableRel R] (htot : ∀ x y, R x y ∨ R y x)
    (htr : ∀ x y z, R x y → R y z → R x z) (l : List Nat) :
    (sortBy (fun a b => decide (R a b)) l).Pairwise R :=
  pairwise_sortBy (fun _ _ h => of_decide_eq_true h)
    (fun x y h => (htot x y).resolve_left (of_decide_eq_false h)) htr l

theorem sub_iff {a b : List Nat} : sub a b = true ↔ ∀ x ∈ a, x ∈ b := Trace.subset_iff

theorem ltC_iff {a b : List Nat} : ltC a b = true ↔ a.length < b.length ∧ sub a b = true := by
  unfold ltC leC
  by_cases h1 : a.length = b.length
  · rw [if_pos (beq_iff_eq.mpr h1)]
    exact ⟨fun h => Bool.noConfusion h, fun h => absurd h1 (Nat.ne_of_lt h.1)⟩
  · rw [if_neg (mt beq_iff_eq.mp h1)]
    by_cases h2 : a.length > b.length
    · rw [if_pos h2]
      exact ⟨fun h => Bool.noConfusion h, fun h => absurd h.1 (Nat.lt_asymm h2)⟩
    · rw [if_neg h2]
      exact ⟨fun h => ⟨Nat.lt_of_le_of_ne (Nat.le_of_not_lt h2) h1, h⟩, fun h => h.2⟩

theorem ssub_iff {a b : List Nat} (ha : a.Nodup) (hb : b.Nodup) :
    ssub a b = true ↔ a.length < b.length ∧ sub a b = true := by
  rw [← Trace.ssubset_eq_ssub, Trace.ssubset_iff, sub_iff]
  exact ⟨fun h => ⟨ListAux.length_lt_of_subset_of_not_subset ha h.1 h.2, h.1⟩,
    fun h => ⟨h.2, fun hba => Nat.not_le_of_lt h.1 (hb.length_le_of_subset hba)⟩⟩

theorem ltC_eq_ssub {a b : List Nat} (ha : a.Nodup) (hb : b.Nodup) : ltC a b = ssub a b :=
  Bool.eq_iff_iff.mpr (ltC_iff.trans (ssub_iff ha hb).symm)

theorem ltC_length {a b : List Nat} (h : ltC a b = true) : a.length < b.length := (ltC_iff.mp h).1

def ExtsNodup (cs : List Ext) : Prop := ∀ e ∈ cs, e.Nodup

instance (cs : List Ext) : Decidable (ExtsNodup cs) := by unfold ExtsNodup; infer_instance

theorem nodup_getD {cs : List Ext} (h : ExtsNodup cs) (i : Nat) : (cs.getD i []).Nodup := by
  rw [List.getD_eq_getElem?_getD]
  cases hi : cs[i]? with
  | none => exact List.nodup_nil
  | some e => exact h e (List.mem_of_getElem? hi)

theorem ltAt_eq_ssubAt {cs : List Ext} (h : ExtsNodup cs) : ltAt cs = ssubAt cs := by
  funext i j
  exact ltC_eq_ssub (nodup_getD h i) (nodup_getD h j)

theorem ltAt_trans {cs : List Ext} {i j k : Nat} (h1 : ltAt cs i j = true) (h2 : ltAt cs j k = true) :
    ltAt cs i k = true := by
  rw [ltAt, ltC_iff] at *
  exact ⟨Nat.lt_trans h1.1 h2.1, sub_iff.mpr fun x hx => sub_iff.mp h2.2 x (sub_iff.mp h1.2 x hx)⟩

theorem ltAt_strictOrd (cs : List Ext) : StrictOrd (ltAt cs) (suppAt cs) :=
  ⟨fun _ _ _ => ltAt_trans, fun _ _ => ltC_length⟩

theorem suppAt_lt_walkFuel (cs : List Ext) (i : Nat) : suppAt cs i < walkFuel cs := by
  unfold suppAt walkFuel
  rw [List.getD_eq_getElem?_getD]
  cases hi : cs[i]? with
  | none => exact Nat.succ_pos _
  | some e =>
    have := (ListAux.le_foldl_max (cs.map List.length) 0).2 e.length
      (List.mem_map.mpr ⟨e, List.mem_of_getElem? hi, rfl⟩)
    rw [Option.getD_some]
    exact Nat.lt_succ_of_le (Nat.le_trans this (Nat.le_add_right _ _))

/-- a children dictionary `{i: set}` is the (lower) cover relation of the list -/
def IsCoverDict (cs : List Ext) (out : List (List Nat)) : Prop :=
  out.length = cs.length ∧
  ∀ i, i < cs.length → (out.getD i []).Nodup ∧ SameSetC (out.getD i []) (Spec.covers cs i)

/-- a parents dictionary is the upper cover relation of the list -/
def IsUpperCoverDict (cs : List Ext) (out : List (List Nat)) : Prop :=
  out.length = cs.length ∧
  ∀ i, i < cs.length → (out.getD i []).Nodup ∧ SameSetC (out.getD i []) (Spec.upperCoversC cs i)

theorem isCoverDict_coversDict (cs : List Ext) : IsCoverDict cs (coversDict cs) := by
  refine ⟨by simp [coversDict], fun i hi => ?_⟩
  rw [coversDict, ListAux.getD_map_range _ _ _ _ hi]
  exact ⟨nodup_coversBy, fun _ => Iff.rfl⟩

theorem isUpperCoverDict_upperCoversDict (cs : List Ext) : IsUpperCoverDict cs (upperCoversDict cs) := by
  refine ⟨by simp [upperCoversDict], fun i hi => ?_⟩
  rw [upperCoversDict, ListAux.getD_map_range _ _ _ _ hi]
  exact ⟨nodup_upperCoversBy, fun _ => Iff.rfl⟩

theorem isCoverDict_of_eq {cs : List Ext} {out : List (List Nat)} (h : out = coversDict cs) :
    IsCoverDict cs out := h ▸ isCoverDict_coversDict cs

theorem isUpperCoverDict_of_eq {cs : List Ext} {out : List (List Nat)} (h : out = upperCoversDict cs) :
    IsUpperCoverDict cs out := h ▸ isUpperCoverDict_upperCoversDict cs

theorem isTopB_iff {cs : List Ext} {t : Nat} : isTopB cs t = true ↔ IsTop cs t := greatest_iff_all

theorem isBottomB_iff {cs : List Ext} {b : Nat} : isBottomB cs b = true ↔ IsBottom cs b :=
  greatest_iff_all (lt := Ord.flipR (ssubAt cs))

theorem isTop_of_B {cs : List Ext} {t : Nat} (h : isTopB cs t = true) : IsTop cs t := isTopB_iff.mp h

theorem isBottom_of_B {cs : List Ext} {b : Nat} (h : isBottomB cs b = true) : IsBottom cs b := isBottomB_iff.mp h

theorem isCoverDict_iff {cs : List Ext} (hnd : ExtsNodup cs) {out : List (List Nat)} :
    IsCoverDict cs out ↔ CoverDictBy cs.length (ltAt cs) out := by
  rw [ltAt_eq_ssubAt hnd]; exact Iff.rfl

theorem isUpperCoverDict_iff {cs : List Ext} (hnd : ExtsNodup cs) {out : List (List Nat)} :
    IsUpperCoverDict cs out ↔ CoverDictBy cs.length (Ord.flipR (ltAt cs)) out := by
  rw [ltAt_eq_ssubAt hnd, CoverDictBy, coversBy_flip]; exact Iff.rfl

theorem isTop_iff {cs : List Ext} (hnd : ExtsNodup cs) {t : Nat} :
    IsTop cs t ↔ Ord.Greatest cs.length (ltAt cs) t := by
  rw [ltAt_eq_ssubAt hnd]; exact Iff.rfl

theorem isBottom_iff {cs : List Ext} (hnd : ExtsNodup cs) {b : Nat} :
    IsBottom cs b ↔ Ord.Greatest cs.length (Ord.flipR (ltAt cs)) b := by
  rw [ltAt_eq_ssubAt hnd]; exact Iff.rfl

end Fca.Construct
