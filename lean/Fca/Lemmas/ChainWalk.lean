/-
  `ConceptLattice._get_chains`, once, over a relation `R p c`: `p` is the chosen parent of `c`.  A round scans the
  sorted order from its end for an unvisited index, walks from it through chosen parents to the root (a measure falls;
  the walk read backwards is a chain from the root) and marks the walk visited; the visited list grows with every
  round, so in the end the chains cover every index below `n`.  A model of the loops owes the unfolding equations of
  its scan, its walk and its round, and what the members of its visited list are.
-/
import Fca.Lemmas.ListAux
namespace Fca.LQ

def Steps (R : Nat → Nat → Prop) : List Nat → Prop
  | [] => True
  | x :: rest => (∀ y, rest.head? = some y → R x y) ∧ Steps R rest

theorem steps_singleton (R : Nat → Nat → Prop) (x : Nat) : Steps R [x] :=
  ⟨fun _ h => (nomatch h), trivial⟩

theorem steps_cons_cons {R : Nat → Nat → Prop} {x y : Nat} {l : List Nat} :
    Steps R (x :: y :: l) ↔ R x y ∧ Steps R (y :: l) :=
  and_congr_left' ⟨fun h => h y rfl, fun h _ e => Option.some.inj e ▸ h⟩

theorem steps_append_singleton (R : Nat → Nat → Prop) (l : List Nat) (x : Nat) :
    Steps R l → (∀ y, l.getLast? = some y → R y x) → Steps R (l ++ [x]) := by
  induction l with
  | nil => exact fun _ _ => steps_singleton R x
  | cons a rest ih =>
    intro hs h
    cases rest with
    | nil => exact steps_cons_cons.mpr ⟨h a rfl, steps_singleton R x⟩
    | cons b rest =>
      exact steps_cons_cons.mpr ⟨(steps_cons_cons.mp hs).1,
        ih (steps_cons_cons.mp hs).2 fun y hy => h y (List.getLast?_cons_cons.trans hy)⟩

theorem steps_reverse (R : Nat → Nat → Prop) : ∀ (l : List Nat),
    Steps R l → Steps (fun a b => R b a) l.reverse
  | [], _ => trivial
  | x :: rest, hs => by
    rw [List.reverse_cons]
    apply steps_append_singleton _ _ _ (steps_reverse R rest hs.2)
    intro y hy
    rw [List.getLast?_reverse] at hy
    exact hs.1 y hy

theorem steps_imp_mem {R R' : Nat → Nat → Prop} (l : List Nat) :
    (∀ x ∈ l, ∀ y ∈ l, R x y → R' x y) → Steps R l → Steps R' l := by
  induction l with
  | nil => exact fun _ _ => trivial
  | cons x rest ih =>
    intro h hs
    cases rest with
    | nil => exact steps_singleton R' x
    | cons y rest =>
      exact steps_cons_cons.mpr
        ⟨h x List.mem_cons_self y (List.mem_cons_of_mem _ List.mem_cons_self) (steps_cons_cons.mp hs).1,
          ih (fun a ha b hb => h a (List.mem_cons_of_mem _ ha) b (List.mem_cons_of_mem _ hb))
            (steps_cons_cons.mp hs).2⟩

end Fca.LQ

namespace Fca.Chain
open Fca.LQ

/-- a chain of the decomposition -/
structure Good (R : Nat → Nat → Prop) (n top : Nat) (ch : List Nat) : Prop where
  head : ch.head? = some top
  steps : Steps R ch
  lt : ∀ x ∈ ch, x < n

/-- `c_sort_i = n-1; while map_isort_i[c_sort_i] in visited: c_sort_i -= 1`, for any scan with that equation:
    it stops at an unvisited entry if there is one -/
theorem scan_ok {α : Type} {scan ret : Nat → α} {isortI vis : List Nat}
    (hs : ∀ k, scan (k + 1) = if vis.contains (isortI.getD k 0) then scan k else ret k) :
    ∀ k, (∃ s, s < k ∧ isortI.getD s 0 ∉ vis) → ∃ s, s < k ∧ scan k = ret s ∧ isortI.getD s 0 ∉ vis := by
  intro k
  induction k with
  | zero => exact fun h => h.elim fun _ h => absurd h.1 (Nat.not_lt_zero _)
  | succ k ih =>
    intro ⟨s, hs', hn⟩
    by_cases hv : isortI.getD k 0 ∈ vis
    · have hsk : s < k := Nat.lt_of_le_of_ne (Nat.le_of_lt_succ hs') fun e => hn (e ▸ hv)
      obtain ⟨s', hs', h, hn'⟩ := ih ⟨s, hsk, hn⟩
      exact ⟨s', Nat.lt_succ_of_lt hs', ((hs k).trans (if_pos (List.contains_iff_mem.mpr hv))).trans h, hn'⟩
    · exact ⟨k, Nat.lt_succ_self k, (hs k).trans (if_neg fun h => hv (List.contains_iff_mem.mp h)), hv⟩

section
variable {n root : Nat}

/-- The inner `while True:`.  `W fuel c l` says that the walk from `c` returns `l`; `μ` falls along the chosen
    parent, so a fuel above `μ c` is enough, and the walk read backwards is a chain from the root. -/
theorem walk_ok {W : Nat → Nat → List Nat → Prop} {R : Nat → Nat → Prop} {stop : Nat → Prop} {μ : Nat → Nat}
    (hstop : ∀ f c, c < n → stop c → c = root ∧ W (f + 1) c [c])
    (hnext : ∀ f c, c < n → ¬ stop c →
      ∃ p, p < n ∧ R p c ∧ μ p < μ c ∧ ∀ l, W f p l → W (f + 1) c (c :: l)) :
    ∀ fuel c, c < n → μ c < fuel → ∃ l, W fuel c l ∧ l.head? = some c ∧ Good R n root l.reverse := by
  intro fuel
  induction fuel with
  | zero => exact fun _ _ hf => absurd hf (Nat.not_lt_zero _)
  | succ fuel ih =>
    intro c hc hf
    by_cases h0 : stop c
    · obtain ⟨e, hw⟩ := hstop fuel c hc h0
      exact ⟨[c], hw, rfl, congrArg some e, steps_singleton _ c, fun x hx => List.mem_singleton.mp hx ▸ hc⟩
    · obtain ⟨p, hp, hR, hμ, hw⟩ := hnext fuel c hc h0
      obtain ⟨l, hl, hpl, g⟩ := ih p hp (Nat.lt_of_lt_of_le hμ (Nat.le_of_lt_succ hf))
      refine ⟨c :: l, hw l hl, rfl, ?_, ?_, fun x hx => ?_⟩
      · have g' := g.head
        rw [List.head?_reverse] at g' ⊢
        cases l with
        | nil => cases hpl
        | cons q l => exact List.getLast?_cons_cons.trans g'
      · rw [List.reverse_cons]
        refine steps_append_singleton R _ c g.steps fun y hy => ?_
        rw [List.getLast?_reverse, hpl] at hy
        exact Option.some.inj hy ▸ hR
      · rw [List.reverse_cons] at hx
        exact (List.mem_append.mp hx).elim (g.lt x) fun hx => List.mem_singleton.mp hx ▸ hc

/-- The outer `while len(visited_concepts) < n_concepts:`, for any loop with these two equations.  A round starts at an
    unvisited index, which its walk contains, so the visited list grows and `n + 1` rounds are enough; at the end
    every index is visited, and a visited index lies on a chain. -/
theorem loop_ok {ε : Type} {R : Nat → Nat → Prop}
    {loop : Nat → List Nat → List (List Nat) → Except ε (List (List Nat))}
    (hdone : ∀ f vis chs, ¬ vis.length < n → loop (f + 1) vis chs = .ok chs)
    (hround : ∀ f vis chs, vis.Nodup → vis.length < n → (∃ i, i < n ∧ i ∉ vis) →
      ∃ (c : Nat) (l vis' : List Nat), c ∉ vis ∧ c ∈ l ∧ Good R n root l.reverse ∧ vis'.Nodup ∧
        (∀ x, x ∈ vis' ↔ x ∈ vis ∨ x ∈ l) ∧ loop (f + 1) vis chs = loop f vis' (chs ++ [l.reverse])) :
    ∀ fuel vis chs, vis.Nodup → (∀ x ∈ vis, x < n) → (∀ x ∈ vis, ∃ ch ∈ chs, x ∈ ch) → (∀ ch ∈ chs, Good R n root ch) →
      n < fuel + vis.length →
      ∃ out, loop fuel vis chs = .ok out ∧ (∀ i, i < n → ∃ ch ∈ out, i ∈ ch) ∧ ∀ ch ∈ out, Good R n root ch := by
  intro fuel
  induction fuel with
  | zero =>
    intro vis _ hnd hlt _ _ hf
    exact absurd (Nat.zero_add vis.length ▸ hf) (Nat.not_lt.mpr (ListAux.length_le_of_nodup_of_lt hnd hlt))
  | succ fuel ih =>
    intro vis chs hnd hlt hcov hgood hf
    by_cases hv : vis.length < n
    · have hex : ∃ i, i < n ∧ i ∉ vis := Classical.byContradiction fun hno =>
        Nat.lt_irrefl n (Nat.lt_of_le_of_lt (List.length_range (n := n) ▸ List.nodup_range.length_le_of_subset
          fun i hi => Classical.not_not.mp fun hiv => hno ⟨i, List.mem_range.mp hi, hiv⟩) hv)
      obtain ⟨c, l, vis', hcv, hcl, hg, hnd', hmem, heq⟩ := hround fuel vis chs hnd hv hex
      have hlen : vis.length < vis'.length :=
        ListAux.length_lt_of_subset_of_not_mem hnd (fun x hx => (hmem x).mpr (Or.inl hx)) ((hmem c).mpr (Or.inr hcl)) hcv
      rw [heq]
      refine ih vis' _ hnd' (fun x hx => ((hmem x).mp hx).elim (hlt x) fun hx => hg.lt x (List.mem_reverse.mpr hx))
        (fun x hx => ?_) (fun ch hch => ?_)
        (Nat.lt_of_lt_of_le (Nat.add_right_comm fuel 1 _ ▸ hf) (Nat.add_le_add_left hlen fuel))
      · rcases (hmem x).mp hx with h | h
        · obtain ⟨ch, hch, hxc⟩ := hcov x h
          exact ⟨ch, List.mem_append_left _ hch, hxc⟩
        · exact ⟨l.reverse, List.mem_append_right _ List.mem_cons_self, List.mem_reverse.mpr h⟩
      · exact (List.mem_append.mp hch).elim (hgood ch) fun h => List.mem_singleton.mp h ▸ hg
    · refine ⟨chs, hdone fuel vis chs hv, fun i hi => Classical.not_not.mp fun hno => hv ?_, hgood⟩
      have := ListAux.length_lt_of_subset_of_not_mem hnd (b := List.range n) (fun g hg => List.mem_range.mpr (hlt g hg))
        (List.mem_range.mpr hi) fun h => hno (hcov i h)
      rwa [List.length_range] at this

end
end Fca.Chain
