/-
  Lemmas/SemiLatticeAdd — `POSet.add(e, fill_up_cache=True)` as executed on a caching semilattice instance:
  `trace_element` starts from the overridden `tops` / `bottoms` (`[cached extreme index]`) instead of the scan of
  `POSet.tops / bottoms`.  The scan is what leaves every closed-relation entry in the cache, which the neighbour
  patching loop relies on (`self._cache_ancestors[el_i]`); on a semilattice the entries the loop reads - those of
  the traced elements - are there because their direct entries are (the trace left them) and `DIC` holds.
-/
import Fca.Lemmas.SemiLatticeStep
import Fca.Lemmas.SemiLatticeDic
namespace Fca.SemiLattice
open Fca.Poset Fca.SemiLattice.Spec

section
variable {α : Type} [DecidableEq α] {leq : α → α → Bool} {ord : List Nat → List Nat} {E : List α}

/-- the two writes of `add` at the new key: `self._cache_children[n] = ch; self._cache_descendants[n] = de`
    (resp. parents / ancestors) -/
def insNew (n : Nat) (d : Dir) (ch de : List Nat) (p : St α) : St α :=
  (p.setDirect d (ainsert n ch (p.direct d))).setClosed d
    (ainsert n de ((p.setDirect d (ainsert n ch (p.direct d))).closed d))

/-- `self.trace_element(e, ·)` on a caching semilattice: as on a plain `POSet`, except that a side whose `tops` /
    `bottoms` is overridden is not scanned, so the closed relation of every element is promised to be cached
    afterwards on the other sides only.  `I`: any property of the poset state that survives the cache writes. -/
theorem traceElementSL_spec (hpo : IdxPO leq E) (hord : ∀ l, (ord l).Perm l) {d : Dir} {e : α}
    (hD : DownSet leq d E (cmpB leq d e E)) {G : Ghost} {s : SL α} (h : InvB leq E G true s.p)
    (hext : s.cls.has d = true → ∃ t, isExt leq d E t = true ∧ s.cache d = some t)
    {I : St α → Prop} (hS : Stable I) (hI : I s.p) :
    ∃ p' r, traceElementSL leq ord d e s = ({ s with p := p' }, .ok r) ∧
      BInv leq d E (cmpB leq d e E) [] r.2 r.1 ∧
      InvB leq E ((G.addClosedP d fun k => s.cls.has d = false ∧ k < E.length).addDirectP d.flip fun k => k ∈ r.2)
        true p' ∧ I p' := by
  unfold traceElementSL
  cases hd : s.cls.has d
  · -- `POSet.tops / bottoms`: the scan
    obtain ⟨p1, st, hm1, h1, hst⟩ := extremesE_fills_closed hpo h d
    have hI1 : I p1 := (keeps_extremesE (keeps_closedE hS) d).run hI hm1
    rw [bind_ok ((extremesSL_not_has hd).trans (lift_eq hm1))]
    obtain ⟨p2, r, hm2, hb, h2⟩ := traceFrom_spec (ord := ord) hpo hord hD
      (h1.mono (G' := G.addClosedP d fun k => false = false ∧ k < E.length) rfl rfl rfl
        (fun _ _ hp => hp.imp id fun hp => ⟨hp.1, hp.2.2⟩) fun _ _ hp => hp) hst
    exact ⟨p2, r, lift_eq hm2, hb, h2, (keeps_traceFrom (keeps_directE hS) d e st).run hI1 hm2⟩
  · obtain ⟨t, ht, hc⟩ := hext hd
    have hpo' : IdxPO leq s.p.elems := by rw [h.elems]; exact hpo
    rw [bind_ok (extremesSL_run (s := s) hpo' hd (by rw [h.elems]; exact ht) (fun _ => hc))]
    obtain ⟨p2, r, hm2, hb, h2⟩ := traceFrom_spec (ord := ord) hpo hord hD
      (h.addClosedP d (fun k => true = false ∧ k < E.length) fun _ k hk => by cases hk.1)
      (extremes_of_isExt hpo ht).symm
    exact ⟨p2, r, lift_eq hm2, hb, h2, (keeps_traceFrom (keeps_directE hS) d e [t]).run hI hm2⟩

/-- The `if fill_up_cache:` block of `POSet.add` on a caching semilattice.  `I` is a property of the poset state
    kept up to the patching loop (`hIn`: by the two writes at the new key, where the direct entry comes first),
    `J` one kept by the loop.  `hfin`, at the state the loop starts from (`cl d`: the elements strictly on the `d`
    side of the new one), is where the closed entries that the loop reads come from: the direct entries of those
    elements are cached (the traces left them), and so is every closed entry of a side that the class does not
    override (its scan left them). -/
theorem posetAddFillSL_run {e : α} (hpo : IdxPO leq E) (hpo' : IdxPO leq (E ++ [e]))
    (hord : ∀ l, (ord l).Perm l) {s : SL α} (h : InvB leq E Ghost.none true s.p)
    (hext : ∀ d, s.cls.has d = true → ∃ t, isExt leq d E t = true ∧ s.cache d = some t)
    {I J : St α → Prop} (hSI : Stable I) (hIn : ∀ p d ch de, I p → I (insNew E.length d ch de p))
    (hI : I s.p)
    (hfin : ∀ p (cl : Dir → List Nat), I p →
      (∀ d k, k ∈ cl d → k < E.length ∧ (alookup k (p.direct d.flip)).isSome = true) →
      (∀ d k, s.cls.has d = false ∧ k < E.length → (alookup k (p.closed d)).isSome = true) →
      (∀ d k, k ∈ cl d → (alookup k (p.closed d.flip)).isSome = true) ∧ J p)
    (hSJ : Stable J) :
    ∃ p6 cl dr, posetAddFillSL leq ord e E.length s = ({ s with p := p6 }, .ok ()) ∧
      Weak.PatchInv leq E e cl dr (List.range E.length) p6 ∧ J p6 := by
  have hnn : ¬(E.length < E.length ∧ E.length < E.length) := fun hh => Nat.lt_irrefl _ hh.1
  have hn : ¬ E.length < E.length := Nat.lt_irrefl _
  -- `self._cache_leq[(n, n)] = True`
  have h1 := h.insertLeqOut true hnn
  -- `… = self.trace_element(element, 'up')`
  obtain ⟨p2, ⟨ch, de⟩, e2, hb1, h2, i2⟩ := traceElementSL_spec (ord := ord) hpo hord (downSet_cmpB hpo' .desc)
    (s := { s with p := { s.p with leqC := ainsert (E.length, E.length) true s.p.leqC } }) h1
    (hext .desc) hSI (hSI.leq _ _ _ hI)
  simp only at h2
  have h3 : InvB leq E _ true (insNew E.length .desc ch de p2) := h2.insNew .desc ch de hn
  -- `… = self.trace_element(element, 'down')`
  obtain ⟨p4, ⟨pa, an⟩, e5, hb2, h4, i4⟩ := traceElementSL_spec (ord := ord) hpo hord (downSet_cmpB hpo' .anc)
    (s := { s with p := insNew E.length .desc ch de p2 }) h3 (hext .anc) hSI (hIn p2 .desc ch de i2)
  simp only at h4
  -- `for el_i in range(el_i_new):`
  obtain ⟨cl, dr, hdp, hcp, hloop⟩ := addFill_loop (P := fun d k => s.cls.has d = false ∧ k < E.length) hpo hpo'
    hb1 hb2 (h4.insNew .anc pa an hn)
  obtain ⟨hpres, j5⟩ := hfin _ cl (hIn p4 .anc pa an i4) hdp hcp
  obtain ⟨p6, u, hm8, h6'⟩ := hloop hpres
  have j6 : J p6 := (keeps_forM (keeps_addPatch hSJ E.length) (List.range E.length)).run j5 hm8
  have e8 : ML.lift (M.forM (addPatch E.length) (List.range E.length))
      ({ s with p := insNew E.length .anc pa an p4 } : SL α) = ({ s with p := p6 }, .ok u) := lift_eq hm8
  refine ⟨p6, _, _, ?_, h6', j6⟩
  unfold posetAddFillSL
  exact (bind_ok (lift_modify _ s)).trans <| (bind_ok e2).trans <| (bind_ok (lift_modify _ _)).trans <|
    (bind_ok (lift_modify _ _)).trans <| (bind_ok e5).trans <| (bind_ok (lift_modify _ _)).trans <|
    (bind_ok (lift_modify _ _)).trans e8

/-- the fill block from the cache invariant and `DIC` only (no presence of closed entries is assumed: the traced
    elements get theirs from the trace itself) -/
theorem posetAddFillSL_dic {e : α} (hpo : IdxPO leq E) (hpo' : IdxPO leq (E ++ [e]))
    (hord : ∀ l, (ord l).Perm l) {s : SL α} (h : InvB leq E Ghost.none true s.p)
    (hext : ∀ d, s.cls.has d = true → ∃ t, isExt leq d E t = true ∧ s.cache d = some t)
    (hdic : DIC E.length E.length s.p) :
    ∃ p6 cl dr, posetAddFillSL leq ord e E.length s = ({ s with p := p6 }, .ok ()) ∧
      Weak.PatchInv leq E e cl dr (List.range E.length) p6 ∧ DIC E.length E.length p6 :=
  posetAddFillSL_run hpo hpo' hord h hext (stable_dic _ _)
    (fun _ d ch de hp =>
      dic_insertClosed (dic_setDirect_insert hp d _ ch fun hlt => absurd hlt (Nat.lt_irrefl _)) d _ de)
    hdic (fun _ _ hp hcl _ => ⟨fun d k hk => hp d.flip k (hcl d k hk).1 (Nat.ne_of_lt (hcl d k hk).1)
      (hcl d k hk).2, hp⟩)
    (stable_dic _ _)

/-- on a caching instance, every side the class overrides has the closed relation of every element cached -/
def Complete (s : SL α) : Prop :=
  s.p.useCache = true → ∀ d, s.cls.has d = true → ∀ k, k < s.p.elems.length →
    (alookup k (s.p.closed d)).isSome = true

/-- the `if fill_up_cache:` block of `POSet.add` on a caching semilattice: returns normally, changes only the
    poset part, and ends in the loop invariant of C09's patching loop for the whole range -/
theorem posetAddFillSL_spec {e : α} (hpo : IdxPO leq E) (hpo' : IdxPO leq (E ++ [e]))
    (hord : ∀ l, (ord l).Perm l) {s : SL α} (h : InvB leq E Ghost.none true s.p)
    (hext : ∀ d, s.cls.has d = true → ∃ t, isExt leq d E t = true ∧ s.cache d = some t)
    (hcomp : ∀ d, s.cls.has d = true → ∀ k, k < E.length → (alookup k (s.p.closed d)).isSome = true) :
    ∃ p6 cl dr, posetAddFillSL leq ord e E.length s = ({ s with p := p6 }, .ok ()) ∧
      PatchInv leq E e cl dr (List.range E.length) p6 := by
  -- no write drops a closed entry: those present before the traces (on the sides the class overrides) or after
  -- them (on the others, whose scan leaves them) stay
  have all : ∀ P : Dir → Nat → Prop, Stable fun p : St α => ∀ d k, P d k → HasClosed d k p := fun P =>
    ⟨fun _ q b hp d k hk => present_leqC q b (hp d k hk),
      fun _ d' e' r hp d k hk => present_insertClosed d' e' r (hp d k hk),
      fun _ d' _ _ hp _ d k hk => present_setDirect d' _ (hp d k hk),
      fun _ d' _ hp d k hk => present_setDirect d' _ (hp d k hk)⟩
  obtain ⟨p6, cl, dr, hrun, hP, hJ⟩ := posetAddFillSL_run (ord := ord) hpo hpo' hord h hext
    (I := fun p => ∀ d k, (s.cls.has d = true ∧ k < E.length) → HasClosed d k p)
    (J := fun p => ∀ d k, k < E.length → HasClosed d k p)
    (all _)
    (fun _ d' ch de hp d k hk => present_insertClosed d' _ _ (present_setDirect d' _ (hp d k hk)))
    (fun d k hk => hcomp d hk.1 k hk.2)
    (fun p cl hp hcl hscan =>
      have hall : ∀ d k, k < E.length → HasClosed d k p := fun d k hk => by
        cases hd : s.cls.has d
        · exact hscan d k ⟨hd, hk⟩
        · exact hp d k ⟨hd, hk⟩
      ⟨fun d k hk => hall d.flip k (hcl d k hk).1, hall⟩)
    (all _)
  exact ⟨p6, cl, dr, hrun, .ofWeak hP hJ⟩

end
end Fca.SemiLattice
