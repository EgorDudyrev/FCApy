/-
  `__delitem__` and `remove`: `reconnect_relatives` leaves caches that describe the order with
  index `k` ignored (`ExactBut`), and `decrement_dict` turns those into the `Fresh` values of `E.eraseIdx k`.
-/
import Fca.Lemmas.PosetQuery
namespace Fca.Poset
open Fca.Poset.Fresh

section
variable {α : Type} {leq : α → α → Bool} {ord : List Nat → List Nat} {E : List α}

/-- an exact cache (`Exact`) with the member `k` left out of account, the entry of `j` listing the
    `x ≠ k` with `Q x j`: what `reconnect_relatives(k)` leaves -/
def EntryBut (n k : Nat) (Q : Nat → Nat → Prop) (j : Nat) (v : List Nat) : Prop :=
  j < n ∧ v.Nodup ∧ ∀ x, x ≠ k → (x ∈ v ↔ Q x j)
def ExactBut (n k : Nat) (Q : Nat → Nat → Prop) (ca : Cache) : Prop :=
  ∀ j v, alookup j ca = some v → EntryBut n k Q j v

theorem Exact.toBut {n : Nat} {P : Nat → Nat → Bool} {ca : Cache} (h : Exact n P ca) (k : Nat) :
    ExactBut n k (P · · = true) ca :=
  fun j v hl => have ⟨h1, h2, h3⟩ := h j v hl; ⟨h1, h2, fun x _ => h3 x⟩

/-- invariant of a loop that rewrites or erases one entry of the cache `c0` per iteration -/
def RewriteInv (Good : Nat → List Nat → Prop) (c0 : Cache) (pre : List Nat) (ca : Cache) : Prop :=
  (∀ p, p ∉ pre → alookup p ca = alookup p c0) ∧ (∀ p, p ∈ pre → ∀ v, alookup p ca = some v → Good p v)

theorem RewriteInv.step {Good : Nat → List Nat → Prop} {c0 ca ca' : Cache} {pre : List Nat} {p : Nat}
    (h : RewriteInv Good c0 pre ca) (hother : ∀ q, q ≠ p → alookup q ca' = alookup q ca)
    (hgood : ∀ v, alookup p ca' = some v → Good p v) : RewriteInv Good c0 (pre ++ [p]) ca' := by
  refine ⟨fun q hq => ?_, fun q hq v hv => ?_⟩
  · rw [hother q (fun e => hq (by simp [e]))]
    exact h.1 q (fun hp => hq (List.mem_append_left _ hp))
  · by_cases hqp : q = p
    · subst hqp; exact hgood v hv
    · rw [hother q hqp] at hv
      rcases List.mem_append.mp hq with hq | hq
      · exact h.2 q hq v hv
      · exact absurd (List.mem_singleton.mp hq) hqp

variable [DecidableEq α]

theorem reconnectClosed_spec {n : Nat} {Q : Nat → Nat → Prop} (d : Dir) (k : Nat) (own : Option (List Nat))
    {s : St α} (hC : ExactBut n k Q (s.closed d)) :
    Sat (reconnectClosed ord d k own) s (fun s' _ => ∃ ca, s' = s.setClosed d ca ∧ ExactBut n k Q ca) := by
  unfold reconnectClosed
  apply sat_forM (fun s' => ∃ ca, s' = s.setClosed d ca ∧ ExactBut n k Q ca) _ _ ?_ s
    ⟨s.closed d, by cases d <;> rfl, hC⟩
  rintro a _ s1 ⟨ca, rfl, h1⟩
  apply sat_bind
  apply sat_get
  rw [closed_setClosed]
  cases hl : alookup a ca with
  | none => exact sat_pure ⟨ca, rfl, h1⟩
  | some v =>
    apply sat_modify
    refine ⟨ainsert a (setDiff v [k]) ca, by rw [setClosed_setClosed, closed_setClosed], fun j w hw => ?_⟩
    rw [alookup_ainsert] at hw
    split at hw
    · rename_i e; subst e; cases hw
      obtain ⟨h2, h3, h4⟩ := h1 j v hl
      refine ⟨h2, nodup_setDiff h3, fun x hx => ?_⟩
      rw [mem_setDiff, h4 x hx]
      simp [hx]
    · exact h1 j w hw

variable (hpo : IdxPO leq E)
include hpo

theorem entryBut_of_exact {d : Dir} {k p : Nat} {v : List Nat}
    (h : p < E.length ∧ v.Nodup ∧ ∀ x, x ∈ v ↔ isCover leq d E x p = true) (hk : k ∉ v) :
    EntryBut E.length k (Ord.CoverBut E.length (ltD leq d E) k) p v := by
  have hc := fun {x} (hx : ltD leq d E x p = true) => (hpo.strict d).coverBut_of_not_cover (k := k) (ltD_lt_length hx).1
    fun hc => hk ((h.2.2 k).mpr (isCover_iff_cover.mpr hc))
  refine ⟨h.1, h.2.1, fun x _ => ?_⟩
  rw [h.2.2 x, isCover_iff_cover]
  exact ⟨fun h => (hc h.1).mpr h, fun h => (hc h.1).mp h⟩

variable (hord : ∀ l, (ord l).Perm l)
include hord

theorem reconnectDirect_spec (d : Dir) (k : Nat) (own : Option (List Nat))
    (hown : ∀ ch, own = some ch → ch.Nodup ∧ ∀ x, x ∈ ch ↔ isCover leq d E x k = true)
    {s : St α} (hC : Exact E.length (ltD leq d E) (s.closed d))
    (hD : Exact E.length (isCover leq d E) (s.direct d)) :
    Sat (reconnectDirect ord d k own) s (fun s' _ =>
      ∃ ca, s' = s.setDirect d ca ∧ ExactBut E.length k (Ord.CoverBut E.length (ltD leq d E) k) ca) := by
  unfold reconnectDirect
  apply sat_bind
  apply sat_get
  simp only
  generalize hkeys : ((dedupKeys (s.direct d)).filter fun p =>
    match alookup p (s.direct d) with
    | some chs => decide (k ∈ chs)
    | none => false) = keys
  have hkn : keys.Nodup := by subst hkeys; exact (nodup_dedupKeys _).filter _
  have hkm : ∀ p, p ∈ keys ↔ ∃ v, alookup p (s.direct d) = some v ∧ k ∈ v := by
    intro p
    subst hkeys
    rw [List.mem_filter, mem_dedupKeys]
    cases h : alookup p (s.direct d) <;> simp
  refine sat_mono (sat_forM_split (fun pre s' => ∃ ca, s' = s.setDirect d ca ∧
      RewriteInv (EntryBut E.length k (Ord.CoverBut E.length (ltD leq d E) k)) (s.direct d) pre ca) _ keys ?_ s
    ⟨s.direct d, by cases d <;> rfl, fun _ _ => rfl, fun p hp => by cases hp⟩) ?_
  · rintro pre p post s1 hsplit ⟨ca, rfl, hinv⟩
    have hpp : p ∉ pre := by
      rw [hsplit] at hkn
      exact fun hp => (List.nodup_append.mp hkn).2.2 p hp p List.mem_cons_self rfl
    obtain ⟨cur, hcur, hkcur⟩ := (hkm p).mp (by rw [hsplit]; simp)
    obtain ⟨hpn, hcurn, hcurm⟩ := hD p cur hcur
    have hkp := isCover_iff_cover.mp ((hcurm k).mp hkcur)
    have hErase : ∃ ca', (s.setDirect d ca).setDirect d (aerase p ((s.setDirect d ca).direct d)) = s.setDirect d ca' ∧
        RewriteInv (EntryBut E.length k (Ord.CoverBut E.length (ltD leq d E) k)) (s.direct d) (pre ++ [p]) ca' :=
      ⟨aerase p ca, by rw [setDirect_setDirect, direct_setDirect],
        hinv.step (fun q hq => by rw [alookup_aerase, if_neg hq])
          (fun v hv => by rw [alookup_aerase, if_pos rfl] at hv; cases hv)⟩
    apply sat_bind
    apply sat_get
    simp only [direct_setDirect, closed_setDirect]
    apply sat_bind
    apply sat_lookup (v := cur) (by rw [hinv.1 p hpp]; exact hcur)
    cases own with
    | none => exact sat_modify hErase
    | some ch =>
      simp only
      obtain ⟨hchn, hchm⟩ := hown ch rfl
      generalize hnc : setDiff (setUnion cur ch) [k] = nc
      have hncn : nc.Nodup := by subst hnc; exact nodup_setDiff (nodup_setUnion hcurn hchn)
      have hncm : ∀ c, c ∈ nc ↔ ((c < E.length ∧ Ord.Cover E.length (ltD leq d E) c p) ∨
          (c < E.length ∧ Ord.Cover E.length (ltD leq d E) c k)) ∧ c ≠ k := by
        intro c; subst hnc
        rw [mem_setDiff, mem_setUnion, hcurm c, hchm c, isCover_iff_lower, isCover_iff_lower]; simp
      split
      · rename_i hall
        simp only [List.all_eq_true] at hall
        apply sat_bind
        refine sat_mono (sat_foldM_subtract hpo (d := d) (fun s' => s' = s.setDirect d ca) hncn
          (fun _ => Iff.rfl) hord _ ?_ _ rfl) ?_
        · rintro acc c s3 hcn rfl
          obtain ⟨dc, hdc⟩ := Option.isSome_iff_exists.mp (hall c hcn)
          obtain ⟨_, hdcn, hdcm⟩ := hC c dc hdc
          apply sat_bind
          apply sat_get
          simp only [closed_setDirect]
          apply sat_bind
          apply sat_lookup hdc
          exact sat_pure ⟨rfl, Or.inl ⟨dc, ⟨hdcn, fun x => by rw [hdcm x, mem_closed]⟩, rfl⟩⟩
        · rintro s3 nc' ⟨rfl, hnd, hmem⟩
          apply sat_modify
          refine ⟨ainsert p nc' ca, by rw [setDirect_setDirect, direct_setDirect],
            hinv.step (fun q hq => by rw [alookup_ainsert, if_neg hq]) (fun v hv => ?_)⟩
          rw [alookup_ainsert, if_pos rfl] at hv
          cases hv
          refine ⟨hpn, hnd, fun x hxk => ?_⟩
          have hpatch := (hpo.strict d).coverBut_patch (ltD_lt_length hkp.1).1 hpn hkp (nc := (· ∈ nc)) hncm x
          simp only [Bool.not_eq_true] at hpatch
          rw [hmem x, hpatch]
          exact ⟨fun h => h.2.2, fun h => ⟨(ltD_lt_length h.1).1, hxk, h⟩⟩
      · exact sat_modify hErase
  · rintro s' _ ⟨ca, rfl, hrest, hdone⟩
    refine ⟨ca, rfl, fun j v hl => ?_⟩
    by_cases hj : j ∈ keys
    · exact hdone j hj v hl
    · rw [hrest j hj] at hl
      exact entryBut_of_exact hpo (hD j v hl) (fun hk => hj ((hkm j).mpr ⟨v, hl, hk⟩))

/-- what `reconnect_relatives(k)` establishes -/
structure InvR (leq : α → α → Bool) (E : List α) (k : Nat) (s : St α) : Prop where
  leqOk : LeqE leq E s.leqC
  closedOk : ∀ d, ExactBut E.length k (ltD leq d E · · = true) (s.closed d)
  directOk : ∀ d, ExactBut E.length k (Ord.CoverBut E.length (ltD leq d E) k) (s.direct d)

theorem reconnectRelatives_spec {k : Nat} {s : St α} (E0 : List α) (h : InvB leq E Ghost.none true s) :
    Sat (reconnectRelatives ord k) { s with elems := E0 } (fun s' _ =>
      InvR leq E k s' ∧ s'.elems = E0 ∧ s'.useCache = true) := by
  have hC := fun d => (h.closedE d).aerase k
  have hD := fun d => (h.directE d).aerase k
  have hown : ∀ d ch, alookup k (s.direct d) = some ch →
      ch.Nodup ∧ ∀ x, x ∈ ch ↔ isCover leq d E x k = true :=
    fun d ch hl => (h.directE d k ch hl).2
  unfold reconnectRelatives
  apply sat_bind; apply sat_get
  apply sat_bind; apply sat_modify
  apply sat_bind; apply sat_modify
  apply sat_bind; apply sat_modify
  apply sat_bind; apply sat_modify
  simp only
  apply sat_bind
  refine sat_mono (reconnectDirect_spec hpo hord .desc k _ (hown .desc) ?_ ?_) ?_
  · exact hC .desc
  · exact hD .desc
  rintro s2 _ ⟨c2, rfl, hR2⟩
  apply sat_bind
  refine sat_mono (reconnectDirect_spec hpo hord .anc k _ (hown .anc) ?_ ?_) ?_
  · exact hC .anc
  · exact hD .anc
  rintro s3 _ ⟨c3, rfl, hR3⟩
  apply sat_bind
  refine sat_mono (reconnectClosed_spec .desc k _ ((hC .desc).toBut k)) ?_
  rintro s4 _ ⟨c4, rfl, hR4⟩
  refine sat_mono (reconnectClosed_spec .anc k _ ((hC .anc).toBut k)) ?_
  rintro s5 _ ⟨c5, rfl, hR5⟩
  refine ⟨⟨h.leqOk rfl, fun d => ?_, fun d => ?_⟩, rfl, h.flag⟩
  · cases d
    · exact hR4
    · exact hR5
  · cases d
    · exact hR2
    · exact hR3

end

section
open Fca.ListAux (upIdx upIdx_ne upIdx_lt)
variable {α : Type} {leq : α → α → Bool} {ord : List Nat → List Nat} {E : List α}

theorem decr_up (k i : Nat) : decrIdx (upIdx k i) k = i := by
  unfold decrIdx upIdx
  by_cases h : i < k
  · rw [if_pos h, if_neg (Nat.lt_asymm h)]
  · rw [if_neg h, if_pos (Nat.lt_succ_of_le (Nat.le_of_not_lt h))]; rfl

theorem up_decr {k x : Nat} (h : x ≠ k) : upIdx k (decrIdx x k) = x := by
  unfold decrIdx upIdx
  by_cases hx : x > k
  · rw [if_pos hx, if_neg (Nat.not_lt.mpr (Nat.le_sub_one_of_lt hx)), Nat.sub_add_cancel (Nat.zero_lt_of_lt hx)]
  · rw [if_neg hx, if_pos (Nat.lt_of_le_of_ne (Nat.le_of_not_lt hx) h)]

theorem up_inj {k i j : Nat} (h : upIdx k i = upIdx k j) : i = j := by
  rw [← decr_up k i, h, decr_up]

theorem decr_inj {k a b : Nat} (ha : a ≠ k) (hb : b ≠ k) (h : decrIdx a k = decrIdx b k) : a = b := by
  rw [← up_decr ha, h, up_decr hb]

theorem decr_lt {k x n : Nat} (hx : x < n) (hxk : x ≠ k) (hk : k < n) : decrIdx x k < n - 1 := by
  unfold decrIdx
  by_cases h : x > k
  · rw [if_pos h]; exact Nat.sub_lt_sub_right (Nat.zero_lt_of_lt h) hx
  · rw [if_neg h]
    exact Nat.lt_of_lt_of_le (Nat.lt_of_le_of_ne (Nat.le_of_not_lt h) hxk) (Nat.le_sub_one_of_lt hk)

theorem alookup_decrementCache {c : Cache} {k j' : Nat} {v' : List Nat}
    (h : alookup j' (decrementCache c k) = some v') :
    ∃ j v, j ≠ k ∧ decrIdx j k = j' ∧ alookup j c = some v ∧
      (v.filter (fun i => i ≠ k)).map (fun i => decrIdx i k) = v' :=
  alookup_filterMap_some (· = k) (decrIdx · k) _ (fun _ _ ha hb => decr_inj ha hb) c j' v' h

theorem mem_decrVal {v : List Nat} {k x' : Nat} :
    x' ∈ (v.filter (fun i => i ≠ k)).map (fun i => decrIdx i k) ↔ upIdx k x' ∈ v := by
  simp only [List.mem_map, List.mem_filter, decide_eq_true_eq]
  constructor
  · rintro ⟨x, ⟨hx, hxk⟩, rfl⟩
    rw [up_decr hxk]; exact hx
  · intro h
    exact ⟨upIdx k x', ⟨h, upIdx_ne k x'⟩, decr_up k x'⟩

theorem nodup_decrVal {v : List Nat} (k : Nat) (hv : v.Nodup) :
    ((v.filter (fun i => i ≠ k)).map (fun i => decrIdx i k)).Nodup := by
  refine List.pairwise_map.mpr ((hv.filter _).imp_of_mem fun ha hb hab e => hab ?_)
  simp only [List.mem_filter, decide_eq_true_eq] at ha hb
  exact decr_inj ha.2 hb.2 e

theorem alookup_decrementLeq {c : List ((Nat × Nat) × Bool)} {k a' b' : Nat} {r : Bool}
    (h : alookup (a', b') (decrementLeq c k) = some r) :
    ∃ a b, a ≠ k ∧ b ≠ k ∧ decrIdx a k = a' ∧ decrIdx b k = b' ∧ alookup (a, b) c = some r := by
  obtain ⟨⟨a, b⟩, _, hk, hj, hl, rfl⟩ := alookup_filterMap_some (fun q : Nat × Nat => q.1 = k ∨ q.2 = k)
    (fun q => (decrIdx q.1 k, decrIdx q.2 k)) (fun b : Bool => b)
    (fun _ _ ha hb e => Prod.ext (decr_inj (fun e => ha (Or.inl e)) (fun e => hb (Or.inl e)) (congrArg Prod.fst e))
      (decr_inj (fun e => ha (Or.inr e)) (fun e => hb (Or.inr e)) (congrArg Prod.snd e))) c (a', b') r h
  cases hj
  exact ⟨a, b, fun e => hk (Or.inl e), fun e => hk (Or.inr e), rfl, rfl, hl⟩

/-- `decrement_dict` makes a cache that is right with `k` ignored exact for the relation `P'` that the shift
    by `upIdx k` carries to `Q` -/
theorem ExactBut.decrement {n k : Nat} {Q : Nat → Nat → Prop} {P' : Nat → Nat → Bool} {ca : Cache} (hk : k < n)
    (h : ExactBut n k Q ca) (hQ : ∀ x j, P' x j = true ↔ Q (upIdx k x) (upIdx k j)) :
    Exact (n - 1) P' (decrementCache ca k) := by
  intro j' v' hl
  obtain ⟨j, v, hjk, rfl, hl', rfl⟩ := alookup_decrementCache hl
  obtain ⟨h1, h2, h3⟩ := h j v hl'
  refine ⟨decr_lt h1 hjk hk, nodup_decrVal k h2, fun x' => ?_⟩
  rw [mem_decrVal, h3 (upIdx k x') (upIdx_ne k x'), hQ, up_decr hjk]

theorem rel_eraseIdx (k i j : Nat) : rel leq (E.eraseIdx k) i j = rel leq E (upIdx k i) (upIdx k j) := by
  unfold rel
  rw [ListAux.getElem?_eraseIdx_upIdx, ListAux.getElem?_eraseIdx_upIdx]

theorem ltD_eraseIdx (d : Dir) (k i j : Nat) :
    ltD leq d (E.eraseIdx k) i j = ltD leq d E (upIdx k i) (upIdx k j) := by
  unfold ltD relD
  have : (i != j) = (upIdx k i != upIdx k j) := by
    rw [Bool.eq_iff_iff]
    simp only [bne_iff_ne, ne_eq]
    exact ⟨fun h e => h (up_inj e), fun h e => h (by rw [e])⟩
  cases d <;> simp only [rel_eraseIdx, this]

theorem delE_error {k : Nat} {s : St α} (hk : ¬ k < s.elems.length) :
    delE ord k s = (s, .error .IndexError) := by
  unfold delE
  show M.bind M.get _ s = _
  unfold M.bind M.get
  simp only [if_neg hk]
  rfl

variable [DecidableEq α]

theorem isCover_eraseIdx (d : Dir) {k : Nat} (hk : k < E.length) (x j : Nat) :
    isCover leq d (E.eraseIdx k) x j = true ↔
      Ord.CoverBut E.length (ltD leq d E) k (upIdx k x) (upIdx k j) := by
  rw [isCover_iff_cover, List.length_eraseIdx_of_lt hk,
    show ltD leq d (E.eraseIdx k) = fun a b => ltD leq d E (upIdx k a) (upIdx k b) from
      funext fun a => funext (ltD_eraseIdx d k a)]
  exact Ord.cover_erase (fun a ha => ⟨upIdx_lt hk ha, upIdx_ne k a⟩)
    fun b hb hbk => ⟨decrIdx b k, decr_lt hb hbk hk, up_decr hbk⟩

theorem decrement_inv {k : Nat} (hk : k < E.length) {s : St α} (h : InvR leq E k s)
    (he : s.elems = E.eraseIdx k) (hf : s.useCache = true) :
    InvB leq (E.eraseIdx k) Ghost.none true
      { s with leqC := decrementLeq s.leqC k, descC := decrementCache s.descC k,
               ancC := decrementCache s.ancC k, chilC := decrementCache s.chilC k,
               parC := decrementCache s.parC k } := by
  have hlen : (E.eraseIdx k).length = E.length - 1 := List.length_eraseIdx_of_lt hk
  refine InvB.ofOk he hf (fun _ => ?_) (fun _ d => ?_) (fun _ d => ?_)
  · intro a' b' r hl
    obtain ⟨a, b, hak, hbk, rfl, rfl, hl'⟩ := alookup_decrementLeq hl
    obtain ⟨h1, h2, h3⟩ := h.leqOk a b r hl'
    rw [hlen]
    refine ⟨decr_lt h1 hak hk, decr_lt h2 hbk hk, ?_⟩
    rw [rel_eraseIdx, up_decr hak, up_decr hbk]; exact h3
  · have := (h.closedOk d).decrement hk (P' := ltD leq d (E.eraseIdx k)) fun x j => by rw [ltD_eraseIdx]
    rw [hlen]
    cases d <;> exact this
  · have := (h.directOk d).decrement hk (isCover_eraseIdx d hk)
    rw [hlen]
    cases d <;> exact this

theorem removeE_run (e : α) (s : St α) :
    removeE ord e s = match indexOf? e s.elems with
      | some i => delE ord i s
      | none => (s, .error .KeyError) := by
  unfold removeE
  show M.bind (indexE e) _ s = _
  unfold M.bind
  rw [indexE_run]
  cases indexOf? e s.elems <;> rfl

variable (hpo : IdxPO leq E) (hord : ∀ l, (ord l).Perm l)
include hpo hord

theorem delE_spec {k : Nat} (hk : k < E.length) {c : Bool} {s : St α} (h : InvB leq E Ghost.none c s) :
    Sat (delE ord k) s (fun s' _ => InvB leq (E.eraseIdx k) Ghost.none c s') := by
  unfold delE
  apply sat_bind; apply sat_get
  rw [h.elems, if_pos hk]
  apply sat_bind; apply sat_modify
  by_cases hc : s.useCache = true
  · rw [if_pos hc]
    have hct : c = true := h.flag.symm.trans hc
    subst hct
    apply sat_bind
    rw [h.elems]
    apply sat_mono (reconnectRelatives_spec hpo hord (E.eraseIdx k) h)
    rintro s1 _ ⟨hR, he, hf⟩
    apply sat_modify
    exact decrement_inv hk hR he hf
  · rw [if_neg hc]
    apply sat_pure
    have hcf : c = false := by
      rw [← h.flag]; simpa using hc
    subst hcf
    exact InvB.of_uncached (by rw [h.elems]) h.flag

end
end Fca.Poset
