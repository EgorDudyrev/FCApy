/-
  One step of the machine: invariant preservation and output = Fresh answer, per operation.
-/
import Fca.Lemmas.PosetDel
import Fca.Lemmas.PosetAdd
set_option linter.unusedSectionVars false
namespace Fca.Poset
open Fca.Poset.Fresh

section
variable {α : Type} [DecidableEq α] {leq : α → α → Bool} {ord : List Nat → List Nat}
variable {E : List α} {U : α → Prop}

/-- the elements an operation brings in belong to the universe `U` -/
def OpIn (U : α → Prop) : Op α → Prop
  | .add e _ => U e
  | _ => True

theorem next_nodup (hnd : E.Nodup) (op : Op α) : (next E op).Nodup := by
  cases op <;> simp only [next] <;> try exact hnd
  · split
    · exact hnd
    · exact ListAux.nodup_append_singleton.mpr ⟨‹_›, hnd⟩
  · exact hnd.eraseIdx _
  · split
    · exact hnd.eraseIdx _
    · exact hnd

theorem next_U (hU : ∀ a ∈ E, U a) (op : Op α) (hin : OpIn U op) : ∀ a ∈ next E op, U a := by
  cases op <;> simp only [next] <;> try exact hU
  · split
    · exact hU
    · intro a ha
      rcases List.mem_append.mp ha with h | h
      · exact hU a h
      · exact List.mem_singleton.mp h ▸ hin
  · intro a ha; exact hU a (List.mem_of_mem_eraseIdx ha)
  · split
    · intro a ha; exact hU a (List.mem_of_mem_eraseIdx ha)
    · exact hU

theorem sat_run {β : Type} {m : M α β} {s : St α} {Q : St α → β → Prop} (h : Sat m s Q) :
    ∃ s' b, m.run s = (s', .ok b) ∧ Q s' b := h.elim

/-- `step` runs the program `m` of the operation and shows what it returns by `f`: that is `hr`, which holds by
    `rfl` for every operation.  The conclusion speaks of a pair `r`, not of `(m.run s).1` and `outOf f (m.run s).2`,
    so that a goal about the two components of `step leq ord s op` is matched as it stands and `step` is unfolded
    once, in `hr`. -/
theorem outOf_of_eq {β : Type} {m : M α β} {s : St α} {I : St α → Prop} {f : β → Out} {o : Out}
    {r : St α × Out} {x : St α × Except PyErr β} (hr : r = ((m.run s).1, outOf f (m.run s).2)) (hrun : m s = x)
    (h : I x.1 ∧ outOf f x.2 = o) : I r.1 ∧ r.2 = o := by
  rw [hr, M.run, hrun]
  exact h

theorem outOf_of_sat {β : Type} {m : M α β} {s : St α} {I : St α → Prop} {f : β → Out} {o : Out}
    {r : St α × Out} (hr : r = ((m.run s).1, outOf f (m.run s).2)) (h : Sat m s (fun s' b => I s' ∧ f b = o)) : I r.1 ∧ r.2 = o := by
  obtain ⟨_, _, hrun, h⟩ := h
  exact outOf_of_eq hr hrun h

theorem step_spec_full (hpoU : PO leq U) (hord : ∀ l, (ord l).Perm l) (hnd : E.Nodup) (hU : ∀ a ∈ E, U a)
    {c : Bool} {s : St α} (h : InvB leq E Ghost.none c s) (op : Op α) (hok : opOk E c op = true)
    (hin : OpIn U op) :
    InvB leq (next E op) Ghost.none c (step leq ord s op).1 ∧
      (step leq ord s op).2 = answer leq E op := by
  have hpo : IdxPO leq E := idxPO_of hpoU hnd hU
  cases op with
  | leq i j =>
    simp only [opOk, Bool.and_eq_true, decide_eq_true_eq] at hok
    refine outOf_of_sat rfl (sat_mono (leqE_spec hpo h hok.1 hok.2) fun s' r h1 => ⟨h1.1, ?_⟩)
    simp only [answer, hok, and_self, ↓reduceIte, h1.2]
  | closed d i =>
    simp only [opOk, decide_eq_true_eq] at hok
    refine outOf_of_sat rfl (sat_mono (closedE_spec hpo h d hok) fun s' r h1 => ⟨h1.1, ?_⟩)
    simp only [answer, hok, ↓reduceIte]
    rw [SetEq.sortSet_eq h1.2.1 (List.pairwise_lt_range.filter _)]
  | direct d i =>
    simp only [opOk, decide_eq_true_eq] at hok
    refine outOf_of_sat rfl (sat_mono (directE_spec hpo hord h d hok) fun s' r h1 => ⟨h1.1, ?_⟩)
    simp only [answer, hok, ↓reduceIte]
    rw [SetEq.sortSet_eq h1.2.1 (List.pairwise_lt_range.filter _)]
  | extremes d =>
    exact outOf_of_sat rfl (sat_mono (extremesE_spec hpo h d) fun s' r h1 => ⟨h1.1, congrArg Out.list h1.2⟩)
  | bound d S =>
    have hall : (S.all fun i => decide (i < E.length)) = true := hok
    simp only [opOk, List.all_eq_true, decide_eq_true_eq] at hok
    by_cases hn : E.length = 0
    · have hS : S = [] := by
        cases S with
        | nil => rfl
        | cons y ys => exact absurd (hn ▸ hok y List.mem_cons_self) (Nat.not_lt_zero _)
      subst hS
      have hrun : boundE leq ord d [] s = (s, .error .IndexError) := by
        have : s.elems.length = 0 := by rw [h.elems]; exact hn
        simp [boundE, bind, M.bind, M.get, M.throw, this]
      simp only [answer, if_pos hn]
      exact outOf_of_eq rfl hrun ⟨h, rfl⟩
    · refine outOf_of_sat rfl (sat_mono (boundE_spec hpo hord h d S hn hok) fun s' r h1 => ⟨h1.1, ?_⟩)
      simp only [answer, hn, ↓reduceIte, hall, h1.2]
  | index e =>
    refine outOf_of_eq rfl (indexE_run s e) ⟨h, ?_⟩
    simp only [answer, h.elems]
    cases indexOf? e E <;> rfl
  | add e fill =>
    have hpo' : e ∉ E → IdxPO leq (E ++ [e]) := fun he =>
      idxPO_of hpoU (ListAux.nodup_append_singleton.mpr ⟨he, hnd⟩) fun a ha =>
        (List.mem_append.mp ha).elim (hU a) fun h1 => List.mem_singleton.mp h1 ▸ hin
    exact outOf_of_sat rfl (sat_mono (addE_spec e fill hpo hpo' hord h) fun s' _ h1 => ⟨h1, rfl⟩)
  | del i =>
    by_cases hi : i < E.length
    · refine outOf_of_sat rfl (sat_mono (delE_spec hpo hord hi h) fun s' _ h1 => ⟨h1, ?_⟩)
      simp only [answer, hi, ↓reduceIte]
    · simp only [next, answer, hi, ↓reduceIte]
      rw [List.eraseIdx_of_length_le (Nat.le_of_not_lt hi)]
      exact outOf_of_eq rfl (delE_error (by rw [h.elems]; exact hi)) ⟨h, rfl⟩
  | remove e =>
    have hrun := removeE_run (ord := ord) e s
    rw [h.elems] at hrun
    cases hio : indexOf? e E with
    | none =>
      rw [hio] at hrun
      simp only [next, answer, hio]
      exact outOf_of_eq rfl hrun ⟨h, rfl⟩
    | some i =>
      rw [hio] at hrun
      simp only [next, answer, hio]
      obtain ⟨s', _, hdel, h1⟩ := delE_spec hpo hord (List.getElem?_eq_some_iff.mp (indexOf?_spec hio)).1 h
      exact outOf_of_eq rfl (hrun.trans hdel) ⟨h1, rfl⟩
  | eqOther O =>
    exact outOf_of_sat rfl (sat_mono (eqE_spec hpo O h) fun s' r h1 => ⟨h1.1, congrArg Out.bool h1.2⟩)
  | fillUp k =>
    simp only [opOk] at hok
    subst hok
    exact outOf_of_sat rfl (sat_mono (fillE_spec hpo hord k h) fun s' _ h1 => ⟨h1, rfl⟩)

end
end Fca.Poset
