/-
  The prime operators of a table form a Galois connection: `extAll` and `intAll` are antitone, their composites are
  closures, and a formal concept is a pair that each maps to the other.  On that rests the list-level specification:
  `allConcepts` lists every concept once; transposing the table swaps the two sides, so `allConceptsFast`, which
  enumerates over the smaller side, lists the same concepts.  Last, membership in `Spec.canon`, the ascending
  representative of an index set, where Lemmas/MinGen and the properties C06 and C18 find it.
-/
import Fca.Spec.Concepts
import Fca.Spec.Duality
import Fca.Spec.Miners
import Fca.Lemmas.TableRows
namespace Fca.Spec

variable (t : Table)

theorem mem_ext {B base : List Nat} {g : Nat} :
    g ∈ ext t B base ↔ g ∈ base ∧ ∀ a ∈ B, t.get g a = true := by
  rw [ext, List.mem_filter, List.all_eq_true]

theorem mem_int {A base : List Nat} {a : Nat} :
    a ∈ int t A base ↔ a ∈ base ∧ ∀ g ∈ A, t.get g a = true := by
  rw [int, List.mem_filter, List.all_eq_true]

theorem mem_extAll {B : List Nat} {g : Nat} :
    g ∈ extAll t B ↔ g < t.height ∧ ∀ a ∈ B, t.get g a = true := by
  rw [extAll, mem_ext, List.mem_range]

theorem mem_intAll {A : List Nat} {a : Nat} :
    a ∈ intAll t A ↔ a < t.width ∧ ∀ g ∈ A, t.get g a = true := by
  rw [intAll, mem_int, List.mem_range]

theorem extAll_nil : extAll t [] = List.range t.height :=
  List.filter_eq_self.mpr fun _ _ => rfl

theorem extAll_eq_of_mem_iff {B B' : List Nat}
    (h : ∀ g, g < t.height → ((∀ a ∈ B, t.get g a = true) ↔ (∀ a ∈ B', t.get g a = true))) :
    extAll t B = extAll t B' := by
  unfold extAll ext
  refine List.filter_congr fun g hg => Bool.eq_iff_iff.mpr ?_
  simp only [List.all_eq_true]
  exact h g (List.mem_range.mp hg)

theorem intAll_eq_of_mem_iff {A A' : List Nat}
    (h : ∀ a, a < t.width → ((∀ g ∈ A, t.get g a = true) ↔ (∀ g ∈ A', t.get g a = true))) :
    intAll t A = intAll t A' := by
  unfold intAll int
  refine List.filter_congr fun a ha => Bool.eq_iff_iff.mpr ?_
  simp only [List.all_eq_true]
  exact h a (List.mem_range.mp ha)

theorem intAll_congr {A A' : List Nat} (h : ∀ g, g ∈ A ↔ g ∈ A') : intAll t A = intAll t A' :=
  intAll_eq_of_mem_iff t fun _ _ => ⟨fun H g hg => H g ((h g).mpr hg), fun H g hg => H g ((h g).mp hg)⟩

theorem extAll_antitone {B B' : List Nat} (h : ∀ a ∈ B, a ∈ B') : ∀ g ∈ extAll t B', g ∈ extAll t B := by
  intro g hg
  rw [mem_extAll] at *
  exact ⟨hg.1, fun a ha => hg.2 a (h a ha)⟩

theorem intAll_antitone {A A' : List Nat} (h : ∀ g ∈ A, g ∈ A') : ∀ a ∈ intAll t A', a ∈ intAll t A := by
  intro a ha
  rw [mem_intAll] at *
  exact ⟨ha.1, fun g hg => ha.2 g (h g hg)⟩

theorem subset_closure {A : List Nat} (hA : ∀ g ∈ A, g < t.height) : ∀ g ∈ A, g ∈ closure t A := by
  intro g hg
  unfold closure
  rw [mem_extAll]
  refine ⟨hA g hg, ?_⟩
  intro a ha
  exact ((mem_intAll t).mp ha).2 g hg

theorem subset_closureAttr {B : List Nat} (hB : ∀ a ∈ B, a < t.width) : ∀ a ∈ B, a ∈ closureAttr t B := by
  intro a ha
  unfold closureAttr
  rw [mem_intAll]
  refine ⟨hB a ha, ?_⟩
  intro g hg
  exact ((mem_extAll t).mp hg).2 a ha

theorem extAll_closureAttr {B : List Nat} (hB : ∀ a ∈ B, a < t.width) :
    extAll t (closureAttr t B) = extAll t B := by
  apply extAll_eq_of_mem_iff
  intro g hg
  constructor
  · intro H a ha
    apply H a
    exact subset_closureAttr t hB a ha
  · intro H a ha
    exact ((mem_intAll t).mp ha).2 g ((mem_extAll t).mpr ⟨hg, H⟩)

theorem intAll_closure {A : List Nat} (hA : ∀ g ∈ A, g < t.height) :
    intAll t (closure t A) = intAll t A := by
  apply intAll_eq_of_mem_iff
  intro a ha
  constructor
  · intro H g hg
    apply H g
    exact subset_closure t hA g hg
  · intro H g hg
    exact ((mem_extAll t).mp hg).2 a ((mem_intAll t).mpr ⟨ha, H⟩)

theorem intAll_extAll_range : intAll t (extAll t (List.range t.width)) = List.range t.width :=
  List.filter_eq_self.mpr fun a ha => List.all_eq_true.mpr fun _ hg => ((mem_extAll t).mp hg).2 a ha

theorem extAll_lt {B : List Nat} : ∀ g ∈ extAll t B, g < t.height :=
  fun _ hg => ((mem_extAll t).mp hg).1

theorem intAll_lt {A : List Nat} : ∀ a ∈ intAll t A, a < t.width :=
  fun _ ha => ((mem_intAll t).mp ha).1

theorem closure_idem {A : List Nat} (hA : ∀ g ∈ A, g < t.height) :
    closure t (closure t A) = closure t A :=
  congrArg (extAll t) (intAll_closure t hA)

theorem closure_mono {A A' : List Nat} (h : ∀ g ∈ A, g ∈ A') : ∀ g ∈ closure t A, g ∈ closure t A' :=
  extAll_antitone t (intAll_antitone t h)

theorem extAll_nodup (B : List Nat) : (extAll t B).Nodup := by
  unfold extAll ext
  exact List.Nodup.sublist List.filter_sublist List.nodup_range

theorem intAll_nodup (A : List Nat) : (intAll t A).Nodup := by
  unfold intAll int
  exact List.Nodup.sublist List.filter_sublist List.nodup_range

theorem extAll_sorted (B : List Nat) : (extAll t B).Pairwise (· < ·) := by
  unfold extAll ext
  exact List.Pairwise.filter _ List.pairwise_lt_range

theorem intAll_sorted (A : List Nat) : (intAll t A).Pairwise (· < ·) := by
  unfold intAll int
  exact List.Pairwise.filter _ List.pairwise_lt_range

theorem isConcept_iff {A B : List Nat} :
    isConcept t A B = true ↔ extAll t B = A ∧ intAll t A = B := by
  simp [isConcept]

theorem closure_eq_of_isConcept {A B : List Nat} (h : isConcept t A B = true) : closure t A = A := by
  rw [isConcept_iff] at h
  rw [closure, h.2, h.1]

theorem isConcept_of_attrs {B : List Nat} (hB : ∀ a ∈ B, a < t.width) :
    isConcept t (extAll t B) (closureAttr t B) = true := by
  rw [isConcept_iff]
  exact ⟨extAll_closureAttr t hB, rfl⟩

theorem isConcept_of_objs {A : List Nat} (hA : ∀ g ∈ A, g < t.height) :
    isConcept t (closure t A) (intAll t A) = true := by
  rw [isConcept_iff]
  exact ⟨rfl, intAll_closure t hA⟩

theorem concept_order {A₁ B₁ A₂ B₂ : List Nat}
    (h₁ : isConcept t A₁ B₁ = true) (h₂ : isConcept t A₂ B₂ = true) :
    (∀ g ∈ A₁, g ∈ A₂) ↔ (∀ a ∈ B₂, a ∈ B₁) := by
  rw [isConcept_iff] at h₁ h₂
  obtain ⟨e₁, i₁⟩ := h₁
  obtain ⟨e₂, i₂⟩ := h₂
  constructor
  · intro h
    rw [← i₁, ← i₂]
    exact intAll_antitone t h
  · intro h
    rw [← e₁, ← e₂]
    exact extAll_antitone t h

section
variable {t}

section
variable {A B : List Nat} (h : isConcept t A B = true)
include h

theorem isConcept_extent_lt : ∀ g ∈ A, g < t.height := ((isConcept_iff t).mp h).1 ▸ extAll_lt t

theorem isConcept_intent_lt : ∀ a ∈ B, a < t.width := ((isConcept_iff t).mp h).2 ▸ intAll_lt t

theorem isConcept_extent_sorted : A.Pairwise (· < ·) := ((isConcept_iff t).mp h).1 ▸ extAll_sorted t B

theorem isConcept_intent_sorted : B.Pairwise (· < ·) := ((isConcept_iff t).mp h).2 ▸ intAll_sorted t A

theorem isConcept_extent_nodup : A.Nodup := ((isConcept_iff t).mp h).1 ▸ extAll_nodup t B

theorem closure_subset_of_isConcept {S : List Nat} (hS : ∀ g ∈ S, g ∈ A) : ∀ g ∈ closure t S, g ∈ A :=
  closure_eq_of_isConcept t h ▸ closure_mono t hS

end

theorem isConcept_eq_of_mem_iff {c d : List Nat × List Nat} (hc : isConcept t c.1 c.2 = true)
    (hd : isConcept t d.1 d.2 = true) (he : ∀ g, g ∈ c.1 ↔ g ∈ d.1) : c = d :=
  have h1 : c.1 = d.1 := ListAux.sorted_ext (isConcept_extent_sorted hc) (isConcept_extent_sorted hd) he
  Prod.ext h1 (by rw [← ((isConcept_iff t).mp hc).2, ← ((isConcept_iff t).mp hd).2, h1])

theorem isConcept_eq_of_extent_eq {c d : List Nat × List Nat} (hc : isConcept t c.1 c.2 = true)
    (hd : isConcept t d.1 d.2 = true) (he : c.1 = d.1) : c = d :=
  isConcept_eq_of_mem_iff hc hd fun _ => he ▸ Iff.rfl

end

theorem mem_sublists_iff {l s : List Nat} : s ∈ sublists l ↔ s.Sublist l := by
  induction l generalizing s with
  | nil => simp [sublists]
  | cons x xs ih =>
    simp only [sublists, List.mem_append, List.mem_map]
    constructor
    · rintro (h | ⟨s', hs', rfl⟩)
      · exact (ih.mp h).cons x
      · exact (ih.mp hs').cons_cons x
    · intro h
      cases h with
      | cons _ h => exact Or.inl (ih.mpr h)
      | cons_cons _ h => exact Or.inr ⟨_, ih.mpr h, rfl⟩

theorem filter_mem_sublists (l : List Nat) (p : Nat → Bool) : l.filter p ∈ sublists l :=
  mem_sublists_iff.mpr List.filter_sublist

theorem mem_of_mem_sublists {l s : List Nat} (h : s ∈ sublists l) : ∀ x ∈ s, x ∈ l :=
  fun _ hx => (mem_sublists_iff.mp h).subset hx

theorem length_sublists (l : List Nat) : (sublists l).length = 2 ^ l.length := by
  induction l with
  | nil => rfl
  | cons x xs ih =>
    rw [sublists, List.length_append, List.length_map, ih, List.length_cons, Nat.pow_succ, Nat.mul_two]

theorem mem_allConcepts {A B : List Nat} :
    (A, B) ∈ allConcepts t ↔ isConcept t A B = true := by
  unfold allConcepts
  rw [List.mem_eraseDups, List.mem_map]
  constructor
  · rintro ⟨B₀, hB₀, heq⟩
    cases heq
    exact isConcept_of_attrs t fun a ha => List.mem_range.mp (mem_of_mem_sublists hB₀ a ha)
  · intro h
    rw [isConcept_iff] at h
    refine ⟨B, ?_, by rw [closureAttr, h.1, h.2]⟩
    rw [← h.2]
    exact filter_mem_sublists _ _

theorem allConcepts_nodup : (allConcepts t).Nodup :=
  ListAux.nodup_eraseDups _

theorem transpose_height : (transpose t).height = t.width := by
  simp [transpose, Table.height]

theorem transpose_width : (transpose t).width = t.height := rfl

theorem transpose_wf : (transpose t).WF := by
  intro r hr
  simp only [transpose, List.mem_map, List.mem_range] at hr
  obtain ⟨a, _, rfl⟩ := hr
  simp [transpose]

theorem transpose_get_of_lt_width {a : Nat} (ha : a < t.width) (g : Nat) :
    (transpose t).get a g = t.get g a := by
  rw [Table.get, Table.row, transpose, ListAux.getD_map_range _ _ _ _ ha]
  by_cases hg : g < t.height
  · exact ListAux.getD_map_range _ _ _ _ hg
  · rw [ListAux.getD_of_ge _ _ _ (by rw [List.length_map, List.length_range]; exact Nat.le_of_not_lt hg),
      t.get_of_height_le (Nat.le_of_not_lt hg)]

theorem transpose_get_of_lt_height (h : t.WF) {g : Nat} (hg : g < t.height) (a : Nat) :
    (transpose t).get a g = t.get g a := by
  by_cases ha : a < t.width
  · exact transpose_get_of_lt_width t ha g
  · have hle : (transpose t).height ≤ a := transpose_height t ▸ Nat.le_of_not_lt ha
    rw [t.row_getD_of_ge h hg (Nat.le_of_not_lt ha), Table.get, Table.row, ListAux.getD_of_ge _ a [] hle]
    rfl

theorem ext_transpose (A base : List Nat) (hb : ∀ a ∈ base, a < t.width) : ext (transpose t) A base = int t A base :=
  List.filter_congr fun a ha => List.all_congr rfl fun g => transpose_get_of_lt_width t (hb a ha) g

theorem int_transpose (h : t.WF) (B base : List Nat) (hb : ∀ g ∈ base, g < t.height) :
    int (transpose t) B base = ext t B base :=
  List.filter_congr fun g hg => List.all_congr rfl fun a => transpose_get_of_lt_height t h (hb g hg) a

theorem extAll_transpose (A : List Nat) : extAll (transpose t) A = intAll t A := by
  rw [extAll, transpose_height]
  exact ext_transpose t A _ fun _ => List.mem_range.mp

theorem intAll_transpose (h : t.WF) (B : List Nat) : intAll (transpose t) B = extAll t B :=
  int_transpose t h B _ fun _ => List.mem_range.mp

theorem isConcept_transpose (h : t.WF) (A B : List Nat) :
    isConcept (transpose t) B A = isConcept t A B := by
  unfold isConcept
  rw [extAll_transpose, intAll_transpose t h, Bool.and_comm]

theorem exact_swap (h : t.WF) {ks : List (List Nat × List Nat)} (hnd : ks.Nodup)
    (hmem : ∀ A B, (A, B) ∈ ks ↔ isConcept (transpose t) A B = true) :
    (ks.map Prod.swap).Nodup ∧ ∀ A B, (A, B) ∈ ks.map Prod.swap ↔ isConcept t A B = true := by
  refine ⟨ListAux.nodup_map_of_injOn hnd fun a _ b _ he => Prod.swap_inj.mp he, fun A B => ?_⟩
  rw [← isConcept_transpose t h, ← hmem B A, List.mem_map]
  exact ⟨fun ⟨(b, a), hp, he⟩ => by cases he; exact hp, fun hp => ⟨(B, A), hp, rfl⟩⟩

theorem allConcepts_transpose_perm (h : t.WF) :
    ((allConcepts (transpose t)).map fun p => (p.2, p.1)).Perm (allConcepts t) :=
  have hs := exact_swap t h (allConcepts_nodup _) fun _ _ => mem_allConcepts _
  (List.perm_ext_iff_of_nodup hs.1 (allConcepts_nodup t)).mpr fun c => (hs.2 c.1 c.2).trans (mem_allConcepts t).symm

theorem allConceptsFast_perm (h : t.WF) : (allConceptsFast t).Perm (allConcepts t) := by
  unfold allConceptsFast
  split
  · exact .refl _
  · exact allConcepts_transpose_perm t h

theorem mem_allConceptsFast (h : t.WF) {A B : List Nat} :
    (A, B) ∈ allConceptsFast t ↔ isConcept t A B = true :=
  (allConceptsFast_perm t h).mem_iff.trans (mem_allConcepts t)

end Fca.Spec

namespace Fca.Dual
open Fca.Spec

theorem mem_canon {n : Nat} {xs : List Nat} {x : Nat} : x ∈ canon n xs ↔ x < n ∧ x ∈ xs := by
  rw [canon, List.mem_filter, List.mem_range, List.contains_iff_mem]

theorem mem_canon_of_lt {n : Nat} {xs : List Nat} (h : ∀ x ∈ xs, x < n) (x : Nat) : x ∈ canon n xs ↔ x ∈ xs :=
  mem_canon.trans (and_iff_right_of_imp (h x))

end Fca.Dual
