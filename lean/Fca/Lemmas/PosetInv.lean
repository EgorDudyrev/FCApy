/-
  The cache invariant `InvB` of the poset state, read one cache at a time (`EntryOK`, for the
  comparison cache as for the relation caches), and how it survives the writes the operations make: a good entry at
  a valid key, any entry at a key outside the valid range (recorded by the ghost), new promises of the ghost.
  Without ghost content it says that the caches are exact (`LeqE`, `Exact`).
-/
import Fca.Lemmas.PosetFresh
set_option linter.unusedSectionVars false
namespace Fca.Poset
open Fca.Poset.Fresh

section
variable {α : Type} [DecidableEq α] (leq : α → α → Bool)

/-- Ghost description of what the caches hold *outside* the valid index range of `E`, and of entries that are
    known to be present.  Outside `add` it is `Ghost.none` (nothing out of range, nothing promised); inside
    `add(e, fill_up_cache=True)` the entries of the element being added sit at key `E.length`. -/
structure Ghost where
  leqX : Nat × Nat → Option Bool
  closedX : Dir → Nat → Option (List Nat)
  directX : Dir → Nat → Option (List Nat)
  closedP : Dir → Nat → Prop
  directP : Dir → Nat → Prop

def Ghost.none : Ghost :=
  ⟨fun _ => Option.none, fun _ _ => Option.none, fun _ _ => Option.none, fun _ _ => False, fun _ _ => False⟩

/-- The cache invariant relative to an element list `E`: the state's elements are `E`, its cache flag is `c`,
    and - when the cache is on (`c = true`; an uncached instance never looks at them) - every entry whose key
    is a valid index of `E` holds the `Fresh` value, the lookups at all other keys are exactly those described by
    the ghost `G` (frame), and the entries `G` promises are present. -/
structure InvB (E : List α) (G : Ghost) (c : Bool) (s : St α) : Prop where
  elems : s.elems = E
  flag : s.useCache = c
  leqIn : c = true → ∀ a b r, a < E.length → b < E.length → alookup (a, b) s.leqC = some r → r = rel leq E a b
  leqOut : c = true → ∀ a b, ¬(a < E.length ∧ b < E.length) → alookup (a, b) s.leqC = G.leqX (a, b)
  closedIn : c = true → ∀ d k v, k < E.length → alookup k (s.closed d) = some v →
    v.Nodup ∧ ∀ x, x ∈ v ↔ ltD leq d E x k = true
  closedOut : c = true → ∀ d k, ¬ k < E.length → alookup k (s.closed d) = G.closedX d k
  directIn : c = true → ∀ d k v, k < E.length → alookup k (s.direct d) = some v →
    v.Nodup ∧ ∀ x, x ∈ v ↔ isCover leq d E x k = true
  directOut : c = true → ∀ d k, ¬ k < E.length → alookup k (s.direct d) = G.directX d k
  closedPres : c = true → ∀ d k, G.closedP d k → (alookup k (s.closed d)).isSome = true
  directPres : c = true → ∀ d k, G.directP d k → (alookup k (s.direct d)).isSome = true

variable {leq}
variable {E : List α} {G : Ghost} {c : Bool}

@[simp] theorem closed_setClosed (s : St α) (d : Dir) (v : Cache) : (s.setClosed d v).closed d = v := by
  cases d <;> rfl
@[simp] theorem closed_setClosed_flip (s : St α) (d : Dir) (v : Cache) :
    (s.setClosed d v).closed d.flip = s.closed d.flip := by
  cases d <;> rfl
@[simp] theorem closed_setClosed_flip' (s : St α) (d : Dir) (v : Cache) :
    (s.setClosed d.flip v).closed d = s.closed d := by
  cases d <;> rfl
@[simp] theorem direct_setClosed (s : St α) (d d' : Dir) (v : Cache) : (s.setClosed d v).direct d' = s.direct d' := by
  cases d <;> cases d' <;> rfl
@[simp] theorem direct_setDirect (s : St α) (d : Dir) (v : Cache) : (s.setDirect d v).direct d = v := by
  cases d <;> rfl
@[simp] theorem direct_setDirect_flip (s : St α) (d : Dir) (v : Cache) :
    (s.setDirect d v).direct d.flip = s.direct d.flip := by
  cases d <;> rfl
@[simp] theorem direct_setDirect_flip' (s : St α) (d : Dir) (v : Cache) :
    (s.setDirect d.flip v).direct d = s.direct d := by
  cases d <;> rfl
@[simp] theorem closed_setDirect (s : St α) (d d' : Dir) (v : Cache) : (s.setDirect d v).closed d' = s.closed d' := by
  cases d <;> cases d' <;> rfl
@[simp] theorem elems_setClosed (s : St α) (d : Dir) (v : Cache) : (s.setClosed d v).elems = s.elems := by
  cases d <;> rfl
@[simp] theorem elems_setDirect (s : St α) (d : Dir) (v : Cache) : (s.setDirect d v).elems = s.elems := by
  cases d <;> rfl
@[simp] theorem flag_setClosed (s : St α) (d : Dir) (v : Cache) : (s.setClosed d v).useCache = s.useCache := by
  cases d <;> rfl
@[simp] theorem flag_setDirect (s : St α) (d : Dir) (v : Cache) : (s.setDirect d v).useCache = s.useCache := by
  cases d <;> rfl
@[simp] theorem leqC_setClosed (s : St α) (d : Dir) (v : Cache) : (s.setClosed d v).leqC = s.leqC := by
  cases d <;> rfl
@[simp] theorem leqC_setDirect (s : St α) (d : Dir) (v : Cache) : (s.setDirect d v).leqC = s.leqC := by
  cases d <;> rfl
@[simp] theorem closed_withLeq (s : St α) (l : List ((Nat × Nat) × Bool)) (d : Dir) :
    St.closed { s with leqC := l } d = s.closed d := by cases d <;> rfl
@[simp] theorem direct_withLeq (s : St α) (l : List ((Nat × Nat) × Bool)) (d : Dir) :
    St.direct { s with leqC := l } d = s.direct d := by cases d <;> rfl
@[simp] theorem setDirect_setDirect (s : St α) (d : Dir) (v w : Cache) :
    (s.setDirect d v).setDirect d w = s.setDirect d w := by
  cases d <;> rfl
@[simp] theorem setClosed_setClosed (s : St α) (d : Dir) (v w : Cache) :
    (s.setClosed d v).setClosed d w = s.setClosed d w := by
  cases d <;> rfl

theorem closed_setClosed_any (s : St α) (d d' : Dir) (v : Cache) :
    (s.setClosed d v).closed d' = if d' = d then v else s.closed d' := by
  cases d <;> cases d' <;> rfl

theorem direct_setDirect_any (s : St α) (d d' : Dir) (v : Cache) :
    (s.setDirect d v).direct d' = if d' = d then v else s.direct d' := by
  cases d <;> cases d' <;> rfl

/-- what `InvB` says of one cache `c` -/
structure EntryOK {κ β : Type} [DecidableEq κ] (valid : κ → Prop) (good : κ → β → Prop) (X : κ → Option β)
    (Pr : κ → Prop) (c : List (κ × β)) : Prop where
  exact : ∀ k v, valid k → alookup k c = some v → good k v
  frame : ∀ k, ¬ valid k → alookup k c = X k
  pres : ∀ k, Pr k → (alookup k c).isSome = true

section entry
variable {κ β : Type} [DecidableEq κ] {valid : κ → Prop} {good : κ → β → Prop} {X X' : κ → Option β}
  {Pr : κ → Prop} {ca : List (κ × β)}

theorem EntryOK.ainsert_in (h : EntryOK valid good X Pr ca) {k : κ} {v : β} (hk : valid k) (hv : good k v) :
    EntryOK valid good X Pr (ainsert k v ca) := by
  refine ⟨fun k' v' hk' hl => ?_, fun k' hk' => ?_, fun k' hp => ?_⟩
  · rw [alookup_ainsert] at hl
    split at hl
    · rename_i e; subst e; cases hl; exact hv
    · exact h.exact k' v' hk' hl
  · rw [alookup_ainsert, if_neg (by rintro rfl; exact hk' hk)]
    exact h.frame k' hk'
  · rw [alookup_ainsert]
    split
    · rfl
    · exact h.pres k' hp

theorem EntryOK.ainsert_out (h : EntryOK valid good X Pr ca) {k : κ} (hk : ¬ valid k) (v : β)
    (hX : ∀ k', X' k' = if k' = k then some v else X k') : EntryOK valid good X' Pr (ainsert k v ca) := by
  refine ⟨fun k' v' hk' hl => ?_, fun k' hk' => ?_, fun k' hp => ?_⟩
  · rw [alookup_ainsert, if_neg (by rintro rfl; exact hk hk')] at hl
    exact h.exact k' v' hk' hl
  · rw [alookup_ainsert, hX]
    split
    · rfl
    · exact h.frame k' hk'
  · rw [alookup_ainsert]
    split
    · rfl
    · exact h.pres k' hp

/-- without ghost content every key is valid -/
theorem EntryOK.all_exact (h : EntryOK valid good (fun _ => none) Pr ca) (k : κ) (v : β)
    (hl : alookup k ca = some v) : valid k ∧ good k v :=
  Classical.byCases (fun hk : valid k => ⟨hk, h.exact k v hk hl⟩) fun hk => nomatch (h.frame k hk).symm.trans hl

theorem EntryOK.of_all_exact (h : ∀ k v, alookup k ca = some v → valid k ∧ good k v) :
    EntryOK valid good (fun _ => none) (fun _ => False) ca :=
  ⟨fun k v _ hl => (h k v hl).2, fun k hk => Option.eq_none_iff_forall_ne_some.mpr fun v hl => hk (h k v hl).1,
    fun _ hp => hp.elim⟩

end entry

/-- a pair of caches indexed by the direction, one side replaced -/
theorem EntryOK.side {valid : Nat → Prop} {good : Dir → Nat → List Nat → Prop}
    {X X' : Dir → Nat → Option (List Nat)} {Pr : Dir → Nat → Prop} {sel : Dir → Cache} {d : Dir} {ca : Cache}
    (h : ∀ d', EntryOK valid (good d') (X d') (Pr d') (sel d')) (hd : EntryOK valid (good d) (X' d) (Pr d) ca)
    (hX : ∀ d', d' ≠ d → X' d' = X d') (d' : Dir) :
    EntryOK valid (good d') (X' d') (Pr d') (if d' = d then ca else sel d') := by
  split
  · rename_i e; exact e ▸ hd
  · rename_i e; exact hX d' e ▸ h d'

def Lists (P : Nat → Nat → Bool) (k : Nat) (v : List Nat) : Prop := v.Nodup ∧ ∀ x, x ∈ v ↔ P x k = true

/-- the cache `ca` is exact for the relation `P` on `n` indexes: `EntryOK (· < n) (Lists P)` without ghost
    (`EntryOK.all_exact`, `EntryOK.of_all_exact`) -/
def Exact (n : Nat) (P : Nat → Nat → Bool) (ca : Cache) : Prop :=
  ∀ k v, alookup k ca = some v → k < n ∧ v.Nodup ∧ ∀ x, x ∈ v ↔ P x k = true

theorem Exact.aerase {n : Nat} {P : Nat → Nat → Bool} {ca : Cache} (h : Exact n P ca) (k : Nat) :
    Exact n P (aerase k ca) :=
  fun j v hl => h j v (alookup_of_aerase hl)

theorem InvB.leqEntry {s : St α} (h : InvB leq E G c s) (hct : c = true) :
    EntryOK (fun p => p.1 < E.length ∧ p.2 < E.length) (fun p r => r = rel leq E p.1 p.2) G.leqX (fun _ => False)
      s.leqC :=
  ⟨fun p r hp => h.leqIn hct p.1 p.2 r hp.1 hp.2, fun p => h.leqOut hct p.1 p.2, fun _ hp => hp.elim⟩

theorem InvB.closedEntry {s : St α} (h : InvB leq E G c s) (hct : c = true) (d : Dir) :
    EntryOK (· < E.length) (Lists (ltD leq d E)) (G.closedX d) (G.closedP d) (s.closed d) :=
  ⟨h.closedIn hct d, h.closedOut hct d, h.closedPres hct d⟩

theorem InvB.directEntry {s : St α} (h : InvB leq E G c s) (hct : c = true) (d : Dir) :
    EntryOK (· < E.length) (Lists (isCover leq d E)) (G.directX d) (G.directP d) (s.direct d) :=
  ⟨h.directIn hct d, h.directOut hct d, h.directPres hct d⟩

theorem InvB.of_entries {s : St α} (he : s.elems = E) (hf : s.useCache = c)
    (hl : c = true → EntryOK (fun p => p.1 < E.length ∧ p.2 < E.length) (fun p r => r = rel leq E p.1 p.2) G.leqX
      (fun _ => False) s.leqC)
    (hc : c = true → ∀ d, EntryOK (· < E.length) (Lists (ltD leq d E)) (G.closedX d) (G.closedP d) (s.closed d))
    (hd : c = true → ∀ d, EntryOK (· < E.length) (Lists (isCover leq d E)) (G.directX d) (G.directP d) (s.direct d)) :
    InvB leq E G c s :=
  ⟨he, hf, fun hct a b r ha hb => (hl hct).exact (a, b) r ⟨ha, hb⟩, fun hct a b => (hl hct).frame (a, b),
    fun hct d => (hc hct d).exact, fun hct d => (hc hct d).frame,
    fun hct d => (hd hct d).exact, fun hct d => (hd hct d).frame,
    fun hct d => (hc hct d).pres, fun hct d => (hd hct d).pres⟩

theorem InvB.insertLeq {s : St α} (h : InvB leq E G c s) {a b : Nat} {r : Bool}
    (ha : a < E.length) (hb : b < E.length) (hr : r = rel leq E a b) :
    InvB leq E G c { s with leqC := ainsert (a, b) r s.leqC } :=
  .of_entries h.elems h.flag (fun hct => (h.leqEntry hct).ainsert_in (k := (a, b)) ⟨ha, hb⟩ hr) h.closedEntry
    h.directEntry

theorem InvB.insertClosed {s : St α} (h : InvB leq E G c s) {d : Dir} {k : Nat} {v : List Nat}
    (hk : k < E.length) (hv : v.Nodup) (hx : ∀ x, x ∈ v ↔ ltD leq d E x k = true) :
    InvB leq E G c (s.setClosed d (ainsert k v (s.closed d))) := by
  refine .of_entries ((elems_setClosed ..).trans h.elems) ((flag_setClosed ..).trans h.flag)
    (fun hct => leqC_setClosed s d _ ▸ h.leqEntry hct) (fun hct d' => ?_)
    (fun hct d' => direct_setClosed s d d' _ ▸ h.directEntry hct d')
  rw [closed_setClosed_any]
  exact EntryOK.side (h.closedEntry hct) ((h.closedEntry hct d).ainsert_in hk ⟨hv, hx⟩) (fun _ _ => rfl) d'

theorem InvB.insertDirect {s : St α} (h : InvB leq E G c s) {d : Dir} {k : Nat} {v : List Nat}
    (hk : k < E.length) (hv : v.Nodup) (hx : ∀ x, x ∈ v ↔ isCover leq d E x k = true) :
    InvB leq E G c (s.setDirect d (ainsert k v (s.direct d))) := by
  refine .of_entries ((elems_setDirect ..).trans h.elems) ((flag_setDirect ..).trans h.flag)
    (fun hct => leqC_setDirect s d _ ▸ h.leqEntry hct)
    (fun hct d' => closed_setDirect s d d' _ ▸ h.closedEntry hct d') (fun hct d' => ?_)
  rw [direct_setDirect_any]
  exact EntryOK.side (h.directEntry hct) ((h.directEntry hct d).ainsert_in hk ⟨hv, hx⟩) (fun _ _ => rfl) d'

/-- the ghost after a write at a key outside the valid range (`add` puts the entries of the new element at key
    `E.length` before the element is appended) -/
def Ghost.setLeqX (G : Ghost) (p : Nat × Nat) (r : Bool) : Ghost :=
  { G with leqX := fun q => if q = p then some r else G.leqX q }
/-- `add` writes the direct entry `ch` and the closed entry `de` of the new element, both at key `k` -/
def Ghost.setNew (G : Ghost) (d : Dir) (k : Nat) (ch de : List Nat) : Ghost :=
  { G with
    closedX := fun d' k' => if d' = d ∧ k' = k then some de else G.closedX d' k'
    directX := fun d' k' => if d' = d ∧ k' = k then some ch else G.directX d' k' }

/-- what `closedX` (`directX`) is, up to unfolding, after `add` has written `v` at key `n` on the `.desc` side and
    then `w` on the `.anc` side -/
theorem newEntry_eq (v w : List Nat) (d : Dir) (k n : Nat) :
    (if d = Dir.anc ∧ k = n then some w else if d = Dir.desc ∧ k = n then some v else none) =
      if k = n then some (Dir.casesOn (motive := fun _ => List Nat) d v w) else none := by
  cases d <;> simp

theorem InvB.insertLeqOut {s : St α} (h : InvB leq E G c s) {a b : Nat} (r : Bool)
    (hab : ¬(a < E.length ∧ b < E.length)) :
    InvB leq E (G.setLeqX (a, b) r) c { s with leqC := ainsert (a, b) r s.leqC } :=
  .of_entries h.elems h.flag (fun hct => (h.leqEntry hct).ainsert_out (k := (a, b)) hab r fun _ => rfl)
    h.closedEntry h.directEntry

theorem InvB.insNew {s : St α} (h : InvB leq E G c s) (d : Dir) {k : Nat} (ch de : List Nat) (hk : ¬ k < E.length) :
    InvB leq E (G.setNew d k ch de) c
      ((s.setDirect d (ainsert k ch (s.direct d))).setClosed d (ainsert k de (s.closed d))) := by
  have hX : ∀ {X : Dir → Nat → Option (List Nat)} {v : List Nat} (d' : Dir), d' ≠ d →
      (fun k' => if d' = d ∧ k' = k then some v else X d' k') = X d' :=
    fun d' e => funext fun k' => by simp only [e, false_and, ↓reduceIte]
  refine .of_entries (by simp only [elems_setClosed, elems_setDirect, h.elems])
    (by simp only [flag_setClosed, flag_setDirect, h.flag])
    (fun hct => by simp only [leqC_setClosed, leqC_setDirect]; exact h.leqEntry hct)
    (fun hct d' => ?_) (fun hct d' => ?_)
  · rw [closed_setClosed_any, closed_setDirect]
    exact EntryOK.side (X' := (G.setNew d k ch de).closedX) (h.closedEntry hct)
      ((h.closedEntry hct d).ainsert_out hk de fun k' => by simp only [Ghost.setNew, true_and]) hX d'
  · rw [direct_setClosed, direct_setDirect_any]
    exact EntryOK.side (X' := (G.setNew d k ch de).directX) (h.directEntry hct)
      ((h.directEntry hct d).ainsert_out hk ch fun k' => by simp only [Ghost.setNew, true_and]) hX d'

theorem InvB.withPres {G' : Ghost} {s : St α} (h : InvB leq E G c s)
    (hl : G'.leqX = G.leqX) (hc : G'.closedX = G.closedX) (hd : G'.directX = G.directX)
    (hcp : c = true → ∀ d k, G'.closedP d k → (alookup k (s.closed d)).isSome = true)
    (hdp : c = true → ∀ d k, G'.directP d k → (alookup k (s.direct d)).isSome = true) :
    InvB leq E G' c s :=
  ⟨h.elems, h.flag, h.leqIn, hl ▸ h.leqOut, h.closedIn, hc ▸ h.closedOut, h.directIn, hd ▸ h.directOut, hcp, hdp⟩

theorem InvB.mono {G' : Ghost} {s : St α} (h : InvB leq E G c s)
    (hl : G'.leqX = G.leqX) (hc : G'.closedX = G.closedX) (hd : G'.directX = G.directX)
    (hcp : ∀ d k, G'.closedP d k → G.closedP d k) (hdp : ∀ d k, G'.directP d k → G.directP d k) :
    InvB leq E G' c s :=
  h.withPres hl hc hd (fun hct d k hp => h.closedPres hct d k (hcp d k hp))
    (fun hct d k hp => h.directPres hct d k (hdp d k hp))

def Ghost.addClosedP (G : Ghost) (d : Dir) (P : Nat → Prop) : Ghost :=
  { G with closedP := fun d' k => G.closedP d' k ∨ (d' = d ∧ P k) }

def Ghost.addDirectP (G : Ghost) (d : Dir) (P : Nat → Prop) : Ghost :=
  { G with directP := fun d' k => G.directP d' k ∨ (d' = d ∧ P k) }

theorem InvB.addClosedP {s : St α} (h : InvB leq E G c s) (d : Dir) (P : Nat → Prop)
    (hp : c = true → ∀ k, P k → (alookup k (s.closed d)).isSome = true) :
    InvB leq E (G.addClosedP d P) c s :=
  h.withPres rfl rfl rfl
    (fun hct d' k hk => by
      rcases hk with hk | ⟨rfl, hk⟩
      · exact h.closedPres hct d' k hk
      · exact hp hct k hk)
    h.directPres

theorem InvB.addDirectP {s : St α} (h : InvB leq E G c s) (d : Dir) (P : Nat → Prop)
    (hp : c = true → ∀ k, P k → (alookup k (s.direct d)).isSome = true) :
    InvB leq E (G.addDirectP d P) c s :=
  h.withPres rfl rfl rfl h.closedPres
    (fun hct d' k hk => by
      rcases hk with hk | ⟨rfl, hk⟩
      · exact h.directPres hct d' k hk
      · exact hp hct k hk)

theorem InvB.dropClosedP {s : St α} {d : Dir} {P : Nat → Prop} (h : InvB leq E (G.addClosedP d P) c s) :
    InvB leq E G c s :=
  h.mono rfl rfl rfl (fun _ _ => Or.inl) (fun _ _ hk => hk)

theorem InvB.dropDirectP {s : St α} {d : Dir} {P : Nat → Prop} (h : InvB leq E (G.addDirectP d P) c s) :
    InvB leq E G c s :=
  h.mono rfl rfl rfl (fun _ _ hk => hk) (fun _ _ => Or.inl)

/-- the comparison cache without ghost content: what `Exact` says of a relation cache -/
def LeqE (leq : α → α → Bool) (E : List α) (l : List ((Nat × Nat) × Bool)) : Prop :=
  ∀ a b r, alookup (a, b) l = some r → a < E.length ∧ b < E.length ∧ r = rel leq E a b

theorem InvB.leqOk {s : St α} (h : InvB leq E Ghost.none c s) (hct : c = true) : LeqE leq E s.leqC :=
  fun _ _ _ hl => have := (h.leqEntry hct).all_exact _ _ hl; ⟨this.1.1, this.1.2, this.2⟩

theorem InvB.closedE {s : St α} (h : InvB leq E Ghost.none true s) (d : Dir) :
    Exact E.length (ltD leq d E) (s.closed d) :=
  (h.closedEntry rfl d).all_exact

theorem InvB.directE {s : St α} (h : InvB leq E Ghost.none true s) (d : Dir) :
    Exact E.length (isCover leq d E) (s.direct d) :=
  (h.directEntry rfl d).all_exact

theorem InvB.ofOk {s : St α} (he : s.elems = E) (hf : s.useCache = c)
    (hl : c = true → LeqE leq E s.leqC) (hc : c = true → ∀ d, Exact E.length (ltD leq d E) (s.closed d))
    (hd : c = true → ∀ d, Exact E.length (isCover leq d E) (s.direct d)) :
    InvB leq E Ghost.none c s :=
  .of_entries he hf (fun hct => .of_all_exact fun p r h => have := hl hct p.1 p.2 r h; ⟨⟨this.1, this.2.1⟩, this.2.2⟩)
    (fun hct d => .of_all_exact (hc hct d)) (fun hct d => .of_all_exact (hd hct d))

theorem InvB.of_uncached {s : St α} (he : s.elems = E) (hf : s.useCache = false) : InvB leq E G false s := by
  have h : ∀ {p : Prop}, false = true → p := nofun
  exact ⟨he, hf, h, h, h, h, h, h, h, h⟩

end
end Fca.Poset
