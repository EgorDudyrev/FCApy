/-
  `add(e, fill_up_cache)`: on a duplicate nothing changes; otherwise the state satisfies the
  cache invariant for `E ++ [e]`, whether the caches are patched (`fill_up_cache=True`), wiped, or not in use.
-/
import Fca.Lemmas.PosetTrace
import Fca.Lemmas.PosetPatch
namespace Fca.Poset

section
variable {α : Type} [DecidableEq α] {leq : α → α → Bool} {ord : List Nat → List Nat}
variable {E : List α}

/-- `add(e, fill_up_cache=False)` on a caching instance: the four relation caches are wiped, the comparison
    cache is kept -/
theorem add_nofill_inv {e : α} {s : St α} (h : InvB leq E Ghost.none true s) :
    InvB leq (E ++ [e]) Ghost.none true
      { s with descC := [], ancC := [], chilC := [], parC := [], elems := s.elems ++ [e] } := by
  refine InvB.ofOk (by simp [h.elems]) h.flag (fun _ => ?_) (fun _ => ?_) (fun _ => ?_)
  · intro a b r hl
    obtain ⟨h1, h2, h3⟩ := h.leqOk rfl a b r hl
    simp only [List.length_append, List.length_singleton]
    refine ⟨Nat.lt_succ_of_lt h1, Nat.lt_succ_of_lt h2, ?_⟩
    rw [rel_append_left h1 h2]; exact h3
  · intro d k v hl; cases d <;> simp [St.closed] at hl
  · intro d k v hl; cases d <;> simp [St.direct] at hl

theorem add_uncached_inv {e : α} {s : St α} (h : InvB leq E Ghost.none false s) :
    InvB leq (E ++ [e]) Ghost.none false { s with elems := s.elems ++ [e] } :=
  InvB.of_uncached (by rw [h.elems]) h.flag

/-- The state `add(e, fill_up_cache=True)` has reached before `for el_i in range(el_i_new)`: `(n, n)` compared, then
    on either side a trace and the two writes at the new key `n`; `P d` are the keys whose closed entry the trace
    of side `d` promises.  The ghost is read here, once: the loop runs as soon as the closed entries it reads
    (those of the elements strictly on the `d` side of the new one, `cl d`) are known to be cached. -/
theorem addFill_loop {e : α} (hpo : IdxPO leq E) (hpo' : IdxPO leq (E ++ [e])) {P : Dir → Nat → Prop}
    {ch de pa an : List Nat} (hb1 : BInv leq .desc E (cmpB leq .desc e E) [] de ch)
    (hb2 : BInv leq .anc E (cmpB leq .anc e E) [] an pa) {s : St α}
    (h : InvB leq E (((((((Ghost.none.setLeqX (E.length, E.length) true).addClosedP .desc (P .desc)).addDirectP
      .anc (· ∈ de)).setNew .desc E.length ch de).addClosedP .anc (P .anc)).addDirectP .desc (· ∈ an)).setNew
      .anc E.length pa an) true s) :
    ∃ cl dr : Dir → List Nat,
      (∀ d k, k ∈ cl d → k < E.length ∧ (alookup k (s.direct d.flip)).isSome = true) ∧
      (∀ d k, P d k → (alookup k (s.closed d)).isSome = true) ∧
      ((∀ d k, k ∈ cl d → (alookup k (s.closed d.flip)).isSome = true) →
        Sat (M.forM (addPatch E.length) (List.range E.length)) s fun s' _ =>
          Weak.PatchInv leq E e cl dr (List.range E.length) s') := by
  obtain ⟨hcl, hdr⟩ := trace_result (cl := fun d => Dir.casesOn (motive := fun _ => List Nat) d de an)
    (dr := fun d => Dir.casesOn (motive := fun _ => List Nat) d ch pa) hpo' hpo (fun d => by cases d <;> assumption)
  have hdp : ∀ d k, k ∈ Dir.casesOn (motive := fun _ => List Nat) d de an →
      (alookup k (s.direct d.flip)).isSome = true := fun d k hk => h.directPres rfl d.flip k (by
    cases d
    · exact Or.inl (Or.inr ⟨rfl, hk⟩)
    · exact Or.inr ⟨rfl, hk⟩)
  refine ⟨_, _, fun d k hk => ⟨ltD_ext_new_lt (((hcl d).2 k).mp hk), hdp d k hk⟩, fun d k hk =>
    h.closedPres rfl d k (by
      cases d
      · exact Or.inl (Or.inr ⟨rfl, hk⟩)
      · exact Or.inr ⟨rfl, hk⟩), fun hcp => Weak.addPatchLoop_spec hpo' hcl hdr ?_⟩
  exact Weak.patchInv_init hpo' h hcl hdr (fun _ => rfl) (fun d k => newEntry_eq de an d k E.length)
    (fun d k => newEntry_eq ch pa d k E.length) hcp hdp

/-- `add(e, fill_up_cache=True)` on a caching instance: the two traces give the entries of the new element,
    the loop patches those of its neighbours -/
theorem addE_fill_spec {e : α} (hpo : IdxPO leq E) (hpo' : IdxPO leq (E ++ [e]))
    (hord : ∀ l, (ord l).Perm l) {s : St α} (h : InvB leq E Ghost.none true s) (he : e ∉ E) :
    Sat (addE leq ord e true) s (fun s' _ => InvB leq (E ++ [e]) Ghost.none true s') := by
  have hnn : ¬(E.length < E.length ∧ E.length < E.length) := fun hh => Nat.lt_irrefl _ hh.1
  have hn : ¬ E.length < E.length := Nat.lt_irrefl _
  unfold addE
  apply sat_bind; apply sat_get
  rw [h.elems, if_neg he, h.flag]
  simp only [↓reduceIte]
  apply sat_bind; apply sat_modify
  have h1 := h.insertLeqOut true hnn
  apply sat_bind
  apply sat_mono (traceElement_spec hpo hord (downSet_cmpB hpo' .desc) h1)
  rintro s2 ⟨ch, de⟩ ⟨hb1, h2⟩
  simp only at h2 ⊢
  apply sat_bind; apply sat_modify
  apply sat_bind; apply sat_modify
  have h3 := h2.insNew .desc ch de hn
  apply sat_bind
  apply sat_mono (traceElement_spec hpo hord (downSet_cmpB hpo' .anc) h3)
  rintro s4 ⟨pa, an⟩ ⟨hb2, h4⟩
  simp only at h4 ⊢
  apply sat_bind; apply sat_modify
  apply sat_bind; apply sat_modify
  obtain ⟨cl, dr, hdp, hcp, hloop⟩ := addFill_loop (P := fun _ k => k < E.length) hpo hpo' hb1 hb2
    (h4.insNew .anc pa an hn)
  apply sat_bind
  apply sat_mono (hloop fun d k hk => hcp d.flip k (hdp d k hk).1)
  intro s6 _ h6
  apply sat_modify
  exact Weak.patchInv_final h6

theorem addE_spec (e : α) (fill : Bool) (hpo : IdxPO leq E) (hpo' : e ∉ E → IdxPO leq (E ++ [e]))
    (hord : ∀ l, (ord l).Perm l) {c : Bool} {s : St α} (h : InvB leq E Ghost.none c s) :
    Sat (addE leq ord e fill) s (fun s' _ => InvB leq (if e ∈ E then E else E ++ [e]) Ghost.none c s') := by
  by_cases he : e ∈ E
  · rw [if_pos he]
    unfold addE
    apply sat_bind; apply sat_get
    rw [h.elems, if_pos he]
    exact sat_pure h
  · rw [if_neg he]
    cases c with
    | false =>
      unfold addE
      apply sat_bind; apply sat_get
      rw [h.elems, if_neg he, h.flag]
      simp only [Bool.false_eq_true, ↓reduceIte]
      exact sat_modify (add_uncached_inv h)
    | true =>
      cases fill with
      | true => exact addE_fill_spec hpo (hpo' he) hord h he
      | false =>
        unfold addE
        apply sat_bind; apply sat_get
        rw [h.elems, if_neg he, h.flag]
        simp only [Bool.false_eq_true, ↓reduceIte]
        apply sat_bind; apply sat_modify
        exact sat_modify (add_nofill_inv (s := s) h)

end
end Fca.Poset
