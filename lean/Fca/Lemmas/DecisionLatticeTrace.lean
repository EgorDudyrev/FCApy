/-
  The worklist of `trace_context(use_generators=True)` on a lattice whose generator dictionary has the shape
  `from_decision_tree` builds (root: the empty premise; every other node `k`: `{par k: [prem k]}`), generic in the
  node extents `E`: it ends without error within `len(self)` rounds, emits the record of the root and of every child
  of a visited node, and visits every node with a non-empty extent; where no extent is empty that is one record per
  node.
-/
import Fca.Model.DecisionLattice
import Fca.Lemmas.ListAux
namespace Fca.DL

theorem alGet_alSet {α β : Type} [DecidableEq α] (l : List (α × β)) (k : α) (v : β) (k' : α) :
    alGet (alSet l k v) k' = if k' = k then some v else alGet l k' :=
  ListAux.get_set (fun _ _ _ _ => rfl) (fun _ _ => rfl) (fun _ _ _ _ _ => rfl) l k v k'

theorem alGet_alSet_same {α β : Type} [DecidableEq α] (l : List (α × β)) (k : α) (v : β) :
    alGet (alSet l k v) k = some v :=
  (alGet_alSet l k v k).trans (if_pos rfl)

theorem alGet_alSet_ne {α β : Type} [DecidableEq α] (l : List (α × β)) (k k' : α) (v : β) (h : k' ≠ k) :
    alGet (alSet l k v) k' = alGet l k' :=
  (alGet_alSet l k v k').trans (if_neg h)

theorem ensure_recs (s : TrSt) (c : Nat) : (ensure s c).recs = s.recs := by
  unfold ensure; split <;> rfl

theorem ensure_get_ne (s : TrSt) (c k : Nat) (h : k ≠ c) : alGet (ensure s c).ce k = alGet s.ce k := by
  unfold ensure
  split
  · rfl
  · exact alGet_alSet_ne _ _ _ _ h

theorem ensure_of_some (s : TrSt) (c : Nat) (v : CE) (h : alGet s.ce c = some v) : ensure s c = s := by
  unfold ensure; rw [h]

theorem ensure_get_of_none (s : TrSt) (c : Nat) (h : alGet s.ce c = none) :
    alGet (ensure s c).ce c = some (.nested []) := by
  unfold ensure; rw [h]; exact alGet_alSet_same _ _ _

theorem setUnion_nil_left (e : List Nat) : setUnion [] e = e := by
  simp [setUnion]

theorem sortBySupport_isInsertionSort (sup : Nat → Nat) :
    ListAux.IsInsertionSort (fun x y => sup y ≤ sup x) (insBySupport sup) (sortBySupport sup) where
  ins_nil _ := rfl
  ins_cons x y ys := by
    rw [insBySupport]
    by_cases h : sup y > sup x
    · rw [if_pos h, if_neg (Nat.not_le.mpr h)]
    · rw [if_neg h, if_pos (Nat.le_of_not_gt h)]
  srt_nil := rfl
  srt_cons _ _ := rfl

/-- the lattice-as-data has the generator dictionary of a converted tree with parent function `par`,
    direct premises `prem` and node extents `E` in the traced context -/
structure TSpec (L : Lat) (X : Rows) (m n : Nat) (par : Nat → Nat) (prem : Nat → Prem)
    (E : Nat → List Nat) : Prop where
  npos : 0 < n
  top0 : L.top = 0
  glen : L.gens.length = n
  g0 : L.gens[0]? = some (.flat [])
  gk : ∀ k, 0 < k → k < n → L.gens[k]? = some (.cond [(par k, [prem k])])
  parlt : ∀ k, 0 < k → k < n → par k < k
  e0 : extensionI X m [] none = .ok (E 0)
  ek : ∀ k, 0 < k → k < n → extensionI X m (prem k) (some (E (par k))) = .ok (E k)
  clen : n ≤ L.concepts.length

/-- the entry of `generators_extents` for node `k` -/
def recOf (par : Nat → Nat) (prem : Nat → Prem) (E : Nat → List Nat) (k : Nat) : GenRec :=
  if k = 0 then ⟨none, 0, E 0, []⟩ else ⟨some (par k), k, E k, prem k⟩

theorem recOf_concept (par : Nat → Nat) (prem : Nat → Prem) (E : Nat → List Nat) (k : Nat) :
    (recOf par prem E k).concept = k := by
  unfold recOf; split
  · rename_i h; simp [h]
  · rfl

theorem recOf_ext (par : Nat → Nat) (prem : Nat → Prem) (E : Nat → List Nat) (k : Nat) :
    (recOf par prem E k).ext = E k := by
  unfold recOf; split
  · rename_i h; simp [h]
  · rfl

theorem recOf_of_pos (par : Nat → Nat) (prem : Nat → Prem) (E : Nat → List Nat) {k : Nat} (hk : 0 < k) :
    recOf par prem E k = ⟨some (par k), k, E k, prem k⟩ :=
  if_neg (Nat.ne_of_gt hk)

section
variable {L : Lat} {X : Rows} {m n : Nat} {par : Nat → Nat} {prem : Nat → Prem} {E : Nat → List Nat}

theorem TSpec.ne_top (h : TSpec L X m n par prem E) {k : Nat} (hk : 0 < k) : ¬ k = L.top :=
  fun e => Nat.ne_of_gt hk (e.trans h.top0)

/-- invariant of the memo `concept_extents` and of the record list: `D` = nodes whose record was emitted -/
structure SInv (n : Nat) (par : Nat → Nat) (prem : Nat → Prem) (E : Nat → List Nat)
    (s : TrSt) (D : Nat → Prop) : Prop where
  hit : ∀ k, 0 < k → D k → k < n ∧ alGet s.ce k = some (.nested [(some (par k), E k), (none, E k)])
  miss : ∀ k, 0 < k → ¬ D k → alGet s.ce k = none
  recs : ∀ r, r ∈ s.recs ↔ ∃ k, D k ∧ r = recOf par prem E k

theorem SInv.congr {s : TrSt} {D D' : Nat → Prop} (h : ∀ x, D x ↔ D' x) (hi : SInv n par prem E s D) :
    SInv n par prem E s D' := by
  refine ⟨?_, ?_, ?_⟩
  · intro k hk hd; exact hi.hit k hk ((h k).mpr hd)
  · intro k hk hd; exact hi.miss k hk (fun h' => hd ((h k).mp h'))
  · intro r; rw [hi.recs r]
    constructor
    · rintro ⟨k, hk, e⟩; exact ⟨k, (h k).mp hk, e⟩
    · rintro ⟨k, hk, e⟩; exact ⟨k, (h k).mpr hk, e⟩

theorem SInv.insert {s s' : TrSt} {D : Nat → Prop} {k : Nat} (hi : SInv n par prem E s D)
    (hce : ∀ j, 0 < j → j ≠ k → alGet s'.ce j = alGet s.ce j)
    (hk : 0 < k → k < n ∧ alGet s'.ce k = some (.nested [(some (par k), E k), (none, E k)]))
    (hrecs : ∀ r, r ∈ s'.recs ↔ r ∈ s.recs ∨ r = recOf par prem E k) :
    SInv n par prem E s' (fun x => x = k ∨ D x) := by
  refine ⟨fun j hj hd => ?_, fun j hj hd => ?_, fun r => ?_⟩
  · by_cases hjk : j = k
    · exact hjk ▸ hk (hjk ▸ hj)
    · rw [hce j hj hjk]
      exact hi.hit j hj (hd.resolve_left hjk)
  · rw [hce j hj fun e => hd (Or.inl e)]
    exact hi.miss j hj fun e => hd (Or.inr e)
  · rw [hrecs, hi.recs]
    constructor
    · rintro (⟨j, hj, e⟩ | e)
      · exact ⟨j, Or.inr hj, e⟩
      · exact ⟨k, Or.inl rfl, e⟩
    · rintro ⟨j, rfl | hj, e⟩
      · exact Or.inr e
      · exact Or.inl ⟨j, hj, e⟩

/-- `stored_extension(c, superconcept_i=None)` for the root or an already traced node -/
theorem storedExtNone_spec (h : TSpec L X m n par prem E) (s : TrSt) (c : Nat)
    (hc : c = 0 ∨ (0 < c ∧ alGet s.ce c = some (.nested [(some (par c), E c), (none, E c)]))) :
    ∃ s', storedExtNone L X m s c = .ok (s', E c) ∧
      (∀ k, k ≠ 0 → alGet s'.ce k = alGet s.ce k) ∧
      (∀ r, r ∈ s'.recs ↔ r ∈ s.recs ∨ (c = 0 ∧ r = recOf par prem E 0)) := by
  rcases hc with rfl | ⟨hpos, hce⟩
  · refine ⟨{ ce := alSet (ensure s 0).ce 0 (.flat (E 0)),
              recs := (ensure s 0).recs ++ [⟨none, 0, E 0, []⟩] }, ?_, ?_, ?_⟩
    · simp only [storedExtNone, h.top0, if_true, storedTop, h.g0, h.e0]
    · intro k hk
      simp only
      rw [alGet_alSet_ne _ _ _ _ hk, ensure_get_ne _ _ _ hk]
    · intro r
      simp only [List.mem_append, List.mem_singleton, ensure_recs, recOf, if_true, true_and]
  · refine ⟨s, ?_, fun _ _ => rfl, ?_⟩
    · simp only [storedExtNone, ensure_of_some s c _ hce, if_neg (h.ne_top hpos), hce, alGet]
      simp
    · intro r
      constructor
      · intro hr; exact Or.inl hr
      · rintro (hr | ⟨h0, _⟩)
        · exact hr
        · exact absurd h0 (Nat.ne_of_gt hpos)

theorem storedExtNone_sinv (h : TSpec L X m n par prem E) {s : TrSt} {D : Nat → Prop}
    (hi : SInv n par prem E s D) (c : Nat) (hc : c = 0 ∨ (0 < c ∧ D c)) :
    ∃ s', storedExtNone L X m s c = .ok (s', E c) ∧ SInv n par prem E s' (fun x => (x = 0 ∧ 0 = c) ∨ D x) := by
  obtain ⟨s', hs', hce, hrec⟩ := storedExtNone_spec h s c
    (hc.imp_right fun ⟨hpos, hd⟩ => ⟨hpos, (hi.hit c hpos hd).2⟩)
  refine ⟨s', hs', ?_, ?_, ?_⟩
  · intro k hk hd
    rw [hce k (Nat.ne_of_gt hk)]
    exact hi.hit k hk (hd.resolve_left fun e => Nat.ne_of_gt hk e.1)
  · intro k hk hd
    rw [hce k (Nat.ne_of_gt hk)]
    exact hi.miss k hk fun hd' => hd (Or.inr hd')
  · intro r
    rw [hrec, hi.recs]
    constructor
    · rintro (⟨k, hk, e⟩ | ⟨hc0, e⟩)
      · exact ⟨k, Or.inr hk, e⟩
      · exact ⟨0, Or.inl ⟨rfl, hc0.symm⟩, e⟩
    · rintro ⟨k, ⟨rfl, hc0⟩ | hk, e⟩
      · exact Or.inr ⟨hc0.symm, e⟩
      · exact Or.inl ⟨k, hk, e⟩

/-- `stored_extension(k, superconcept_i=par k)` under the memo invariant, hit or miss -/
theorem storedExt_spec (h : TSpec L X m n par prem E) {s : TrSt} {D : Nat → Prop}
    (hi : SInv n par prem E s D) (k : Nat) (hk0 : 0 < k) (hkn : k < n) (hp : D (par k)) :
    ∃ s', storedExt L X m s k (par k) = .ok (s', E k) ∧
      SInv n par prem E s' (fun x => x = k ∨ D x) ∧ (D k → s' = s) := by
  by_cases hd : D k
  · obtain ⟨_, hce⟩ := hi.hit k hk0 hd
    refine ⟨s, ?_, hi.congr fun x => ⟨Or.inr, fun hx => hx.elim (fun e => e ▸ hd) id⟩, fun _ => rfl⟩
    simp only [storedExt, ensure_of_some s k _ hce, if_neg (h.ne_top hk0), hce, alGet, if_true]
  have hpk : par k ≠ k := Nat.ne_of_lt (h.parlt k hk0 hkn)
  have hmiss := hi.miss k hk0 hd
  -- the call for the superconcept: the root, or a node that has been traced
  obtain ⟨s2, hs2, hce2, hrec2⟩ := storedExtNone_spec h (ensure s k) (par k) (by
    by_cases hp0 : par k = 0
    · exact Or.inl hp0
    · have hpos := Nat.pos_of_ne_zero hp0
      exact Or.inr ⟨hpos, by rw [ensure_get_ne _ _ _ hpk]; exact (hi.hit _ hpos hp).2⟩)
  have hce2k : alGet s2.ce k = some (.nested []) := by
    rw [hce2 k (Nat.ne_of_gt hk0)]
    exact ensure_get_of_none s k hmiss
  refine ⟨{ ce := alSet s2.ce k (.nested [(some (par k), E k), (none, E k)]),
            recs := s2.recs ++ [⟨some (par k), k, E k, prem k⟩] }, ?_, hi.insert ?_ ?_ ?_, fun hd' => absurd hd' hd⟩
  · simp only [storedExt, if_neg (h.ne_top hk0), ensure_get_of_none s k hmiss, alGet, h.gk k hk0 hkn, if_true, hs2,
      genLoop, h.ek k hk0 hkn, setUnion_nil_left, hce2k, alSet, ite_self]
    simp [setUnion_nil_left]
  · intro j hj hjk
    simp only
    rw [alGet_alSet_ne _ _ _ _ hjk, hce2 j (Nat.ne_of_gt hj), ensure_get_ne _ _ _ hjk]
  · exact fun _ => ⟨hkn, alGet_alSet_same _ _ _⟩
  · intro r
    simp only
    rw [List.mem_append, List.mem_singleton, hrec2, ensure_recs, recOf_of_pos par prem E hk0]
    -- a second record of the root is no new member
    refine or_congr_left (or_iff_left_of_imp ?_)
    rintro ⟨hp0, rfl⟩
    exact (hi.recs _).mpr ⟨0, hp0 ▸ hp, rfl⟩

theorem passOne_spec (h : TSpec L X m n par prem E) (c : Nat) :
    ∀ (ks : List Nat) (s : TrSt) (D : Nat → Prop), SInv n par prem E s D → D c →
      (∀ k ∈ ks, 0 < k ∧ k < n ∧ par k = c) →
      ∃ s', passOne L X m c ks s = .ok s' ∧ SInv n par prem E s' (fun x => x ∈ ks ∨ D x) := by
  intro ks
  induction ks with
  | nil =>
    intro s D hi _ _
    exact ⟨s, rfl, hi.congr (fun x => by simp)⟩
  | cons k ks ih =>
    intro s D hi hc hks
    obtain ⟨hk0, hkn, rfl⟩ := hks k List.mem_cons_self
    obtain ⟨s1, hs1, hi1, _⟩ := storedExt_spec h hi k hk0 hkn hc
    obtain ⟨s2, hs2, hi2⟩ := ih s1 _ hi1 (Or.inr hc) fun k' hk' => hks k' (List.mem_cons_of_mem _ hk')
    refine ⟨s2, ?_, hi2.congr fun x => by rw [List.mem_cons]; exact or_left_comm.trans or_assoc.symm⟩
    simp only [passOne, hs1]
    exact hs2

theorem passTwo_spec (h : TSpec L X m n par prem E) (c : Nat) (visited queue : List Nat)
    {s : TrSt} {D : Nat → Prop} (hi : SInv n par prem E s D) (hc : D c) :
    ∀ (ks : List Nat), (∀ k ∈ ks, (0 < k ∧ k < n ∧ par k = c) ∧ D k) →
      passTwo L X m c visited queue ks s = .ok (s, ks.filter fun k =>
        decide ((E k).length > 0) && !visited.contains k && !queue.contains k) := by
  intro ks
  induction ks with
  | nil => intro _; rfl
  | cons k ks ih =>
    intro hks
    obtain ⟨⟨hk0, hkn, rfl⟩, hd⟩ := hks k List.mem_cons_self
    obtain ⟨s1, h1, _, hs1⟩ := storedExt_spec h hi k hk0 hkn hc
    rw [hs1 hd] at h1
    simp only [passTwo, h1, ih (fun k' hk' => hks k' (List.mem_cons_of_mem _ hk')), List.filter_cons]
    split <;> rfl

theorem mem_subconceptsOf (h : TSpec L X m n par prem E) (c k : Nat) :
    k ∈ subconceptsOf L c ↔ 0 < k ∧ k < n ∧ par k = c := by
  simp only [subconceptsOf, List.mem_filter, List.mem_range, h.glen]
  constructor
  · rintro ⟨hkn, hk⟩
    by_cases hk0 : k = 0
    · subst hk0
      have := h.g0
      simp [List.getD_eq_getElem?_getD, this, GenEntry.hasKey] at hk
    · have hpos := Nat.pos_of_ne_zero hk0
      have := h.gk k hpos hkn
      simp [List.getD_eq_getElem?_getD, this, GenEntry.hasKey] at hk
      exact ⟨hpos, hkn, hk⟩
  · rintro ⟨hpos, hkn, hpar⟩
    refine ⟨hkn, ?_⟩
    have := h.gk k hpos hkn
    simp [List.getD_eq_getElem?_getD, this, GenEntry.hasKey, hpar]

theorem subconceptsOf_nodup (c : Nat) : (subconceptsOf L c).Nodup := by
  unfold subconceptsOf
  exact List.Nodup.sublist List.filter_sublist List.nodup_range

/-- the set of nodes whose record has been emitted once the nodes of `V` have been visited -/
def DV (n : Nat) (par : Nat → Nat) (V : List Nat) (x : Nat) : Prop :=
  (x = 0 ∧ 0 ∈ V) ∨ (0 < x ∧ x < n ∧ par x ∈ V)

theorem not_DV_nil (n : Nat) (par : Nat → Nat) (x : Nat) : ¬ DV n par [] x := by
  rintro (⟨_, hv⟩ | ⟨_, _, hv⟩) <;> cases hv

theorem DV_cons (n : Nat) (par : Nat → Nat) (c : Nat) (V : List Nat) (x : Nat) :
    DV n par (c :: V) x ↔ (0 < x ∧ x < n ∧ par x = c) ∨ (x = 0 ∧ 0 = c) ∨ DV n par V x := by
  simp only [DV, List.mem_cons, and_or_left]
  exact or_assoc.trans ((or_congr_right or_left_comm).trans or_left_comm)

theorem mem_requeue {x c : Nat} {rest q V : List Nat} :
    x ∈ (rest ++ q) ++ (c :: V) ↔ x ∈ (c :: rest) ++ V ∨ x ∈ q := by
  simp only [List.mem_append, List.mem_cons]
  grind

/-- `Q` is the queue and `V` the visited nodes of `trace_context` -/
structure LInv (n : Nat) (par : Nat → Nat) (prem : Nat → Prem) (E : Nat → List Nat)
    (s : TrSt) (Q V : List Nat) : Prop where
  sinv : SInv n par prem E s (DV n par V)
  nodup : (Q ++ V).Nodup
  lt : ∀ x ∈ Q ++ V, x < n
  top : 0 ∈ Q ++ V
  queued : ∀ x ∈ Q ++ V, x ≠ 0 → par x ∈ V
  closed : ∀ v ∈ V, ∀ k, 0 < k → k < n → par k = v → E k ≠ [] → k ∈ Q ++ V

theorem linv_step (h : TSpec L X m n par prem E) {s : TrSt} {c : Nat} {rest V : List Nat}
    (hi : LInv n par prem E s (c :: rest) V) (fuel : Nat) :
    ∃ s' Q', traceLoop L X m (fuel + 1) (c :: rest) V s = traceLoop L X m fuel Q' (c :: V) s' ∧
      LInv n par prem E s' Q' (c :: V) := by
  have hnd0 : (c :: (rest ++ V)).Nodup := hi.nodup
  obtain ⟨hc_notin, hndrv⟩ := List.nodup_cons.mp hnd0
  obtain ⟨hndr, hndv, hdisj⟩ := List.nodup_append.mp hndrv
  have hcr : c ∉ rest := fun hh => hc_notin (List.mem_append_left _ hh)
  have hcv : c ∉ V := fun hh => hc_notin (List.mem_append_right _ hh)
  have hcn : c < n := hi.lt c List.mem_cons_self
  have hparc : c ≠ 0 → par c ∈ V := hi.queued c List.mem_cons_self
  have hc : c = 0 ∨ (0 < c ∧ DV n par V c) := by
    by_cases hc0 : c = 0
    · exact Or.inl hc0
    · exact Or.inr ⟨Nat.pos_of_ne_zero hc0, Or.inr ⟨Nat.pos_of_ne_zero hc0, hcn, hparc hc0⟩⟩
  obtain ⟨s1, hs1, hi1⟩ := storedExtNone_sinv h hi.sinv c hc
  have hD1c : (c = 0 ∧ 0 = c) ∨ DV n par V c := hc.elim (fun e => Or.inl ⟨e, e.symm⟩) fun e => Or.inr e.2
  have hsubs := fun k => (mem_subconceptsOf h c k).mp
  obtain ⟨s2, hs2, hi2⟩ := passOne_spec h c _ s1 _ hi1 hD1c hsubs
  have hp2 := passTwo_spec h c (c :: V) rest hi2 (Or.inr hD1c) (subconceptsOf L c)
    fun k hk => ⟨hsubs k hk, Or.inl hk⟩
  generalize hnews : (subconceptsOf L c).filter (fun k =>
    decide ((E k).length > 0) && !(c :: V).contains k && !rest.contains k) = news at hp2
  have hmemN : ∀ k, k ∈ news ↔ (0 < k ∧ k < n ∧ par k = c) ∧ E k ≠ [] ∧ k ∉ c :: V ∧ k ∉ rest := by
    intro k
    rw [← hnews, List.mem_filter, mem_subconceptsOf h c k]
    simp only [Bool.and_eq_true, decide_eq_true_eq, Bool.not_eq_true', List.contains_eq_mem,
      decide_eq_false_iff_not, List.length_pos_iff, gt_iff_lt, and_assoc]
  have hndN : news.Nodup := hnews ▸ List.Nodup.sublist List.filter_sublist (subconceptsOf_nodup c)
  refine ⟨s2, rest ++ sortBySupport (fun k => (L.concepts.getD k default).support) news,
    by simp only [traceLoop, hs1, hs2, hp2], ?_⟩
  have hperm := (sortBySupport_isInsertionSort fun k => (L.concepts.getD k default).support).perm news
  generalize sortBySupport _ news = q at hperm ⊢
  have hmemQ : ∀ x, x ∈ (rest ++ q) ++ (c :: V) ↔ x ∈ (c :: rest) ++ V ∨ x ∈ news := fun x => by
    rw [mem_requeue, hperm.mem_iff]
  refine ⟨hi2.congr fun x => ?_, ?_, ?_, (hmemQ 0).mpr (Or.inl hi.top), ?_, ?_⟩
  · rw [DV_cons, mem_subconceptsOf h c x]
  · rw [List.nodup_append, List.nodup_append]
    refine ⟨⟨hndr, hperm.nodup_iff.mpr hndN, fun a ha b hb hab => ?_⟩, List.nodup_cons.mpr ⟨hcv, hndv⟩,
      fun a ha b hb hab => ?_⟩
    · exact ((hmemN b).mp (hperm.mem_iff.mp hb)).2.2.2 (hab ▸ ha)
    · subst hab
      rcases List.mem_append.mp ha with ha | ha
      · rcases List.mem_cons.mp hb with rfl | hb
        · exact hcr ha
        · exact hdisj a ha a hb rfl
      · exact ((hmemN a).mp (hperm.mem_iff.mp ha)).2.2.1 hb
  · intro x hx
    rcases (hmemQ x).mp hx with hx | hx
    · exact hi.lt x hx
    · exact ((hmemN x).mp hx).1.2.1
  · intro x hx hx0
    rcases (hmemQ x).mp hx with hx | hx
    · exact List.mem_cons_of_mem _ (hi.queued x hx hx0)
    · exact ((hmemN x).mp hx).1.2.2 ▸ List.mem_cons_self
  · intro v hv k hk0 hkn hpar hne
    apply (hmemQ k).mpr
    rcases List.mem_cons.mp hv with rfl | hv
    · by_cases hold : k ∈ (v :: rest) ++ V
      · exact Or.inl hold
      · refine Or.inr ((hmemN k).mpr ⟨⟨hk0, hkn, hpar⟩, hne, fun h1 => ?_, fun h2 => ?_⟩)
        · rcases List.mem_cons.mp h1 with rfl | h1
          · exact hold (List.mem_append_left _ List.mem_cons_self)
          · exact hold (List.mem_append_right _ h1)
        · exact hold (List.mem_append_left _ (List.mem_cons_of_mem _ h2))
    · exact Or.inl (hi.closed v hv k hk0 hkn hpar hne)

theorem queue_nil_of_full {s : TrSt} {Q V : List Nat} (hi : LInv n par prem E s Q V) (hfull : n ≤ V.length) :
    Q = [] := by
  have hlen := ListAux.length_le_of_nodup_of_lt hi.nodup hi.lt
  rw [List.length_append] at hlen
  exact List.eq_nil_of_length_eq_zero (by omega)

theorem traceLoop_inv (h : TSpec L X m n par prem E) :
    ∀ (fuel : Nat) (Q V : List Nat) (s : TrSt), LInv n par prem E s Q V → n ≤ V.length + fuel →
      ∃ s' V', traceLoop L X m fuel Q V s = .ok s' ∧ LInv n par prem E s' [] V' := by
  intro fuel
  induction fuel with
  | zero =>
    intro Q V s hi hf
    have hq := queue_nil_of_full hi hf
    subst hq
    exact ⟨s, V, by simp [traceLoop], hi⟩
  | succ fuel ih =>
    intro Q V s hi hf
    cases Q with
    | nil => exact ⟨s, V, by simp [traceLoop], hi⟩
    | cons c rest =>
      obtain ⟨s2, Q', heq, hi'⟩ := linv_step h hi fuel
      rw [heq]
      exact ih Q' (c :: V) s2 hi' (by rw [List.length_cons, Nat.add_right_comm]; exact hf)

theorem recOf_filter_map (ks : List Nat) (g : Nat) :
    ((ks.map (recOf par prem E)).filter fun r => r.ext.contains g).map (·.concept)
      = ks.filter fun k => (E k).contains g := by
  rw [List.filter_map, List.map_map]
  simp only [Function.comp_def, recOf_concept, recOf_ext, List.map_id']

theorem traceContext_rows (h : TSpec L X m n par prem E) (order : List GenRec → List GenRec)
    (horder : ∀ l, (order l).Perm l) :
    ∃ ks : List Nat, traceContext L X m order = .ok (ks.map (recOf par prem E)) ∧ ks.Nodup ∧
      (∀ k ∈ ks, k < n) ∧ ∀ k g, k < n → g ∈ E k → k ∈ ks := by
  have hinit : LInv n par prem E ⟨[], []⟩ [0] [] :=
    ⟨⟨fun k _ hd => absurd hd (not_DV_nil n par k), fun _ _ _ => rfl,
        fun r => ⟨fun hr => absurd hr List.not_mem_nil, fun ⟨k, hd, _⟩ => absurd hd (not_DV_nil n par k)⟩⟩,
      List.nodup_cons.mpr ⟨List.not_mem_nil, List.nodup_nil⟩, fun x hx => List.mem_singleton.mp hx ▸ h.npos,
      List.mem_singleton.mpr rfl, fun x hx hx0 => absurd (List.mem_singleton.mp hx) hx0,
      fun v hv => absurd hv List.not_mem_nil⟩
  obtain ⟨s, V, hs, hi⟩ := traceLoop_inv h L.concepts.length [0] [] ⟨[], []⟩ hinit
    ((Nat.zero_add _).symm ▸ h.clen)
  have hV : ∀ k, k < n → E k ≠ [] → k ∈ V := by
    intro k
    induction k using Nat.strongRecOn with
    | _ k ih =>
      intro hkn hne
      by_cases hk0 : k = 0
      · exact hk0 ▸ hi.top
      · have hpos := Nat.pos_of_ne_zero hk0
        have hplt := h.parlt k hpos hkn
        -- `extension_i` of an empty base is empty
        refine hi.closed (par k) (ih (par k) hplt (Nat.lt_trans hplt hkn) fun hnil => hne ?_) k hpos hkn rfl hne
        have hek := h.ek k hpos hkn
        rw [hnil] at hek
        exact (Except.ok.inj hek).symm
  have hmem : ∀ r, r ∈ order s.recs.eraseDups ↔ ∃ k, DV n par V k ∧ r = recOf par prem E k := fun r => by
    rw [(horder _).mem_iff, List.mem_eraseDups, hi.sinv.recs]
  have hnd : (order s.recs.eraseDups).Nodup := (horder _).nodup_iff.mpr (ListAux.nodup_eraseDups _)
  have hrec : ∀ r ∈ order s.recs.eraseDups, r.concept < n ∧ recOf par prem E r.concept = r := by
    intro r hr
    obtain ⟨k, hd, rfl⟩ := (hmem r).mp hr
    rw [recOf_concept]
    exact ⟨hd.elim (fun e0 => e0.1 ▸ h.npos) fun e1 => e1.2.1, rfl⟩
  refine ⟨(order s.recs.eraseDups).map (·.concept), ?_, ?_, ?_, ?_⟩
  · simp only [traceContext, h.top0, hs, List.map_map]
    exact congrArg _ ((List.map_id _).symm.trans (List.map_congr_left fun r hr => (hrec r hr).2.symm))
  · exact ListAux.nodup_map_of_injOn hnd fun a ha b hb hab => by rw [← (hrec a ha).2, ← (hrec b hb).2, hab]
  · intro k hk
    obtain ⟨r, hr, rfl⟩ := List.mem_map.mp hk
    exact (hrec r hr).1
  · -- a visited node has its record: the root from its own visit, any other from its parent's
    intro k g hkn hg
    have hkV := hV k hkn (List.ne_nil_of_mem hg)
    refine List.mem_map.mpr ⟨_, (hmem _).mpr ⟨k, ?_, rfl⟩, recOf_concept _ _ _ k⟩
    by_cases hk0 : k = 0
    · exact Or.inl ⟨hk0, hk0 ▸ hkV⟩
    · exact Or.inr ⟨Nat.pos_of_ne_zero hk0, hkn, hi.queued k hkV hk0⟩

end
end Fca.DL
