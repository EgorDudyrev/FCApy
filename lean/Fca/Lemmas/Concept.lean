/-
  Fca.Lemmas.Concept — the comparison methods of both concept classes are guards followed by one and the same
  test on the two extent lists (`leCore`); each method is put in that closed form, and what the order theorems
  need is proved about lists.  `from_objects` likewise becomes one equation after the name lookup (`objIdx`).
-/
import Fca.Model.Concept
import Fca.Spec.Concept
import Fca.Lemmas.ListAux
import Fca.Lemmas.SharedLoops
import Fca.Lemmas.ExceptAux
namespace Fca

theorem rotateLeft_perm {α : Type} (l : List α) (k : Nat) : l.Perm (l.rotateLeft k) := by
  show l.Perm (if l.length ≤ 1 then l else l.drop (k % l.length) ++ l.take (k % l.length))
  split
  · exact List.Perm.refl _
  · exact (List.take_append_drop _ l ▸ List.perm_append_comm :)

theorem subset_iff_length_eq {a b : List Nat} (ha : a.Nodup) (hb : b.Nodup) (hab : a ⊆ b) :
    b ⊆ a ↔ a.length = b.length :=
  ⟨fun hba => Nat.le_antisymm (ha.length_le_of_subset hab) (hb.length_le_of_subset hba),
    fun hlen => ListAux.subset_of_nodup_of_length_le ha hab (Nat.le_of_eq hlen.symm)⟩

theorem subset_subset_iff {x y : List Nat} : x ⊆ y ∧ y ⊆ x ↔ ∀ g, g ∈ x ↔ g ∈ y :=
  ⟨fun h _ => ⟨fun hg => h.1 hg, fun hg => h.2 hg⟩, fun H => ⟨fun _ hg => (H _).mp hg, fun _ hg => (H _).mpr hg⟩⟩

theorem sortedNats_isInsertionSort : ListAux.IsInsertionSort (· ≤ ·) insertSorted sortedNats :=
  ⟨fun _ => rfl, fun _ _ _ => rfl, rfl, fun _ _ => rfl⟩

theorem sortedNats_perm (l : List Nat) : (sortedNats l).Perm l := sortedNats_isInsertionSort.perm l

theorem sortedNats_pairwise (l : List Nat) : (sortedNats l).Pairwise (· ≤ ·) :=
  sortedNats_isInsertionSort.sorted (fun _ _ => Nat.le_of_not_le) (fun _ _ _ => Nat.le_trans) l

theorem sortedNats_eq_iff_perm {a b : List Nat} : sortedNats a = sortedNats b ↔ a.Perm b :=
  ⟨fun h => (sortedNats_perm a).symm.trans (h ▸ sortedNats_perm b),
    sortedNats_isInsertionSort.eq_of_perm (fun _ _ => Nat.le_of_not_le) (fun _ _ _ => Nat.le_trans)
      (fun _ _ => Nat.le_antisymm)⟩

theorem memLoop_iff (big small : List Nat) : memLoop big small = true ↔ small ⊆ big := by
  induction small with
  | nil => simp [memLoop]
  | cons g gs ih =>
    simp only [memLoop, List.cons_subset]
    by_cases h : g ∈ big
    · simp [h, ih]
    · simp [h]

theorem setEq_iff (xs ys : List Nat) : setEq xs ys = true ↔ xs ⊆ ys ∧ ys ⊆ xs :=
  (ListAux.all_contains_and_iff xs ys).trans subset_subset_iff.symm

theorem setEq_perm {x x' y y' : List Nat} (hx : x.Perm x') (hy : y.Perm y') : setEq x y = setEq x' y' := by
  rw [Bool.eq_iff_iff, setEq_iff, setEq_iff]
  simp only [List.subset_def, hx.mem_iff, hy.mem_iff]

/-- what `__le__` of both classes does after its guards: the support shortcut, then the membership loop on
    `(lesser, greater)`.  `__eq__` and `__lt__` put a test on the two supports in front of it (or of
    `set(..) == set(..)`). -/
def leCore (x y : List Nat) : Bool := if y.length < x.length then false else memLoop y x

theorem leCore_iff {x y : List Nat} : leCore x y = true ↔ x.length ≤ y.length ∧ x ⊆ y := by
  unfold leCore
  split
  · exact ⟨fun h => Bool.noConfusion h, fun h => absurd h.1 (Nat.not_le.mpr ‹_›)⟩
  · rw [memLoop_iff]
    exact ⟨fun h => ⟨Nat.not_lt.mp ‹_›, h⟩, fun h => h.2⟩

theorem leCore_refl (x : List Nat) : leCore x x = true :=
  leCore_iff.mpr ⟨Nat.le_refl _, List.Subset.refl _⟩

theorem leCore_trans {x y z : List Nat} (h1 : leCore x y = true) (h2 : leCore y z = true) :
    leCore x z = true := by
  rw [leCore_iff] at *
  exact ⟨Nat.le_trans h1.1 h2.1, List.Subset.trans h1.2 h2.2⟩

/-- antisymmetry, in the two forms `==` takes in the two classes -/
theorem leCore_antisymm {x y : List Nat} (h1 : leCore x y = true) (h2 : leCore y x = true) :
    (x.length == y.length && setEq x y) = true ∧ (x.length == y.length && leCore x y) = true := by
  obtain ⟨l1, s1⟩ := leCore_iff.mp h1
  obtain ⟨l2, s2⟩ := leCore_iff.mp h2
  rw [Bool.and_eq_true, Bool.and_eq_true, beq_iff_eq, setEq_iff]
  exact ⟨⟨Nat.le_antisymm l1 l2, s1, s2⟩, Nat.le_antisymm l1 l2, h1⟩

theorem leCore_perm {x x' y y' : List Nat} (hx : x.Perm x') (hy : y.Perm y') : leCore x y = leCore x' y' := by
  rw [Bool.eq_iff_iff, leCore_iff, leCore_iff, hx.length_eq, hy.length_eq]
  simp only [List.subset_def, hx.mem_iff, hy.mem_iff]

/-- on duplicate-free extents the support shortcut never changes the answer -/
theorem leCore_iff_subset {x y : List Nat} (hx : x.Nodup) : leCore x y = true ↔ x ⊆ y :=
  leCore_iff.trans (and_iff_right_of_imp hx.length_le_of_subset)

theorem eqLen_and_setEq_iff {x y : List Nat} (hx : x.Nodup) (hy : y.Nodup) :
    (x.length == y.length && setEq x y) = true ↔ x ⊆ y ∧ y ⊆ x := by
  rw [Bool.and_eq_true, beq_iff_eq, setEq_iff]
  exact and_iff_right_of_imp fun h => (subset_iff_length_eq hx hy h.1).mp h.2

theorem eqLen_and_leCore_iff {x y : List Nat} (hx : x.Nodup) (hy : y.Nodup) :
    (x.length == y.length && leCore x y) = true ↔ x ⊆ y ∧ y ⊆ x := by
  rw [Bool.and_eq_true, beq_iff_eq, leCore_iff_subset hx]
  exact and_comm.trans (and_congr_right fun h => (subset_iff_length_eq hx hy h).symm)

theorem neLen_and_leCore_iff {x y : List Nat} (hx : x.Nodup) (hy : y.Nodup) :
    (x.length != y.length && leCore x y) = true ↔ x ⊆ y ∧ ¬ y ⊆ x := by
  rw [Bool.and_eq_true, bne_iff_ne, leCore_iff_subset hx]
  exact and_comm.trans (and_congr_right fun h => not_congr (subset_iff_length_eq hx hy h).symm)

theorem ok_eq_ok_decide {ε : Type} {v : Bool} {p : Prop} [Decidable p] (h : v = true ↔ p) :
    (Except.ok v : Except ε Bool) = .ok (decide p) := by
  rw [Bool.eq_iff_iff.mpr (h.trans decide_eq_true_iff.symm)]

/-- a guard `if x != y: raise …`, read from the side of the comparison that goes on (which may use `x = y`) -/
theorem guard_bne {α β : Type} [BEq α] [LawfulBEq α] [DecidableEq α] {x y : α} {e v w : β} (h : x = y → v = w) :
    (if x != y then e else v) = if x = y then w else e := by
  by_cases hxy : x = y
  · rw [if_pos hxy, ← h hxy, hxy, bne_self_eq_false, if_neg Bool.false_ne_true]
  · rw [if_neg hxy, if_pos (bne_iff_ne.mpr hxy)]

namespace Concept

theorem le_eq (a b : Concept) : le a b =
    if a.contextHash = b.contextHash then
      if a.isMonotone = b.isMonotone then
        .ok (if a.isMonotone then leCore b.extentI a.extentI else leCore a.extentI b.extentI)
      else .error .UnmatchedMonotonicityError
    else .error .UnmatchedContextError := by
  refine guard_bne fun _ => guard_bne fun _ => ?_
  cases a.isMonotone
  · exact (apply_ite Except.ok _ _ _).symm
  · exact (apply_ite Except.ok _ _ _).symm

theorem eq_eq (a b : Concept) : eq a b =
    if a.contextHash = b.contextHash then
      if a.isMonotone = b.isMonotone then
        .ok (a.extentI.length == b.extentI.length && setEq a.extentI b.extentI)
      else .error .UnmatchedMonotonicityError
    else .error .UnmatchedContextError := by
  refine guard_bne fun _ => guard_bne fun _ => ?_
  rw [support, support, bne]
  cases a.extentI.length == b.extentI.length <;> rfl

/-- `<` is `<=` between concepts of different support -/
theorem lt_eq (a b : Concept) : lt a b =
    if a.contextHash = b.contextHash then
      if a.isMonotone = b.isMonotone then
        .ok (a.extentI.length != b.extentI.length &&
          if a.isMonotone then leCore b.extentI a.extentI else leCore a.extentI b.extentI)
      else .error .UnmatchedMonotonicityError
    else .error .UnmatchedContextError := by
  refine guard_bne fun hh => guard_bne fun hm => ?_
  rw [le_eq, if_pos hh, if_pos hm, support, support, bne]
  cases a.extentI.length == b.extentI.length <;> rfl

theorem ne_of_eq_error {a b : Concept} {e : CErr} (h : eq a b = .error e) : ne a b = .error e := by
  unfold ne
  rw [h]

/-- an answer `True` says that both guards were passed, too -/
theorem le_ok_true_iff {a b : Concept} : le a b = .ok true ↔
    a.contextHash = b.contextHash ∧ a.isMonotone = b.isMonotone ∧
      (if a.isMonotone then leCore b.extentI a.extentI else leCore a.extentI b.extentI) = true := by
  rw [le_eq, guard_eq_ok_iff, guard_eq_ok_iff, Except.ok.injEq]

end Concept

namespace PConcept
variable {D : Type}

theorem le_eq (a b : PConcept D) : le a b =
    if a.contextHash = b.contextHash then .ok (leCore a.extentI b.extentI) else .error .NotImplementedError := by
  exact guard_bne fun _ => (apply_ite Except.ok _ _ _).symm

theorem eq_eq (a b : PConcept D) : eq a b =
    if a.contextHash = b.contextHash then
      .ok (a.extentI.length == b.extentI.length && leCore a.extentI b.extentI)
    else .error .NotImplementedError := by
  refine guard_bne fun hh => ?_
  rw [le_eq, if_pos hh, support, support, bne]
  cases a.extentI.length == b.extentI.length <;> rfl

/-- `<` is `<=` between concepts of different support (when `a` has the larger support `<=` is `False`) -/
theorem lt_eq (a b : PConcept D) : lt a b =
    if a.contextHash = b.contextHash then
      .ok (a.extentI.length != b.extentI.length && leCore a.extentI b.extentI)
    else .error .NotImplementedError := by
  refine guard_bne fun hh => ?_
  rw [le_eq, if_pos hh, support, support]
  rcases Nat.lt_trichotomy a.extentI.length b.extentI.length with hlt | he | hgt
  · rw [if_neg (Nat.not_le.mpr hlt), bne_iff_ne.mpr (Nat.ne_of_lt hlt), Bool.true_and]
  · rw [if_pos (Nat.le_of_eq he.symm), he, bne_self_eq_false, Bool.false_and]
  · rw [if_pos (Nat.le_of_lt hgt), show leCore a.extentI b.extentI = false from if_pos hgt, Bool.and_false]

theorem ne_of_eq_error {a b : PConcept D} {e : CErr} (h : eq a b = .error e) : ne a b = .error e := by
  unfold ne
  rw [h]

theorem le_ok_true_iff {a b : PConcept D} : le a b = .ok true ↔
    a.contextHash = b.contextHash ∧ leCore a.extentI b.extentI = true := by
  rw [le_eq, guard_eq_ok_iff, Except.ok.injEq]

end PConcept

namespace Concept

theorem frozenNames_sub_dictAfterInit : ∀ key ∈ frozenNames, key ∈ dictAfterInit := by decide +kernel

/-- the two other names the class knows: `measures` is an ordinary instance attribute, `support` a property -/
theorem measures_support_names :
    "measures" ∉ frozenNames ∧ "support" ∉ frozenNames ∧ "measures" ∈ dictAfterInit ∧
    "support" ∉ dictAfterInit ∧ "measures" ∉ dictAfterInit.erase "measures" := by
  simp [frozenNames, dictAfterInit]

theorem setattr_of_frozen {dict : List String} {key : String} (hd : key ∈ dict) (hk : key ∈ frozenNames) :
    setattr dict key = .error .FrozenInstanceError := by
  simp [setattr, hd, hk]

theorem setattr_of_not_frozen {dict : List String} {key : String} (h : key ∉ dict ∨ key ∉ frozenNames) :
    setattr dict key = if key == "support" then .error .AttributeError else .ok () := by
  unfold setattr
  rw [if_neg]
  simpa [-not_and, Classical.not_and_iff_not_or_not] using h

theorem delattr_of_frozen (dict : List String) {key : String} (hk : key ∈ frozenNames) :
    delattr dict key = .error .FrozenInstanceError := by
  simp [delattr, hk]

theorem delattr_of_not_frozen (dict : List String) {key : String} (hk : key ∉ frozenNames) :
    delattr dict key = if dict.contains key then .ok (dict.erase key) else .error .AttributeError := by
  simp [delattr, hk]

theorem step_keeps_frozen {dict : List String} (h : ∀ key ∈ frozenNames, key ∈ dict) (op : AttrOp) :
    ∀ key ∈ frozenNames, key ∈ (step dict op).1 := by
  intro key hk
  cases op with
  | set k =>
    simp only [step]
    split
    · split
      · exact h key hk
      · exact List.mem_cons_of_mem _ (h key hk)
    · exact h key hk
  | del k =>
    simp only [step]
    by_cases hf : k ∈ frozenNames
    · rw [delattr_of_frozen dict hf]
      exact h key hk
    · rw [delattr_of_not_frozen dict hf]
      by_cases hc : dict.contains k = true
      · rw [if_pos hc]
        exact (List.mem_erase_of_ne (fun e : key = k => hf (e ▸ hk))).mpr (h key hk)
      · rw [if_neg hc]
        exact h key hk

theorem runOps_keeps_frozen {dict : List String} (h : ∀ key ∈ frozenNames, key ∈ dict) (ops : List AttrOp) :
    ∀ key ∈ frozenNames, key ∈ runOps dict ops := by
  induction ops generalizing dict with
  | nil => exact h
  | cons op ops ih => exact ih (step_keeps_frozen h op)

end Concept

/-- `list.index` is core's `idxOf?` (the same loop, with `y = x` for `y == x`) -/
theorem firstIndex_eq_idxOf? (names : List String) (x : String) : firstIndex names x = names.idxOf? x := by
  suffices ∀ k, firstIndexFrom names k x = List.findIdx?.go (· == x) names k from this 0
  induction names with
  | nil => exact fun _ => rfl
  | cons y ys ih => exact fun k => ite_congr (propext beq_iff_eq.symm) (fun _ => rfl) fun _ => ih _

theorem firstIndex_eq (names : List String) (x : String) :
    firstIndex names x = if x ∈ names then some (names.idxOf x) else none :=
  (firstIndex_eq_idxOf? names x).trans <| List.findIdx?_eq_guard_findIdx_lt.trans <|
    ite_congr (propext (decide_eq_true_iff.trans List.idxOf_lt_length_iff)) (fun _ => rfl) fun _ => rfl

theorem firstIndex_spec {names : List String} {x : String} {i : Nat} (h : firstIndex names x = some i) :
    i < names.length ∧ names[i]? = some x ∧ ∀ j, j < i → names[j]? ≠ some x := by
  rw [firstIndex_eq_idxOf?, List.idxOf?_eq_some_iff] at h
  obtain ⟨hlt, hx, hmin⟩ := h
  refine ⟨hlt, by rw [List.getElem?_eq_getElem hlt, hx], fun j hj e => ?_⟩
  obtain ⟨_, e'⟩ := List.getElem?_eq_some_iff.mp e
  exact hmin j hj e'

theorem firstIndex_of_get {names : List String} (hnd : names.Nodup) {x : String} {i : Nat}
    (h : names[i]? = some x) : firstIndex names x = some i := by
  obtain ⟨hi, hix⟩ := List.getElem?_eq_some_iff.mp h
  rw [firstIndex_eq, if_pos (List.mem_of_getElem? h), ← hix, hnd.idxOf_getElem i hi]

theorem namesIndex_eq (names xs : List String) : namesIndex names xs =
    if ∀ x ∈ xs, x ∈ names then .ok (xs.map names.idxOf) else .error .ValueError := by
  induction xs with
  | nil => rfl
  | cons x xs ih =>
    rw [namesIndex, firstIndex_eq, ih]
    by_cases hx : x ∈ names
    · by_cases hxs : ∀ y ∈ xs, y ∈ names
      · rw [if_pos hx, if_pos hxs, if_pos (List.forall_mem_cons.mpr ⟨hx, hxs⟩)]
        rfl
      · rw [if_pos hx, if_neg hxs, if_neg (fun h => hxs (List.forall_mem_cons.mp h).2)]
    · rw [if_neg hx, if_neg (fun h => hx (List.forall_mem_cons.mp h).1)]

theorem namesIndex_ok (names : List String) (xs : List String) (is : List Nat)
    (h : namesIndex names xs = .ok is) :
    (∀ i ∈ is, i < names.length) ∧ is.map (fun i => names.getD i "") = xs := by
  rw [namesIndex_eq] at h
  by_cases hxs : ∀ x ∈ xs, x ∈ names
  · rw [if_pos hxs] at h
    cases h
    refine ⟨fun i hi => ?_, ?_⟩
    · obtain ⟨x, hx, rfl⟩ := List.mem_map.mp hi
      exact List.idxOf_lt_length_of_mem (hxs x hx)
    · rw [List.map_map]
      exact (List.map_congr_left fun x hx => ListAux.getD_idxOf_self names x "" (hxs x hx)).trans (List.map_id xs)
  · rw [if_neg hxs] at h
    cases h

theorem namesIndex_isOk (names : List String) (xs : List String) (h : ∀ x ∈ xs, x ∈ names) :
    ∃ is, namesIndex names xs = .ok is :=
  ⟨_, (namesIndex_eq names xs).trans (if_pos h)⟩

theorem pickNames_ok (names : List String) (is : List Nat) (h : ∀ i ∈ is, i < names.length) :
    pickNames names is = .ok (is.map fun i => names.getD i "") := by
  induction is with
  | nil => rfl
  | cons i is ih =>
    have hi : i < names.length := h i List.mem_cons_self
    simp only [pickNames, List.getElem?_eq_getElem hi, ih (fun j hj => h j (List.mem_cons_of_mem _ hj)),
      List.map_cons, List.getD, Option.getD_some]

theorem pickNames_error (names : List String) (is : List Nat) (h : ∃ i ∈ is, names.length ≤ i) :
    pickNames names is = .error .IndexError := by
  induction is with
  | nil => simp at h
  | cons i is ih =>
    simp only [pickNames]
    by_cases hi : i < names.length
    · simp only [List.getElem?_eq_getElem hi]
      obtain ⟨j, hj, hjl⟩ := h
      rcases List.mem_cons.mp hj with rfl | hj
      · exact absurd hi (Nat.not_lt.mpr hjl)
      · rw [ih ⟨j, hj, hjl⟩]
    · simp [List.getElem?_eq_none (Nat.le_of_not_lt hi)]

/-- the index list `from_objects` starts from -/
def objIdx (names : List String) : ObjArg → Except CErr (List Nat)
  | .names xs => namesIndex names xs
  | .idx xs => .ok xs

theorem Concept.fromObjects_eq (objs : ObjArg) (K : Ctx) (h : Int) (isExtent : Bool) :
    Concept.fromObjects objs K h isExtent false =
      (objIdx K.objNames objs).bind fun A =>
        let I := K.intentionI A none
        let E := if !isExtent then K.extensionI I none else A
        (pickNames K.attrNames I).bind fun intent =>
          (pickNames K.objNames E).bind fun extent => .ok ⟨E, extent, I, intent, some h, false⟩ := by
  cases objs with
  | names xs => cases xs <;> rfl
  | idx A => rfl

theorem Concept.fromObjects_ok_fields {objs : ObjArg} {K : Ctx} {h : Int} {ie : Bool} {c : Concept}
    (hc : Concept.fromObjects objs K h ie false = .ok c) : c.contextHash = some h ∧ c.isMonotone = false := by
  rw [Concept.fromObjects_eq] at hc
  obtain ⟨A, _, hc⟩ := bind_eq_ok hc
  obtain ⟨intent, _, hc⟩ := bind_eq_ok hc
  obtain ⟨extent, _, hc⟩ := bind_eq_ok hc
  cases hc
  exact ⟨rfl, rfl⟩

theorem PConcept.fromObjects_eq {D : Type} (intentionI : List Nat → D) (extensionI : D → List Nat)
    (objNames : List String) (objs : ObjArg) (h : Int) (isExtent : Bool) :
    PConcept.fromObjects intentionI extensionI objNames objs h isExtent false =
      (objIdx objNames objs).bind fun A =>
        let I := intentionI A
        let E := if !isExtent then extensionI I else A
        (pickNames objNames E).bind fun extent => .ok ⟨E, extent, I, some h⟩ := by
  cases objs with
  | names xs => cases xs <;> rfl
  | idx A => rfl

theorem PConcept.fromObjects_ok_hash {D : Type} {intentionI : List Nat → D} {extensionI : D → List Nat}
    {objNames : List String} {objs : ObjArg} {h : Int} {ie : Bool} {c : PConcept D}
    (hc : PConcept.fromObjects intentionI extensionI objNames objs h ie false = .ok c) : c.contextHash = some h := by
  rw [PConcept.fromObjects_eq] at hc
  obtain ⟨A, _, hc⟩ := bind_eq_ok hc
  obtain ⟨extent, _, hc⟩ := bind_eq_ok hc
  cases hc
  rfl

theorem all_zip_map {α β : Type} (l : List α) (f : α → β) (P : α → β → Bool) :
    ((l.zip (l.map f)).all fun p => P p.1 p.2) = l.all fun a => P a (f a) := by
  induction l with
  | nil => rfl
  | cons a l ih => simp only [List.map_cons, List.zip_cons_cons, List.all_cons, ih]

namespace Interval

theorem extensionI_eq (col : Col) (d : Option Iv) (base : List Nat) :
    extensionI col d base = base.filter (inside col d) := by
  cases d with
  | none => simp [extensionI, inside]
  | some p => obtain ⟨mn, mx⟩ := p; rfl

theorem mvExtLoop_eq (l : List (Col × Option Iv)) (ext : List Nat) :
    mvExtLoop l ext = ext.filter fun g => l.all fun p => inside p.1 p.2 g :=
  narrowLoop_eq (fun p => inside p.1 p.2) id mvExtLoop (fun _ => rfl) l
    (fun ⟨c, d⟩ _ rest ext => by simp only [mvExtLoop, extensionI_eq, id]) ext

theorem hullLoop_eq_foldl (col : Col) (gs : List Nat) (acc : Iv) :
    hullLoop col gs acc = (gs.map fun g => col.getD g (0, 0)).foldl hullStep acc := by
  induction gs generalizing acc with
  | nil => rfl
  | cons g gs ih => exact ih _

theorem intentionI_hull (col : Col) (A : List Nat) (hA : A ≠ []) :
    ∃ mn mx, intentionI col A = some (mn, mx) ∧
      (∀ g ∈ A, mn ≤ (col.getD g (0, 0)).1 ∧ (col.getD g (0, 0)).2 ≤ mx) ∧
      (∃ g ∈ A, mn = (col.getD g (0, 0)).1) ∧ (∃ g ∈ A, mx = (col.getD g (0, 0)).2) := by
  obtain ⟨g, gs, rfl⟩ := List.exists_cons_of_ne_nil hA
  obtain ⟨h1, ⟨gl, hgl, el⟩, ⟨gr, hgr, er⟩⟩ := isHull_foldl (fun g => col.getD g (0, 0)) g gs
  rw [← hullLoop_eq_foldl] at h1 el er
  exact ⟨_, _, rfl, h1, ⟨gl, hgl, el.symm⟩, ⟨gr, hgr, er.symm⟩⟩

theorem mvExtensionI_eq (n : Nat) (cols : List Col) (ds : List (Option Iv)) :
    mvExtensionI n cols ds = (List.range n).filter fun g => (cols.zip ds).all fun p => inside p.1 p.2 g :=
  mvExtLoop_eq _ _

end Interval

end Fca
