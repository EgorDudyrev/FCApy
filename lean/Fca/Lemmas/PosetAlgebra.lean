/-
  `_combine_multiple_caches` returns, and produces only `Fresh` values.  The image of an exact entry under the index
  map lists the strict relatives of its key among the operand's elements.  For `&`/`-` the first operand has every
  element of the result and the second all of them or none, so every image is exact and so is every union of images;
  for `|`/`^` an entry is kept only when both operands had it cached, and the two images together are everything.
  None of the `IndexError`/`KeyError` branches of the model is reachable: all combined keys and members are images of
  the index maps, hence valid positions of the result.
-/
import Fca.Lemmas.PosetAlgebraLoop
import Fca.Lemmas.PosetQuery
namespace Fca.Poset
open Fca.Poset.Fresh

section
variable {α : Type} {leq : α → α → Bool}

theorem cacheView_elems (b : St α) : b.cacheView.elems = b.elems := by
  unfold St.cacheView
  split <;> rfl

theorem filterKeysE_eq {keep : Nat → Except PyErr Bool} (f : Nat → Bool) (c : Cache)
    (h : ∀ p ∈ c, keep p.1 = .ok (f p.1)) : filterKeysE keep c = .ok (c.filter fun p => f p.1) := by
  induction c with
  | nil => rfl
  | cons p rest ih =>
    rw [filterKeysE, h p List.mem_cons_self, ih fun q hq => h q (List.mem_cons_of_mem _ hq), List.filter_cons]

theorem leqDirNocache_eq (d : Dir) {C : List α} {i j : Nat} (hi : i < C.length) (hj : j < C.length) :
    leqDirNocache leq d C i j = .ok (relD leq d C i j) := by
  cases d <;>
    simp only [leqDirNocache, leqNocache, relD, rel, List.getElem?_eq_getElem hi, List.getElem?_eq_getElem hj]

theorem dominatedE_eq (d : Dir) {C : List α} {i : Nat} (hi : i < C.length) (l : List Nat)
    (h : ∀ j ∈ l, j < C.length) : dominatedE leq d C i l = .ok (l.any fun j => ltD leq d C i j) := by
  induction l with
  | nil => rfl
  | cons j js ih =>
    replace ih := ih fun x hx => h x (List.mem_cons_of_mem _ hx)
    rw [dominatedE, List.any_cons, ltD]
    by_cases hji : j = i
    · rw [if_pos hji, ih, hji, bne_self_eq_false, Bool.and_false, Bool.false_or]
    · rw [if_neg hji, leqDirNocache_eq d hi (h j List.mem_cons_self),
        (bne_iff_ne.mpr fun e => hji e.symm : (i != j) = true), Bool.and_true]
      cases relD leq d C i j
      · exact ih
      · rfl

theorem maximalE_eq (d : Dir) {C : List α} {rels : List Nat} (hrels : ∀ j ∈ rels, j < C.length)
    (is : List Nat) (h : ∀ i ∈ is, i < C.length) :
    maximalE leq d C rels is = .ok (is.filter fun i => !rels.any fun j => ltD leq d C i j) := by
  induction is with
  | nil => rfl
  | cons i is ih =>
    rw [maximalE, dominatedE_eq d (h i List.mem_cons_self) rels hrels,
      ih fun x hx => h x (List.mem_cons_of_mem _ hx), List.filter_cons]
    cases rels.any fun j => ltD leq d C i j <;> rfl

theorem directLoop_good (d : Dir) (C : List α) (keys : List Nat) (Good : Nat → List Nat → Prop)
    (L : List (Nat × List Nat)) (acc : Cache) (h : ∀ p ∈ L, ∃ m, maximalE leq d C p.2 p.2 = .ok m ∧ Good p.1 m)
    (hacc : ∀ k v, alookup k acc = some v → Good k v) :
    ∃ r, directLoop leq d C keys acc L = .ok r ∧ ∀ k v, alookup k r = some v → Good k v := by
  induction L generalizing acc with
  | nil => exact ⟨acc, rfl, hacc⟩
  | cons p rest ih =>
    have hrest : ∀ p ∈ rest, ∃ m, maximalE leq d C p.2 p.2 = .ok m ∧ Good p.1 m :=
      fun q hq => h q (List.mem_cons_of_mem _ hq)
    obtain ⟨m, hm, hg⟩ := h p List.mem_cons_self
    rw [directLoop]
    split
    · rw [hm]
      refine ih _ hrest fun k v hl => ?_
      rw [alookup_ainsert] at hl
      split at hl
      · rename_i e
        cases hl
        exact e ▸ hg
      · exact hacc k v hl
    · exact ih acc hrest hacc

variable [DecidableEq α]

/-- What `InvB` says of the caches whose entries `_combine_multiple_caches` reads (of the direct ones only the keys),
    without the flag: it also holds of the empty cache view of an uncached second operand. -/
structure CacheExact (leq : α → α → Bool) (s : St α) : Prop where
  nodup : s.elems.Nodup
  leqOk : LeqE leq s.elems s.leqC
  closedOk : ∀ d, Exact s.elems.length (ltD leq d s.elems) (s.closed d)

theorem cacheExact_of_invB {s : St α} (hnd : s.elems.Nodup) (h : InvB leq s.elems Ghost.none true s) :
    CacheExact leq s :=
  ⟨hnd, h.leqOk rfl, h.closedE⟩

theorem cacheExact_cacheView {b : St α} (hnd : b.elems.Nodup)
    (h : InvB leq b.elems Ghost.none b.useCache b) : CacheExact leq b.cacheView := by
  unfold St.cacheView
  split
  · rename_i hc
    exact cacheExact_of_invB hnd (hc ▸ h)
  · exact ⟨hnd, nofun, fun d _ _ hl => (by cases d <;> cases hl)⟩

theorem mem_mapped_closed {s : St α} (hs : CacheExact leq s) {C : List α} (hC : C.Nodup) {d : Dir} {k ck : Nat}
    {v : List Nat} (hl : alookup k (s.closed d) = some v) (hk : idxMap s.elems C k = some ck) (x : Nat) :
    x ∈ mapSet (idxMap s.elems C) v ↔ ltD leq d C x ck = true ∧ ∃ e, C[x]? = some e ∧ e ∈ s.elems := by
  have hex := (hs.closedOk d k v hl).2.2
  rw [mem_mapSet]
  constructor
  · rintro ⟨i, hi, hix⟩
    obtain ⟨e, h1, h2⟩ := idxMap_some hix
    exact ⟨(ltD_idxMap hs.nodup d hix hk).trans ((hex i).mp hi), e, h2, List.mem_of_getElem? h1⟩
  · rintro ⟨hx, e, hxe, he⟩
    obtain ⟨i, hi⟩ := idxMap_surj hC hxe he
    exact ⟨i, (hex i).mpr ((ltD_idxMap hs.nodup d hi hk).symm.trans hx), hi⟩

/-- every combined entry is sound; for `&`, `-` the first operand has every element of the result, and so has the
    second if it has one at all: there every image is complete, and so is a union of complete entries -/
theorem closed_good {a b : St α} (ha : CacheExact leq a) (hb : CacheExact leq b) (op : SetOp)
    {C : List α} (hC : C = combineElems op a.elems b.elems) (d : Dir) :
    ∀ ck cv, alookup ck (combineSet (a.closed d) a.elems (b.closed d) b.elems C) = some cv →
      ck < C.length ∧ cv.Nodup ∧ (∀ x ∈ cv, ltD leq d C x ck = true) ∧
        (op.dropNotCommon = false → ∀ x, ltD leq d C x ck = true → x ∈ cv) := by
  have hCn : C.Nodup := hC ▸ nodup_combineElems op ha.nodup hb.nodup
  have hsub := fun h => hC ▸ combineElems_subset h a.elems b.elems
  refine combineSet_good _ _ _ _ _ _
    (fun _ _ _ hx hy => ⟨hx.1, nodup_setUnion hx.2.1 hy.2.1,
      fun z hz => (mem_setUnion.mp hz).elim (hx.2.2.1 z) (hy.2.2.1 z),
      fun hd z hz => mem_setUnion.mpr (Or.inl (hx.2.2.2 hd z hz))⟩)
    (fun _ _ _ hl hk => ⟨(idxMap_lt hk).2, nodup_mapSet _ _, fun x hx => ((mem_mapped_closed ha hCn hl hk x).mp hx).1,
      fun hd x hx => (mem_mapped_closed ha hCn hl hk x).mpr ⟨hx, _, List.getElem?_eq_getElem (ltD_lt_length hx).1,
        (hsub hd).1 _ (List.getElem_mem _)⟩⟩)
    (fun _ _ _ hl hk => ⟨(idxMap_lt hk).2, nodup_mapSet _ _, fun x hx => ((mem_mapped_closed hb hCn hl hk x).mp hx).1,
      fun hd x hx => (mem_mapped_closed hb hCn hl hk x).mpr ⟨hx, _, List.getElem?_eq_getElem (ltD_lt_length hx).1,
        have ⟨e, h1, h2⟩ := idxMap_some hk
        (hsub hd).2 e (List.mem_of_getElem? h2) (List.mem_of_getElem? h1) _ (List.getElem_mem _)⟩⟩)

theorem keepE_eq (a b : St α) {C : List α} (d : Dir) {idx : Nat} (h : idx < C.length) :
    keepE a b C d idx = .ok (((idxMap C a.elems idx).bind (alookup · (a.closed d))).isSome &&
      ((idxMap C b.elems idx).bind (alookup · (b.closed d))).isSome) := by
  unfold keepE idxMap
  rw [List.getElem?_eq_getElem h]
  dsimp only
  cases hia : dictIdx? C[idx] a.elems with
  | none => exact if_neg fun hm => dictIdx?_eq_none.mp hia hm.1
  | some ia =>
    cases hib : dictIdx? C[idx] b.elems with
    | none => exact (if_neg fun hm => dictIdx?_eq_none.mp hib hm.2).trans (congrArg Except.ok (Bool.and_false _).symm)
    | some ib =>
      rw [if_pos ⟨dictIdx?_mem hia, dictIdx?_mem hib⟩]
      dsimp only [Option.bind_some]
      cases (alookup ia (a.closed d)).isSome <;> rfl

theorem combineClosed_spec {a b : St α} (ha : CacheExact leq a) (hb : CacheExact leq b) (op : SetOp)
    {C : List α} (hC : C = combineElems op a.elems b.elems) (d : Dir) :
    ∃ cl, combineClosed op a b C d = .ok cl ∧ Exact C.length (ltD leq d C) cl := by
  have hCn : C.Nodup := hC ▸ nodup_combineElems op ha.nodup hb.nodup
  have hgood := closed_good ha hb op hC d
  unfold combineClosed
  by_cases hdrop : op.dropNotCommon = true
  · -- `|`, `^`: kept only when common and cached in both operands; the two images together are everything
    rw [if_pos hdrop, filterKeysE_eq (fun k => ((keepE a b C d k).toOption).getD false)]
    · refine ⟨_, rfl, fun k v hl => ?_⟩
      rw [alookup_filter (fun k => ((keepE a b C d k).toOption).getD false)] at hl
      split at hl
      · rename_i hkeep
        obtain ⟨hk, hnd, hsound, _⟩ := hgood k v hl
        refine ⟨hk, hnd, fun x => ⟨hsound x, fun hx => ?_⟩⟩
        rw [keepE_eq a b d hk] at hkeep
        obtain ⟨hca, hcb⟩ := Bool.and_eq_true_iff.mp hkeep
        obtain ⟨va, hva⟩ := Option.isSome_iff_exists.mp hca
        obtain ⟨vb, hvb⟩ := Option.isSome_iff_exists.mp hcb
        obtain ⟨ia, hia, hva⟩ := Option.bind_eq_some_iff.mp hva
        obtain ⟨ib, hib, hvb⟩ := Option.bind_eq_some_iff.mp hvb
        have hxl := (ltD_lt_length hx).1
        have hxe := List.getElem?_eq_getElem hxl
        have hmem : C[x] ∈ combineElems op a.elems b.elems := hC ▸ List.getElem_mem hxl
        rcases mem_or_of_mem_combineElems op _ _ _ hmem with he | he
        · have hka := idxMap_symm hCn hia
          exact (combineSet_from _ _ _ _ _ hl).1 _ _ hva hka x ((mem_mapped_closed ha hCn hva hka x).mpr ⟨hx, _, hxe, he⟩)
        · have hkb := idxMap_symm hCn hib
          exact (combineSet_from _ _ _ _ _ hl).2 _ _ hvb hkb x ((mem_mapped_closed hb hCn hvb hkb x).mpr ⟨hx, _, hxe, he⟩)
      · cases hl
    · intro p hp
      obtain ⟨w, hw⟩ := Option.isSome_iff_exists.mp (alookup_isSome_of_mem (k := p.1) (v := p.2) hp)
      rw [keepE_eq a b d (hgood p.1 w hw).1]
      rfl
  · -- `&`, `-`: nothing is dropped, and there `closed_good` has the complete half
    rw [if_neg hdrop]
    exact ⟨_, rfl, fun k v hl => have ⟨h1, h2, h3, h4⟩ := hgood k v hl
      ⟨h1, h2, fun x => ⟨h3 x, h4 (Bool.eq_false_iff.mpr hdrop) x⟩⟩⟩

/-- the maximal elements of an exact strict down-set (up-set) are exactly the lower (upper) covers -/
theorem combineDirect_spec (a b : St α) {C : List α} {d : Dir} {cl : Cache} (hcl : Exact C.length (ltD leq d C) cl) :
    ∃ dc, combineDirect leq a b C d cl = .ok dc ∧ Exact C.length (isCover leq d C) dc := by
  unfold combineDirect
  refine directLoop_good d C _ (fun k v => k < C.length ∧ Lists (isCover leq d C) k v) (items cl) []
    (fun p hp => ?_) nofun
  obtain ⟨hk, hnd, hex⟩ := hcl p.1 p.2 (mem_items.mp hp)
  have hlt : ∀ j ∈ p.2, j < C.length := fun j hj => (ltD_lt_length ((hex j).mp hj)).1
  refine ⟨_, maximalE_eq d hlt p.2 hlt, hk, hnd.filter _, fun x => ?_⟩
  rw [List.mem_filter, isCover_iff_max, hex x, Bool.not_eq_true', List.any_eq_false]
  exact and_congr_right fun _ => forall_congr' fun z => by rw [hex z, Bool.not_eq_true]

theorem leq_mapped {s : St α} (hs : CacheExact leq s) {C : List α} {k ck : Nat × Nat} {v : Bool}
    (hl : alookup k s.leqC = some v) (hk : mapPair (idxMap s.elems C) k = some ck) :
    ck.1 < C.length ∧ ck.2 < C.length ∧ v = rel leq C ck.1 ck.2 := by
  unfold mapPair at hk
  split at hk
  · cases hk
  · rename_i x h1
    split at hk
    · cases hk
    · rename_i y h2
      cases hk
      exact ⟨(idxMap_lt h1).2, (idxMap_lt h2).2, (rel_idxMap h1 h2).symm ▸ (hs.leqOk k.1 k.2 v hl).2.2⟩

theorem combineLeq_good {a b : St α} (ha : CacheExact leq a) (hb : CacheExact leq b) (C : List α) :
    LeqE leq C (combineLeq a.leqC a.elems b.leqC b.elems C) := by
  rw [combineLeq_eq_combineLoop]
  let Good := fun (ck : Nat × Nat) (r : Bool) => ck.1 < C.length ∧ ck.2 < C.length ∧ r = rel leq C ck.1 ck.2
  exact fun x y => combineLoop_good _ _ _ Good (fun _ _ _ hx _ => hx) _
    (fun k v ck hm hk => leq_mapped hb (mem_items.mp hm) hk) _
    (combineLoop_good _ _ _ Good (fun _ _ _ hx _ => hx) _
      (fun k v ck hm hk => leq_mapped ha (mem_items.mp hm) hk) [] nofun) (x, y)

theorem combineMulti_shape {a b : St α} {op : SetOp} {C : List α} {r : St α}
    (h : combineMulti leq op a b C = .ok r) : r.elems = C ∧ r.useCache = true := by
  unfold combineMulti at h
  repeat' split at h
  all_goals cases h
  exact ⟨rfl, rfl⟩

theorem combine_shape {op : SetOp} {same : Bool} {a b r : St α} (h : combine leq op same a b = .ok r) :
    r.elems = combineElems op a.elems b.elems ∧ r.useCache = a.useCache ∧ same = true := by
  unfold combine at h
  split at h
  · rename_i hs
    split at h
    · rename_i hc
      obtain ⟨h1, h2⟩ := combineMulti_shape h
      exact ⟨h1, h2.trans hc.symm, hs⟩
    · rename_i hc
      cases h
      exact ⟨rfl, (Bool.eq_false_iff.mpr hc).symm, hs⟩
  · cases h

theorem combine_U {U : α → Prop} {op : SetOp} {same : Bool} {a b r : St α} (h : combine leq op same a b = .ok r)
    (hUa : ∀ x ∈ a.elems, U x) (hUb : ∀ x ∈ b.elems, U x) : ∀ x ∈ r.elems, U x := by
  intro x hx
  rw [(combine_shape h).1] at hx
  exact (mem_or_of_mem_combineElems op _ _ x hx).elim (hUa x) (hUb x)

theorem combineMulti_spec {a b : St α} (ha : CacheExact leq a) (hb : CacheExact leq b) (op : SetOp)
    {C : List α} (hC : C = combineElems op a.elems b.elems) :
    ∃ r, combineMulti leq op a b C = .ok r ∧ r.elems.Nodup ∧ InvB leq r.elems Ghost.none r.useCache r := by
  obtain ⟨de, hde, e1⟩ := combineClosed_spec ha hb op hC .desc
  obtain ⟨an, han, e2⟩ := combineClosed_spec ha hb op hC .anc
  obtain ⟨ch, hch, e3⟩ := combineDirect_spec a b e1
  obtain ⟨pa, hpa, e4⟩ := combineDirect_spec a b e2
  refine ⟨⟨C, true, combineLeq a.leqC a.elems b.leqC b.elems C, de, an, ch, pa⟩,
    by simp only [combineMulti, hde, han, hch, hpa], hC ▸ nodup_combineElems op ha.nodup hb.nodup,
    InvB.ofOk rfl rfl (fun _ => combineLeq_good ha hb C) (fun _ d => ?_) (fun _ d => ?_)⟩
  · cases d
    · exact e1
    · exact e2
  · cases d
    · exact e3
    · exact e4

theorem combine_spec {a b : St α} (hna : a.elems.Nodup) (ha : InvB leq a.elems Ghost.none a.useCache a)
    (hnb : b.elems.Nodup) (hb : InvB leq b.elems Ghost.none b.useCache b) (op : SetOp) :
    ∃ r, combine leq op true a b = .ok r ∧ r.elems.Nodup ∧ InvB leq r.elems Ghost.none r.useCache r := by
  by_cases hc : a.useCache = true
  · obtain ⟨r, hr, hex⟩ := combineMulti_spec (cacheExact_of_invB hna (hc ▸ ha)) (cacheExact_cacheView hnb hb) op
      (by rw [cacheView_elems])
    exact ⟨r, by rw [combine, if_pos rfl, if_pos hc, hr], hex⟩
  · exact ⟨_, by rw [combine, if_pos rfl, if_neg hc], nodup_combineElems op hna hnb, InvB.of_uncached rfl rfl⟩

end
end Fca.Poset
