/-
  Many-valued contexts (C14).  Per column, `extension_i` is the filter by `covers`, every object of `A` falls under
  `intention_i A`, and for a non-empty `A` that is the most specific description covering `A`; the narrowing loop of
  `MVContext.extension_i` is the filter by the conjunction, and the closure laws of `clSpec` follow column by column.
  `BottomOK` says exactly that the code's closure of the empty set is the least closed set (`bottomOK_iff`).
-/
import Fca.Spec.MVContext
import Fca.Lemmas.PS
namespace Fca.MV

theorem setLeq_eq_all (row s : List Nat) : Col.setLeq row s = row.all fun x => s.contains x := by
  unfold Col.setLeq
  rw [Bool.eq_iff_iff]
  simp only [beq_iff_eq, List.filter_eq_self, List.all_eq_true]

theorem Col.covers_set (data : List (List Nat)) (s : List Nat) (g : Nat) :
    (Col.set data).covers (.sval (some s)) g = true ↔ ∀ x ∈ data.getD g [], x ∈ s := by
  simp only [Col.covers, List.all_eq_true, List.contains_eq_mem, decide_eq_true_eq]

theorem Col.covers_ival (data : List (Int × Int)) (d : Option (Int × Int)) (g : Nat) :
    (Col.interval data).covers (.ival d) g = Spec.PS.ivCovers d (data.getD g (0, 0)) := by
  cases d with
  | none => rfl
  | some p => rfl

theorem Col.covers_bval (data : List Bool) (b : Bool) (g : Nat) :
    (Col.attr data).covers (.bval b) g = (!b || data.getD g false) := rfl

theorem Col.extensionI_eq (c : Col) (d : DVal) (base : List Nat) (h : c.typed d = true) :
    c.extensionI d base = .ok (base.filter (c.covers d)) := by
  have hnone : (Except.ok [] : Except PyErr (List Nat)) = .ok (base.filter fun _ => false) :=
    congrArg Except.ok (List.filter_eq_nil_iff.mpr fun _ _ => Bool.false_ne_true).symm
  cases c <;> cases d <;> try cases h
  case interval.ival data o =>
    cases o with
    | none => exact hnone
    | some p => rfl
  case set.sval data o =>
    cases o with
    | none => exact hnone
    | some s => exact congrArg Except.ok (List.filter_congr fun g _ => setLeq_eq_all _ _)
  case attr.bval data b =>
    cases b with
    | false => exact congrArg Except.ok (List.filter_eq_self.mpr fun _ _ => rfl).symm
    | true => rfl

theorem Col.typed_intentionI (c : Col) (A : List Nat) : c.typed (c.intentionI A) = true := by
  cases c <;> rfl

theorem Col.typed_bottom (c : Col) : c.typed c.bottom = true := by
  cases c <;> rfl

theorem ivLoop_eq_foldl (data : List (Int × Int)) (gs : List Nat) (acc : Int × Int) :
    Col.ivLoop data gs acc = (gs.map fun g => data.getD g (0, 0)).foldl hullStep acc := by
  induction gs generalizing acc with
  | nil => rfl
  | cons g gs ih => exact ih _

theorem ivIntention_eq (data : List (Int × Int)) (A : List Nat) :
    Col.ivIntention data A = PS.ivHull (A.map fun g => data.getD g (0, 0)) := by
  cases A with
  | nil => rfl
  | cons a as => exact congrArg some (ivLoop_eq_foldl data as _)

theorem ivIntention_isHull (data : List (Int × Int)) (a : Nat) (as : List Nat) :
    ∃ h, Col.ivIntention data (a :: as) = some h ∧ IsHull (fun g => data.getD g (0, 0)) (a :: as) h :=
  ⟨_, rfl, by rw [ivLoop_eq_foldl]; exact isHull_foldl _ a as⟩

theorem mem_unionL {a b : List Nat} {x : Nat} : x ∈ Col.unionL a b ↔ x ∈ a ∨ x ∈ b :=
  ListAux.mem_append_filter_not_contains

theorem mem_setIntention (data : List (List Nat)) (objs : List Nat) (x : Nat) :
    x ∈ Col.setIntention data objs ↔ ∃ g ∈ objs, x ∈ data.getD g [] := by
  unfold Col.setIntention
  rw [ListAux.mem_foldl_union Col.unionL (fun _ _ _ => mem_unionL)]
  simp only [List.not_mem_nil, false_or]

theorem attrIntention_cons (data : List Bool) (a : Nat) (as : List Nat) :
    Col.attrIntention data (a :: as) = (a :: as).all fun g => data.getD g false := rfl

theorem Col.covers_intention (c : Col) (A : List Nat) (g : Nat) (hg : g ∈ A) :
    c.covers (c.intentionI A) g = true := by
  obtain ⟨a, as, rfl⟩ := List.exists_cons_of_ne_nil (List.ne_nil_of_mem hg)
  cases c with
  | interval data =>
    obtain ⟨h, hint, hh⟩ := ivIntention_isHull data a as
    rw [Col.intentionI, hint, Col.covers_ival]
    exact hh.covers g hg
  | set data => exact (Col.covers_set data _ g).mpr fun x hx => (mem_setIntention data _ x).mpr ⟨g, hg, hx⟩
  | attr data =>
    rw [Col.intentionI, attrIntention_cons, Col.covers_bval]
    cases hall : (a :: as).all fun g => data.getD g false with
    | false => rfl
    | true => exact List.all_eq_true.mp hall g hg

theorem Col.intention_least (c : Col) (A : List Nat) (hA : A ≠ []) (d : DVal)
    (hd : ∀ g ∈ A, c.covers d g = true) (g' : Nat) (hg' : c.covers (c.intentionI A) g' = true) :
    c.covers d g' = true := by
  obtain ⟨a, as, rfl⟩ := List.exists_cons_of_ne_nil hA
  have hda := hd a List.mem_cons_self
  cases c <;> cases d <;> try cases hda
  case interval.ival data o =>
    obtain ⟨h, hint, hh⟩ := ivIntention_isHull data a as
    rw [Col.intentionI, hint, Col.covers_ival] at hg'
    rw [Col.covers_ival]
    exact hh.covers_least (fun g hgA => Col.covers_ival data o g ▸ hd g hgA) _ hg'
  case set.sval data o =>
    cases o with
    | none => cases hda
    | some s =>
      refine (Col.covers_set data s g').mpr fun x hx => ?_
      obtain ⟨g, hgA, hxg⟩ := (mem_setIntention data (a :: as) x).mp ((Col.covers_set data _ g').mp hg' x hx)
      exact (Col.covers_set data s g).mp (hd g hgA) x hxg
  case attr.bval data b =>
    cases b with
    | false => rfl
    | true =>
      have hall : ((a :: as).all fun g => data.getD g false) = true := List.all_eq_true.mpr hd
      rw [Col.intentionI, attrIntention_cons, hall] at hg'
      exact hg'

theorem Col.covers_intention_of_bottom (c : Col) (A : List Nat) (g : Nat) (h : c.covers c.bottom g = true) :
    c.covers (c.intentionI A) g = true := by
  cases c with
  | interval data => cases h
  | set data =>
    rw [Col.intentionI, Col.covers_set]
    intro x hx
    exact absurd ((Col.covers_set data [] g).mp h x hx) List.not_mem_nil
  | attr data =>
    have hg : data.getD g false = true := h
    rw [Col.intentionI, Col.covers_bval, hg, Bool.or_true]

/-- the description giving every column `c` the value `f c`: `intentionI A` and `bottomDesc` have this form -/
def MVCtx.colDesc (K : MVCtx) (f : Col → DVal) : Desc := K.cols.zipIdx.map fun ci => (ci.2, f ci.1)

theorem MVCtx.mem_colDesc (K : MVCtx) (f : Col → DVal) (p : Nat × DVal) :
    p ∈ K.colDesc f ↔ ∃ c, K.cols[p.1]? = some c ∧ p.2 = f c := by
  unfold MVCtx.colDesc
  rw [List.mem_map]
  constructor
  · rintro ⟨ci, hci, rfl⟩
    exact ⟨ci.1, List.mem_zipIdx_iff_getElem?.mp hci, rfl⟩
  · rintro ⟨c, hc, hd⟩
    exact ⟨(c, p.1), List.mem_zipIdx_iff_getElem?.mpr hc, Prod.ext rfl hd.symm⟩

theorem MVCtx.wellTyped_colDesc (K : MVCtx) {f : Col → DVal} (hf : ∀ c : Col, c.typed (f c) = true) :
    K.WellTyped (K.colDesc f) := by
  intro p hp
  obtain ⟨c, hc, hd⟩ := (K.mem_colDesc f p).mp hp
  exact ⟨c, hc, hd ▸ hf c⟩

theorem MVCtx.wellTyped_intentionI (K : MVCtx) (A : List Nat) : K.WellTyped (K.intentionI A) :=
  K.wellTyped_colDesc fun c => c.typed_intentionI A

theorem MVCtx.wellTyped_bottomDesc (K : MVCtx) : K.WellTyped K.bottomDesc :=
  K.wellTyped_colDesc Col.typed_bottom

theorem MVCtx.coversAll_colDesc (K : MVCtx) (f : Col → DVal) (g : Nat) :
    K.coversAll (K.colDesc f) g = true ↔ ∀ c ∈ K.cols, c.covers (f c) g = true := by
  unfold MVCtx.coversAll
  rw [List.all_eq_true]
  constructor
  · intro h c hcm
    obtain ⟨i, hc⟩ := List.mem_iff_getElem?.mp hcm
    have := h (i, f c) ((K.mem_colDesc f _).mpr ⟨c, hc, rfl⟩)
    rwa [hc] at this
  · intro h p hp
    obtain ⟨c, hc, hd⟩ := (K.mem_colDesc f p).mp hp
    rw [hc, hd]
    exact h c (List.mem_of_getElem? hc)

theorem MVCtx.extLoop_eq (K : MVCtx) (desc : Desc) (ext : List Nat) (hwt : K.WellTyped desc) :
    MVCtx.extLoop K.cols desc ext = .ok (ext.filter (K.coversAll desc)) :=
  narrowLoop_eq (fun (p : Nat × DVal) g => match K.cols[p.1]? with | some c => c.covers p.2 g | none => false)
    .ok (MVCtx.extLoop K.cols) (fun _ => rfl) desc
    (fun p hp rest ext => by
      obtain ⟨c, hc, hty⟩ := hwt p hp
      simp only [MVCtx.extLoop, hc, Col.extensionI_eq c p.2 ext hty]) ext

theorem MVCtx.extensionI_eq (K : MVCtx) (desc : Desc) (base : Option (List Nat)) (hwt : K.WellTyped desc) :
    K.extensionI desc base = .ok (K.extSpec desc (base.getD (List.range K.nObjects))) := by
  unfold MVCtx.extensionI
  split
  · rfl
  · exact MVCtx.extLoop_eq K desc _ hwt
  · exact MVCtx.extLoop_eq K desc _ hwt

theorem MVCtx.cl_eq (K : MVCtx) (A : List Nat) : K.cl A = .ok (K.clSpec A) :=
  K.extensionI_eq _ none (K.wellTyped_intentionI A)

theorem MVCtx.mem_extSpec (K : MVCtx) (desc : Desc) (base : List Nat) (g : Nat) :
    g ∈ K.extSpec desc base ↔ g ∈ base ∧ K.coversAll desc g = true :=
  List.mem_filter

theorem MVCtx.mem_clSpec (K : MVCtx) (A : List Nat) (g : Nat) :
    g ∈ K.clSpec A ↔ g < K.nObjects ∧ K.coversAll (K.intentionI A) g = true := by
  rw [MVCtx.clSpec, K.mem_extSpec, List.mem_range]

theorem MVCtx.mem_extBottom (K : MVCtx) (g : Nat) :
    g ∈ K.extBottom ↔ g < K.nObjects ∧ K.coversAll K.bottomDesc g = true := by
  rw [MVCtx.extBottom, K.mem_extSpec, List.mem_range]

theorem MVCtx.clSpec_lt (K : MVCtx) (A : List Nat) : ∀ g ∈ K.clSpec A, g < K.nObjects :=
  fun g hg => ((K.mem_clSpec A g).mp hg).1

theorem MVCtx.coversAll_intention_self (K : MVCtx) (X : List Nat) (g : Nat) (hg : g ∈ X) :
    K.coversAll (K.intentionI X) g = true :=
  (K.coversAll_colDesc (·.intentionI X) g).mpr fun c _ => c.covers_intention X g hg

theorem MVCtx.clSpec_extensive (K : MVCtx) (A : List Nat) (hA : ∀ g ∈ A, g < K.nObjects) :
    ∀ g ∈ A, g ∈ K.clSpec A :=
  fun g hg => (K.mem_clSpec A g).mpr ⟨hA g hg, K.coversAll_intention_self A g hg⟩

theorem MVCtx.clSpec_least (K : MVCtx) (A : List Nat) (hA : A ≠ []) (desc : Desc) (hwt : K.WellTyped desc)
    (hcov : ∀ g ∈ A, K.coversAll desc g = true) : ∀ g ∈ K.clSpec A, K.coversAll desc g = true := by
  intro g hg
  have hg2 := (K.coversAll_colDesc (·.intentionI A) g).mp ((K.mem_clSpec A g).mp hg).2
  unfold MVCtx.coversAll at hcov ⊢
  rw [List.all_eq_true]
  intro p hp
  obtain ⟨c, hc, _⟩ := hwt p hp
  rw [hc]
  refine c.intention_least A hA p.2 (fun a ha => ?_) g (hg2 c (List.mem_of_getElem? hc))
  have := List.all_eq_true.mp (hcov a ha) p hp
  rwa [hc] at this

theorem MVCtx.clSpec_subset (K : MVCtx) (A B : List Nat) (hA : A ≠ [])
    (hAB : ∀ g ∈ A, K.coversAll (K.intentionI B) g = true) : ∀ g ∈ K.clSpec A, g ∈ K.clSpec B :=
  fun g hg => (K.mem_clSpec B g).mpr
    ⟨K.clSpec_lt A g hg, K.clSpec_least A hA _ (K.wellTyped_intentionI B) hAB g hg⟩

theorem MVCtx.clSpec_mono (K : MVCtx) (A B : List Nat) (hA : A ≠ []) (hAB : ∀ g ∈ A, g ∈ B) :
    ∀ g ∈ K.clSpec A, g ∈ K.clSpec B :=
  K.clSpec_subset A B hA fun g hg => K.coversAll_intention_self B g (hAB g hg)

theorem MVCtx.clSpec_idem (K : MVCtx) (A : List Nat) (hA : A ≠ []) (hr : ∀ g ∈ A, g < K.nObjects) :
    K.clSpec (K.clSpec A) = K.clSpec A := by
  obtain ⟨a, ha⟩ := List.exists_mem_of_ne_nil A hA
  have hne : K.clSpec A ≠ [] := List.ne_nil_of_mem (K.clSpec_extensive A hr a ha)
  exact ListAux.filter_eq_of_same_mem fun g =>
    ⟨K.clSpec_subset (K.clSpec A) A hne (fun x hx => ((K.mem_clSpec A x).mp hx).2) g,
     K.clSpec_mono A (K.clSpec A) hA (K.clSpec_extensive A hr) g⟩

theorem MVCtx.clSpec_congr (K : MVCtx) (A B : List Nat) (hA : A ≠ []) (hB : B ≠ [])
    (h : ∀ g, g ∈ A ↔ g ∈ B) : K.clSpec A = K.clSpec B :=
  ListAux.filter_eq_of_same_mem fun g =>
    ⟨K.clSpec_mono A B hA (fun x => (h x).mp) g, K.clSpec_mono B A hB (fun x => (h x).mpr) g⟩

theorem MVCtx.mem_closedSets (K : MVCtx) (S : List Nat) :
    S ∈ K.closedSets ↔ S = K.extBottom ∨
      ∃ A, A ∈ Spec.sublists (List.range K.nObjects) ∧ A ≠ [] ∧ K.clSpec A = S := by
  simp only [MVCtx.closedSets, MVCtx.closedNE, List.mem_eraseDups, List.mem_cons, List.mem_map, List.mem_filter,
    Bool.not_eq_eq_eq_not, Bool.not_true, List.isEmpty_eq_false_iff, and_assoc]

theorem MVCtx.extBottom_subset_clSpec (K : MVCtx) (A : List Nat) : ∀ g ∈ K.extBottom, g ∈ K.clSpec A := by
  intro g hg
  rw [K.mem_extBottom] at hg
  exact (K.mem_clSpec A g).mpr ⟨hg.1, (K.coversAll_colDesc (·.intentionI A) g).mpr fun c hc =>
    c.covers_intention_of_bottom A g ((K.coversAll_colDesc Col.bottom g).mp hg.2 c hc)⟩

theorem MVCtx.bottomOK_iff (K : MVCtx) : K.BottomOK ↔ K.clSpec [] = K.extBottom := by
  unfold MVCtx.BottomOK
  rw [K.cl_eq]
  constructor
  · intro h
    exact ListAux.filter_eq_of_same_mem fun g =>
      ⟨h K.extBottom ((K.mem_closedSets _).mpr (Or.inl rfl)) g, K.extBottom_subset_clSpec [] g⟩
  · intro h S hS g hg
    rw [h] at hg
    rcases (K.mem_closedSets S).mp hS with rfl | ⟨A, _, _, rfl⟩
    · exact hg
    · exact K.extBottom_subset_clSpec A g hg

end Fca.MV
