/-
  The constructor with `children_dict`: on the true lower-cover relation (`CorrectCD`) the work-list loop of
  `_closed_relation_cache_by_direct_cache` returns, takes no error branch and computes exactly the strict
  down-sets; the constructed state satisfies the invariant.  `2 ^ n` units of fuel are enough for a dictionary
  with distinct keys, `wsum start + 1` for any association list.
-/
import Fca.Lemmas.PosetInitLoop
import Fca.Lemmas.PosetQuery
namespace Fca.Poset
open Fca.Poset.Fresh

section
variable {α : Type} [DecidableEq α] {leq : α → α → Bool} {E : List α}
variable (hpo : IdxPO leq E)
include hpo

/-- Under the invariant every iteration is determined (`closedByDirectLoop_step`), so one induction gives both what
    is returned and that something is. -/
theorem closedByDirectLoop_spec {cd : Cache} (hcd : CorrectCD leq E cd) (fuel : Nat) :
    ∀ (tv vis : List Nat) (cl : Cache), WL.Inv E.length (ltD leq .desc E) tv vis (fun k => alookup k cl) → Tidy cl →
      (∀ res, closedByDirectLoop cd (transposeHierarchy cd) fuel tv vis cl = .ok res →
        Tidy res ∧ ∃ vis', WL.Inv E.length (ltD leq .desc E) [] vis' fun k => alookup k res) ∧
      (wsum leq E tv < fuel → ∃ res, closedByDirectLoop cd (transposeHierarchy cd) fuel tv vis cl = .ok res) := by
  induction fuel with
  | zero => exact fun tv vis cl _ _ => ⟨fun res h => (nomatch h), fun h => (nomatch h)⟩
  | succ fuel ih =>
    intro tv vis cl I hT
    cases tv with
    | nil =>
      rw [closedByDirectLoop]
      exact ⟨fun res h => Except.ok.inj h ▸ ⟨hT, vis, I⟩, fun _ => ⟨cl, rfl⟩⟩
    | cons t ts =>
      obtain ⟨j, el, hfr, hel, hrel⟩ := WL.find_first (find := findReady cd vis)
        (r := fun x => ((alookup x cd).getD []).all fun y => decide (y ∈ vis)) (t :: ts) 0
        (fun x hx xs i => (cd_lookup hcd (I.tvLt x hx)).elim fun dr hdr => by
          simp only [findReady, hdr, Option.getD_some])
        ((I.exists_ready (hpo.strict .desc)).imp fun x ⟨hx, hr⟩ => ⟨hx,
          (cd_lookup hcd (I.tvLt x hx)).elim fun dr hdr => by
            simp only [hdr, Option.getD_some, List.all_eq_true, decide_eq_true_eq]
            exact fun y hy => have hc := ((cd_lookup_spec hcd hdr).2 y).mp hy; hr y hc.1 hc.2⟩)
      rw [Nat.zero_add] at hfr
      have heln := I.tvLt el (List.mem_of_getElem? hel)
      obtain ⟨dr, hdr⟩ := cd_lookup hcd heln
      have hvis : ∀ y ∈ dr, y ∈ vis := by
        simpa only [hdr, Option.getD_some, List.all_eq_true, decide_eq_true_eq] using hrel
      obtain ⟨tr, htr⟩ := trans_lookup hcd heln
      obtain ⟨hdrn, hdrm⟩ := cd_lookup_spec hcd hdr
      obtain ⟨htrn, htrm⟩ := trans_lookup_spec hcd htr
      obtain ⟨cl1, hfold, hcl1, hmem⟩ := closureFold_spec (fun r c h => (hT r c (alookup_mem h)).2) dr dr hdrn
        fun r hr => I.visCl r (hvis r hr)
      rw [closedByDirectLoop_step hfr hel hdr htr hfold]
      obtain ⟨ih1, ih2⟩ := ih _ _ _
        (I.step (hpo.strict .desc) hel hdrm hvis htrm (fun _ => mem_setInsert) hmem fun k => alookup_ainsert k el cl1 cl)
        (hT.ainsert el hcl1)
      exact ⟨ih1, fun hw => ih2 (Nat.lt_of_lt_of_le (Nat.lt_of_succ_le
        (WL.wsum_step (hpo.strict .desc) closed_anc_up hel heln htrn fun p hp => (htrm p).mp hp))
        (Nat.le_of_lt_succ hw))⟩

theorem closedByDirect_spec {cd : Cache} (hcd : CorrectCD leq E cd) {fuel : Nat} {dd : Cache}
    (h : closedByDirect fuel cd = .ok dd) :
    (∀ kv ∈ dd, kv.1 < E.length ∧ kv.2.Nodup ∧ ∀ x, x ∈ kv.2 ↔ ltD leq .desc E x kv.1 = true) ∧
    (∀ k, k < E.length → ∃ vs, (k, vs) ∈ dd) := by
  obtain ⟨hT, vis, hfin⟩ := (closedByDirectLoop_spec hpo hcd fuel _ _ _ (inv_start hcd) nofun).1 dd h
  refine ⟨fun kv hkv => ?_, fun k hk => (hfin.final (hpo.strict .desc) hk).imp fun v hv => alookup_mem hv.1⟩
  obtain ⟨hl, hnd⟩ := hT _ _ hkv
  obtain ⟨hk, hm⟩ := hfin.clOk kv.1 kv.2 hl
  exact ⟨hk, hnd, fun x => (hm x).trans ⟨And.right, fun h => ⟨(ltD_lt_length h).1, h⟩⟩⟩

theorem closedByDirect_returns {cd : Cache} (hcd : CorrectCD leq E cd) {fuel : Nat}
    (hf : startWeight leq E cd < fuel) : ∃ dd, closedByDirect fuel cd = .ok dd :=
  (closedByDirectLoop_spec hpo hcd fuel _ _ _ (inv_start hcd) nofun).2 hf

/-- the `leq_dict` filled from the descendants dictionary -/
theorem leqFill_spec {dd : Cache}
    (hdd : ∀ kv ∈ dd, kv.1 < E.length ∧ kv.2.Nodup ∧ ∀ x, x ∈ kv.2 ↔ ltD leq .desc E x kv.1 = true) :
    ∀ a b r, alookup (a, b) (dd.foldl (fun acc kv =>
        (List.range E.length).foldl (fun acc i => ainsert (i, kv.1) (i == kv.1 || kv.2.contains i) acc) acc)
        ([] : List ((Nat × Nat) × Bool))) = some r →
      a < E.length ∧ b < E.length ∧ r = rel leq E a b := by
  -- every entry written so far is right, for both loops
  let Good (acc : List ((Nat × Nat) × Bool)) : Prop :=
    ∀ a b r, alookup (a, b) acc = some r → a < E.length ∧ b < E.length ∧ r = rel leq E a b
  refine List.foldlRecOn (motive := Good) _ _ nofun fun acc hacc kv hkv => ?_
  obtain ⟨hk, _, hv⟩ := hdd kv hkv
  refine List.foldlRecOn (motive := Good) _ _ hacc fun acc1 hacc1 i hi a b r hl => ?_
  rw [alookup_ainsert] at hl
  split at hl
  · rename_i e
    cases e
    cases hl
    exact ⟨List.mem_range.mp hi, hk, beq_or_contains_eq_relD hpo (d := .desc) hk hv⟩
  · exact hacc1 a b r hl

/-- `POSet(elements, leq, use_cache=True, children_dict=cd)` with the true lower-cover relation -/
theorem initCD_inv {cd : Cache} (hcd : CorrectCD leq E cd) {fuel : Nat} {s : St α}
    (h : initCD fuel E cd = .ok s) : InvB leq E Ghost.none true s := by
  unfold initCD at h
  split at h
  · cases h
  · rename_i dd hdd
    obtain ⟨hddOk, hddTot⟩ := closedByDirect_spec hpo hcd hdd
    cases h
    refine InvB.ofOk rfl rfl (fun _ a b r hl => ?_) (fun _ d k v hl => ?_) (fun _ d k v hl => ?_)
    · split at hl
      · exact leqFill_spec hpo hddOk a b r hl
      · cases hl
    · cases d
      · exact hddOk _ (alookup_mem hl)
      · -- ancestors: the transposed descendants
        obtain ⟨h1, h2, h3⟩ := transpose_exact hddOk hddTot (fun _ _ => ltD_lt_length) (show alookup k _ = some v from hl)
        exact ⟨h1, h2, fun x => (h3 x).trans (by rw [show ltD leq .anc E x k = _ from ltD_flip .desc E x k])⟩
    · cases d
      · exact hcd.entry _ (alookup_mem hl)
      · -- parents: the transposed children
        obtain ⟨h1, h2, h3⟩ := transpose_exact hcd.entry hcd.total
          (fun _ _ hc => ltD_lt_length (isCover_iff.mp hc).1) (show alookup k _ = some v from hl)
        exact ⟨h1, h2, fun x => (h3 x).trans (isCover_flip (d := .desc)).symm⟩

theorem initCD_returns {cd : Cache} (hcd : CorrectCD leq E cd) {fuel : Nat}
    (hf : startWeight leq E cd < fuel) : ∃ s : St α, initCD fuel E cd = .ok s := by
  obtain ⟨dd, hdd⟩ := closedByDirect_returns hpo hcd hf
  unfold initCD
  rw [hdd]
  exact ⟨_, rfl⟩

end

section
variable {α : Type} [DecidableEq α]

/-- `CorrectCD` as a test, to exhibit concrete instances of the hypotheses -/
def cdCheck (leq : α → α → Bool) (E : List α) (cd : Cache) : Bool :=
  cd.all (fun kv => decide (kv.1 < E.length) && decide kv.2.Nodup && kv.2.all (fun x => decide (x < E.length))
      && (List.range E.length).all (fun x => decide (x ∈ kv.2) == isCover leq .desc E x kv.1))
    && (List.range E.length).all (fun k => cd.any (fun kv => kv.1 == k))

theorem correctCD_of_check {leq : α → α → Bool} {E : List α} {cd : Cache} (h : cdCheck leq E cd = true) :
    CorrectCD leq E cd := by
  unfold cdCheck at h
  simp only [Bool.and_eq_true, List.all_eq_true, decide_eq_true_eq, List.mem_range, beq_iff_eq,
    List.any_eq_true] at h
  obtain ⟨h1, h2⟩ := h
  refine ⟨fun kv hkv => ?_, fun k hk => ?_⟩
  · obtain ⟨⟨⟨ha, hb⟩, hc⟩, hd⟩ := h1 kv hkv
    refine ⟨ha, hb, fun x => ?_⟩
    by_cases hx : x < E.length
    · rw [← hd x hx, decide_eq_true_eq]
    · exact ⟨fun hm => absurd (hc x hm) hx, fun hcov => absurd (ltD_lt_length (isCover_iff.mp hcov).1).1 hx⟩
  · obtain ⟨kv, hkv, e⟩ := h2 k hk
    exact ⟨kv.2, e ▸ hkv⟩

end

/-! The real loop makes one iteration per upward cover-path that starts at a minimal element
  (`P(x) = 1 + Σ_{p parent of x} P(p)`, summed over the minimal elements), not one per element: `n` on a chain, about
  `e · k!` on the Boolean lattice with `k` atoms (`n = 2 ^ k` elements), more than `2 ^ (n/2)` on a stack of
  two-element layers each element of which covers both elements of the layer below.  So no polynomial bound holds
  and `2 ^ n` is of the right kind.  This is an observation on the performance of the real code, not a violation of
  the property; that the count is exactly the number of cover-paths is not proved.  The examples give the count of
  the model, one unit of fuel per iteration plus one for the final emptiness test: 5 and 16 iterations on the
  Boolean lattices with 2 and 3 atoms (index = bit mask), 4 on a 4-chain. -/

def ranOut (r : Except PyErr Cache) : Bool :=
  match r with
  | .error .OutOfFuel => true
  | _ => false

def returned (r : Except PyErr Cache) : Bool :=
  match r with
  | .ok _ => true
  | .error _ => false

example : ranOut (closedByDirect 5 [(0, []), (1, [0]), (2, [0]), (3, [1, 2])]) = true
    ∧ returned (closedByDirect 6 [(0, []), (1, [0]), (2, [0]), (3, [1, 2])]) = true := by
  decide +kernel

example : ranOut (closedByDirect 16 [(0, []), (1, [0]), (2, [0]), (3, [1, 2]), (4, [0]), (5, [1, 4]), (6, [2, 4]),
      (7, [3, 5, 6])]) = true
    ∧ returned (closedByDirect 17 [(0, []), (1, [0]), (2, [0]), (3, [1, 2]), (4, [0]), (5, [1, 4]), (6, [2, 4]),
      (7, [3, 5, 6])]) = true := by
  decide +kernel

example : ranOut (closedByDirect 4 [(0, []), (1, [0]), (2, [1]), (3, [2])]) = true
    ∧ returned (closedByDirect 5 [(0, []), (1, [0]), (2, [1]), (3, [2])]) = true := by
  decide +kernel

/-- without distinct keys `2 ^ n` is not enough: one element listed three times is popped three times -/
example : ranOut (closedByDirect (fuelBound 1) [(0, []), (0, []), (0, [])]) = true := by decide +kernel

end Fca.Poset
