/-
  `all_i` / `any_i` of every backend are order-preserving filters of the selection: each backend pairs the flag
  vector with the selection (`none` = `range n`) in its own way.
-/
import Fca.Model.Context
import Fca.Spec.Concepts
import Fca.Lemmas.BinTable
namespace Fca

theorem L.pairFilter_map (sel : Option (List Nat)) (n : Nat) (p : Nat → Bool) :
    L.pairFilter sel ((sel.getD (List.range n)).map p) = (sel.getD (List.range n)).filter p := by
  cases sel with
  | none => simp only [L.pairFilter, Option.getD_none, List.length_map, List.length_range, zipFilter_map]
  | some idx => exact zipFilter_map idx p

theorem B.pickI_map (sel : Option (List Nat)) (n : Nat) (p : Nat → Bool) :
    B.pickI sel ((sel.getD (List.range n)).map p) = (sel.getD (List.range n)).filter p := by
  cases sel with
  | none => exact search1_map_range n p
  | some idx => exact search1_pick idx p

theorem N.maskI_map (sel : Option (List Nat)) (n : Nat) (p : Nat → Bool) :
    N.maskI sel n ((sel.getD (List.range n)).map p) = (sel.getD (List.range n)).filter p :=
  zipFilter_map _ p

section
variable (t : Table) (h : t.WF) (b : Backend) (rows cols : Option (List Nat))
  (hr : ∀ rs, rows = some rs → ∀ i ∈ rs, i < t.height) (hc : ∀ cs, cols = some cs → ∀ c ∈ cs, c < t.width)
include h hr hc

theorem allI_axis1 : allI b t 1 rows cols
    = (rows.getD (List.range t.height)).filter fun i =>
        (cols.getD (List.range t.width)).all fun j => t.get i j := by
  cases b
  · exact (congrArg _ (L.allPerRow_eq t h rows cols hr)).trans (L.pairFilter_map ..)
  · exact (congrArg _ (B.allPerRow_eq t h rows cols hr hc)).trans (B.pickI_map ..)
  · exact (congrArg _ (N.allAxis1_eq t h rows cols hr)).trans (N.maskI_map ..)

theorem anyI_axis1 : anyI b t 1 rows cols
    = (rows.getD (List.range t.height)).filter fun i =>
        (cols.getD (List.range t.width)).any fun j => t.get i j := by
  cases b
  · exact (congrArg _ (L.anyPerRow_eq t h rows cols hr)).trans (L.pairFilter_map ..)
  · exact (congrArg _ (B.anyPerRow_eq t h rows cols hr hc)).trans (B.pickI_map ..)
  · exact (congrArg _ (N.anyAxis1_eq t h rows cols hr)).trans (N.maskI_map ..)

theorem allI_axis0 : allI b t 0 rows cols
    = (cols.getD (List.range t.width)).filter fun c =>
        (rows.getD (List.range t.height)).all fun i => t.get i c := by
  cases b
  · exact (congrArg _ (L.allPerColumn_eq t rows cols)).trans (L.pairFilter_map ..)
  · exact (congrArg _ (B.allPerColumn_eq t h rows cols hr hc)).trans (B.pickI_map ..)
  · exact (congrArg _ (N.allAxis0_eq t h rows cols hr)).trans (N.maskI_map ..)

theorem anyI_axis0 : anyI b t 0 rows cols
    = (cols.getD (List.range t.width)).filter fun c =>
        (rows.getD (List.range t.height)).any fun i => t.get i c := by
  cases b
  · exact (congrArg _ (L.anyPerColumn_eq t rows cols)).trans (L.pairFilter_map ..)
  · exact (congrArg _ (B.anyPerColumn_eq t h rows cols hr hc)).trans (B.pickI_map ..)
  · exact (congrArg _ (N.anyAxis0_eq t h rows cols hr)).trans (N.maskI_map ..)

end

/-- `extension_i` / `intention_i` answer the empty selection with the whole base without asking the table, which is what
    the filter gives as well: the guard is an optimisation -/
theorem emptySel_guard {sel : List Nat} {base : Option (List Nat)} {n : Nat} {X : List Nat} {p : Nat → Nat → Bool}
    (hX : X = (base.getD (List.range n)).filter fun x => sel.all (p x)) :
    (if sel.length = 0 then match (generalizing := false) base with | none => List.range n | some bs => bs else X)
      = (base.getD (List.range n)).filter fun x => sel.all (p x) := by
  cases sel with
  | nil => cases base <;> exact (List.filter_eq_self.mpr fun _ _ => rfl).symm
  | cons a s => exact hX

theorem Ctx.extensionI_eq (K : Ctx) (hwf : K.table.WF) (B : List Nat) (base : Option (List Nat))
    (hB : ∀ a ∈ B, a < K.nAttributes) (hbase : ∀ bs, base = some bs → ∀ g ∈ bs, g < K.nObjects) :
    K.extensionI B base = Spec.ext K.table B (base.getD (List.range K.nObjects)) :=
  emptySel_guard (allI_axis1 K.table hwf K.backend base (some B) hbase (OptIdx.valid_some hB))

theorem Ctx.intentionI_eq (K : Ctx) (hwf : K.table.WF) (A : List Nat) (base : Option (List Nat))
    (hA : ∀ g ∈ A, g < K.nObjects) (hbase : ∀ bs, base = some bs → ∀ a ∈ bs, a < K.nAttributes) :
    K.intentionI A base = Spec.int K.table A (base.getD (List.range K.nAttributes)) :=
  emptySel_guard (allI_axis0 K.table hwf K.backend (some A) base (OptIdx.valid_some hA) hbase)

/-- `context.intention_i(gs)` (no base) is `gs'` in context order, on every backend -/
theorem Ctx.intentionI_none (K : Ctx) (hwf : K.table.WF) {A : List Nat} (hA : ∀ g ∈ A, g < K.table.height) :
    K.intentionI A none = Spec.intAll K.table A :=
  K.intentionI_eq hwf A none hA fun _ h => nomatch h

theorem Ctx.extensionI_none (K : Ctx) (hwf : K.table.WF) {B : List Nat} (hB : ∀ a ∈ B, a < K.table.width) :
    K.extensionI B none = Spec.extAll K.table B :=
  K.extensionI_eq hwf B none hB fun _ h => nomatch h

end Fca
