/-
  Lemmas/SemiLatticeFull — the complete invariant `InvAll` (`InvTop`, C09's cache invariant, `DIC`): the constructors
  establish it; under it the `POSet` method inside a non-refused mutation returns with sound caches, so the mutation
  re-establishes `InvAll` and answers as specified; a query answers as C09 says (`StepRel.full`).
-/
import Fca.Lemmas.SemiLatticeAdd
import Fca.Lemmas.SemiLatticeHist
import Fca.Props.C09
namespace Fca.SemiLattice
open Fca.Poset Fca.Poset.Fresh Fca.SemiLattice.Spec

section
variable {α : Type} {leq : α → α → Bool}

/-- the checks of the sides run in the order of the index updates (bottom side first) -/
theorem ctor_eq_updSides {cls : Cls} {E : List α} (c : Bool) (hE : E ≠ []) :
    ctor leq cls E c = match updSides cls (fun d => ctorSide leq d c) ⟨cls, init E c, none, none⟩ with
      | (s, .ok ()) => .ok s
      | (_, .error e) => .error e := by
  unfold ctor
  rw [if_neg fun h => hE (List.length_eq_zero_iff.mp h)]
  cases cls <;> rfl

end

section
variable {α : Type} [DecidableEq α] {leq : α → α → Bool} {ord : List Nat → List Nat} {U : α → Prop}

structure InvAll (leq : α → α → Bool) (s : SL α) : Prop where
  top : InvTop leq s
  nd : s.p.elems.Nodup
  inv : InvB leq s.p.elems Ghost.none s.p.useCache s.p
  dic : s.p.useCache = true → DIC s.p.elems.length s.p.elems.length s.p

omit [DecidableEq α] in
/-- `InvAll` from the cache invariant over a named element list and flag, the shape every producer has it in -/
theorem InvAll.of {s : SL α} {E : List α} {c : Bool} (hI : InvTop leq s) (hnd : E.Nodup)
    (hinv : InvB leq E Ghost.none c s.p) (hdic : c = true → DIC E.length E.length s.p) : InvAll leq s := by
  obtain rfl := hinv.elems
  obtain rfl := hinv.flag
  exact ⟨hI, hnd, hinv, hdic⟩

/-- the check of one side changes the poset part by the `POSet.tops / bottoms` scan only, which keeps the cache
    invariant and `DIC` -/
theorem ctorSide_run {E : List α} (hpo : IdxPO leq E) {c : Bool} {n x : Nat} {s : SL α}
    (hP : InvB leq E Ghost.none c s.p ∧ DIC n x s.p) (d : Dir) :
    ((∃ t, isExt leq d E t = true) → ∃ p co, ctorSide leq d c s = (({ s with p := p } : SL α).setCache d co, .ok ()) ∧
      (InvB leq E Ghost.none c p ∧ DIC n x p) ∧ ∃ t, isExt leq d E t = true ∧ (c = true → co = some t)) ∧
    ((¬ ∃ t, isExt leq d E t = true) → ∃ s', ctorSide leq d c s = (s', .error .ValueError)) := by
  obtain ⟨h, hdic⟩ := hP
  obtain ⟨p', b, hrun, hinv, rfl⟩ := extremesE_fills_closed hpo h d
  have hdic' : DIC n x p' := (keeps_extremesE (keeps_closedE (stable_dic n x)) d).run hdic hrun
  have hcs : ctorSide leq d c s = (if ((extremes leq d E).length != 1) = true then ML.throw .ValueError
      else if c = true then ML.modify fun s => s.setCache d (extremes leq d E).head?
      else pure ()) ({ s with p := p' } : SL α) := by
    unfold ctorSide
    exact bind_ok (lift_eq hrun)
  rw [hcs]
  constructor
  · rintro ⟨t, ht⟩
    rw [extremes_of_isExt hpo ht]
    refine ⟨p', if c = true then some t else s.cache d, ?_, ⟨hinv.dropClosedP, hdic'⟩, t, ht, fun hc => if_pos hc⟩
    cases c
    · cases d <;> rfl
    · rfl
  · intro hno
    have : ((extremes leq d E).length != 1) = true := by
      simpa using fun h1 => hno ((extremes_length_one_iff hpo).mp h1)
    rw [this]
    exact ⟨_, rfl⟩

theorem ctor_run (hpoU : PO leq U) (cls : Cls) (E : List α) (c : Bool) (hnd : E.Nodup) (hU : ∀ a ∈ E, U a) :
    (E ≠ [] ∧ HasExtremes leq cls E →
      ∃ s, ctor leq cls E c = .ok s ∧ s.cls = cls ∧ s.p.elems = E ∧ s.p.useCache = c ∧ InvAll leq s) ∧
    (¬ (E ≠ [] ∧ HasExtremes leq cls E) → ctor leq cls E c = .error .ValueError) := by
  by_cases hE : E = []
  · subst hE
    exact ⟨fun h => absurd rfl h.1, fun _ => rfl⟩
  have hpo : IdxPO leq E := idxPO_of hpoU hnd hU
  have d0 : DIC E.length E.length (init E c) := fun d k _ _ hp => by cases d <;> simp [init, St.direct] at hp
  obtain ⟨hyes, hno⟩ := updSides_cases (cls := cls) (v := fun d => ctorSide leq d c)
    (s1 := ⟨cls, init E c, none, none⟩)
    (P := fun p => InvB leq E Ghost.none c p ∧ DIC E.length E.length p)
    (ok := fun d => ∃ t, isExt leq d E t = true)
    (Q := fun d co => ∃ t, isExt leq d E t = true ∧ (c = true → co = some t)) (err := .ValueError)
    (fun d _ s' hP _ => ctorSide_run hpo hP d)
    ⟨(C09.inv_init E c hnd).2, d0⟩
  rw [ctor_eq_updSides c hE]
  constructor
  · rintro ⟨-, hex⟩
    obtain ⟨s, hr, ⟨hinv, hdic⟩, (hcls : s.cls = cls), hq⟩ := hyes hex
    rw [hr]
    refine ⟨s, rfl, hcls, hinv.elems, hinv.flag, .of ⟨fun d hd => ?_⟩ hnd hinv fun _ => hdic⟩
    obtain ⟨t, ht, hct⟩ := hq d (hcls ▸ hd)
    exact ⟨t, by rw [hinv.elems]; exact ht, fun hu => hct (by rw [← hinv.flag]; exact hu)⟩
  · intro hn
    obtain ⟨s', hr⟩ := hno fun hall => hn ⟨hE, hall⟩
    rw [hr]

theorem ctor_ok (hpoU : PO leq U) (cls : Cls) (E : List α) (c : Bool) (hnd : E.Nodup) (hU : ∀ a ∈ E, U a)
    {s : SL α} (hs : ctor leq cls E c = .ok s) :
    (E ≠ [] ∧ HasExtremes leq cls E) ∧ s.cls = cls ∧ s.p.elems = E ∧ s.p.useCache = c ∧ InvAll leq s := by
  obtain ⟨hyes, hno⟩ := ctor_run (leq := leq) hpoU cls E c hnd hU
  have hP : E ≠ [] ∧ HasExtremes leq cls E := Classical.byContradiction fun hn => by
    rw [hno hn] at hs
    cases hs
  obtain ⟨s', hs', rest⟩ := hyes hP
  rw [hs] at hs'
  cases hs'
  exact ⟨hP, rest⟩

theorem answerSL_op {cls : Cls} {E : List α} {o : Op α} (hne : ∀ d, o = .extremes d → cls.has d = false) :
    answerSL leq cls E (.op o) = match refusal leq cls E o with
      | some e => .err e
      | none => answer leq E o := by
  cases o with
  | extremes d => simp only [answerSL, hne d rfl, refusal]; rfl
  | _ => rfl

theorem answer_mutation_unit {cls : Cls} {E : List α} {o : Op α} (hm : isMutation o = true)
    (hr : refusal leq cls E o = none) : answer leq E o = .unit := by
  cases o with
  | add e f => rfl
  | del k => simp [answer, (refusal_del_eq_none hr).1]
  | remove e =>
    obtain ⟨i, hi⟩ := indexOf?_some_of_mem (refusal_remove_eq_none hr).1
    simp [answer, hi]
  | _ => cases hm

theorem ctor_of_same_set (hpoU : PO leq U) {s : SL α} (hI : InvTop leq s) (hU : ∀ a ∈ s.p.elems, U a)
    {Eb : List α} (c : Bool) (hndb : Eb.Nodup) (hb : ∀ x, x ∈ s.p.elems ↔ x ∈ Eb) :
    ∃ b, ctor leq s.cls Eb c = .ok b ∧ b.p.elems = Eb ∧ InvAll leq b := by
  have hH : HasExtremes leq s.cls s.p.elems := fun d hd => (hI.ext d hd).imp fun _ h => h.1
  have hne : Eb ≠ [] := by
    rintro rfl
    obtain ⟨d, hd⟩ : ∃ d, s.cls.has d = true := by
      cases s.cls
      · exact ⟨.anc, rfl⟩
      · exact ⟨.desc, rfl⟩
      · exact ⟨.anc, rfl⟩
    obtain ⟨t, ht⟩ := hH d hd
    exact List.not_mem_nil ((hb _).mp (List.getElem_mem (isExt_iff.mp ht).1))
  obtain ⟨b, hbok, -, hbe, -, hA⟩ := (ctor_run hpoU s.cls Eb c hndb fun a ha => hU a ((hb a).mpr ha)).1
    ⟨hne, hasExtremes_congr hb hH⟩
  exact ⟨b, hbok, hbe, hA⟩

section Full
variable (henv : C09.Env leq ord U) {s : SL α} (hA : InvAll leq s) (hU : ∀ a ∈ s.p.elems, U a)
include henv hA hU

theorem posetAddSL_full {e : α} (heU : U e) (fill : Bool) :
    ∃ s1, posetAddSL leq ord e fill s = (s1, .ok ()) ∧
      InvB leq (next s.p.elems (.add e fill)) Ghost.none s.p.useCache s1.p ∧
      (s.p.useCache = true →
        DIC (next s.p.elems (.add e fill)).length (next s.p.elems (.add e fill)).length s1.p) := by
  have hpo : IdxPO leq s.p.elems := idxPO_of henv.po hA.nd hU
  unfold posetAddSL
  rw [bind_ok (get_apply s)]
  simp only [next]
  by_cases he : e ∈ s.p.elems
  · simp only [he, ↓reduceIte]
    exact ⟨s, rfl, hA.inv, hA.dic⟩
  simp only [he, ↓reduceIte]
  -- the `if self._use_cache:` block returns, and what is left is to append `e`
  suffices h : ∃ p1, posetAddCacheSL leq ord e fill s = ({ s with p := p1 }, .ok ()) ∧
      InvB leq (s.p.elems ++ [e]) Ghost.none s.p.useCache { p1 with elems := p1.elems ++ [e] } ∧
      (s.p.useCache = true → DIC (s.p.elems ++ [e]).length (s.p.elems ++ [e]).length p1) by
    obtain ⟨p1, hc, hinv, hdic⟩ := h
    exact ⟨_, (bind_ok hc).trans rfl, hinv, hdic⟩
  unfold posetAddCacheSL
  rw [bind_ok (get_apply s)]
  cases huc : s.p.useCache
  · have hinv := hA.inv
    rw [huc] at hinv
    exact ⟨s.p, rfl, add_uncached_inv hinv, fun h => by cases h⟩
  have hinv := hA.inv
  rw [huc] at hinv
  cases fill
  · -- `fill_up_cache=False`: the four relation caches are wiped
    refine ⟨{ s.p with descC := [], ancC := [], chilC := [], parC := [] }, rfl, add_nofill_inv (s := s.p) hinv,
      fun _ d k _ _ hp => ?_⟩
    cases d <;> simp [St.direct] at hp
  · have hpo' : IdxPO leq (s.p.elems ++ [e]) := by
      have := idxPO_of henv.po (next_nodup hA.nd (.add e true)) (next_U hU (.add e true) heU)
      rwa [show next s.p.elems (.add e true) = s.p.elems ++ [e] from if_neg he] at this
    obtain ⟨p6, cl, dr, hfill, hP, hD⟩ := posetAddFillSL_dic (ord := ord) hpo hpo' henv.ord_perm hinv
      (fun d hd => by
        obtain ⟨t, ht, hc⟩ := hA.top.ext d hd
        exact ⟨t, ht, hc huc⟩)
      (hA.dic huc)
    refine ⟨p6, hfill, Weak.patchInv_final hP, fun _ d k hk hx hp => ?_⟩
    by_cases hkn : k = s.p.elems.length
    · rw [hkn, hP.closedNew d]
      rfl
    · rw [List.length_append, List.length_singleton] at hk
      exact hD d k (Nat.lt_of_le_of_ne (Nat.le_of_lt_succ hk) hkn) hkn hp

theorem liftDel_full {k : Nat} (hk : k < s.p.elems.length) :
    ∃ s1, ML.lift (delE ord k) s = (s1, .ok ()) ∧
      InvB leq (s.p.elems.eraseIdx k) Ghost.none s.p.useCache s1.p ∧
      (s.p.useCache = true → DIC (s.p.elems.eraseIdx k).length (s.p.elems.eraseIdx k).length s1.p) := by
  obtain ⟨p1, u, hrun, hinv1⟩ := delE_spec (idxPO_of henv.po hA.nd hU) henv.ord_perm hk hA.inv
  have hrun' : delE ord k s.p = (p1, .ok ()) := hrun
  refine ⟨_, lift_eq hrun', hinv1, fun hu => ?_⟩
  rw [List.length_eraseIdx_of_lt hk]
  have := delE_dic (ord := ord) hk hk hu (by rw [hrun']) (hA.dic hu)
  rwa [hrun'] at this

theorem bodySL_full {o : Op α} (hin : OpIn U o) (hm : isMutation o = true)
    (hr : refusal leq s.cls s.p.elems o = none) :
    ∃ s1, bodySL leq ord o s = (s1, .ok ()) ∧ InvB leq (next s.p.elems o) Ghost.none s.p.useCache s1.p ∧
      (s.p.useCache = true → DIC (next s.p.elems o).length (next s.p.elems o).length s1.p) := by
  cases o with
  | add e f => exact posetAddSL_full henv hA hU hin f
  | del k => exact liftDel_full henv hA hU (refusal_del_eq_none hr).1
  | remove e =>
    obtain ⟨i, hi⟩ := indexOf?_some_of_mem (refusal_remove_eq_none hr).1
    simp only [next, hi, bodySL, lift_removeE hi]
    exact liftDel_full henv hA hU (List.getElem?_eq_some_iff.mp (indexOf?_spec hi)).1
  | _ => cases hm

/-- Under `InvAll` a step in the documented range re-establishes `InvAll` and answers as specified: a query by C09's
    step theorem, a mutation because `bodySL_full` leaves `refused` and `done` only. -/
theorem StepRel.full {op : OpSL α} {res : SL α × Out} (h : StepRel leq ord s op res)
    (hok : opOkSL s.cls s.p.elems s.p.useCache op = true) (hin : OpInSL U op) :
    InvAll leq res.1 ∧ res.2 = answerSL leq s.cls s.p.elems op ∧ res.1.p.elems = nextSL leq s.cls s.p.elems op ∧
      res.1.cls = s.cls ∧ res.1.p.useCache = s.p.useCache := by
  cases h with
  | extreme hd hg | extremes hd hg => exact ⟨hA, by simp only [answerSL, hd, ↓reduceIte, hg], rfl, rfl, rfl⟩
  | noExtreme hd =>
    rw [show opOkSL s.cls s.p.elems s.p.useCache (.extreme _) = s.cls.has _ from rfl, hd] at hok
    cases hok
  | @query o ho hne =>
    obtain ⟨h1, h2⟩ := step_spec_full henv.po henv.ord_perm hA.nd hU hA.inv o hok (opIn_query ho)
    rw [next_query ho] at h1
    have f1 := h1.elems
    have f2 := h1.flag
    rw [answerSL_op hne, refusal_query ho]
    refine ⟨.of (invTop_of_frame hA.top rfl f1 f2 fun _ => rfl) hA.nd h1 fun hu =>
      step_query_keeps (leq := leq) (ord := ord) (stable_dic _ _) s.p o ho (hA.dic hu), h2, ?_, rfl, f2⟩
    simp only [nextSL, refusal_query ho, next_query ho]
    exact f1
  | refused hr =>
    refine ⟨hA, ?_, by simp only [nextSL, hr], rfl, rfl⟩
    rw [answerSL_op (fun d hd => by subst hd; cases hr), hr]
  | raised hm hr hb =>
    obtain ⟨s1', hb', -⟩ := bodySL_full henv hA hU hin hm hr
    rw [hb] at hb'
    cases hb'
  | @done o s1 s' hm hr hb hp hc he hu hI' =>
    obtain ⟨s1', hb', hinv, hdic⟩ := bodySL_full henv hA hU hin hm hr
    rw [hb] at hb'
    obtain ⟨rfl, -⟩ := Prod.mk.inj hb'
    refine ⟨.of hI' (next_nodup hA.nd o) (hp ▸ hinv) fun h' => hp ▸ hdic h', ?_, by simp only [nextSL, hr]; exact he,
      hc, hu⟩
    rw [answerSL_op (fun d hd => by subst hd; cases hm), hr, answer_mutation_unit hm hr]

theorem stepSL_query_out {o : Op α} (ho : isMutation o = false)
    (hne : ∀ d, o = .extremes d → s.cls.has d = false) (hok : opOk s.p.elems s.p.useCache o = true) :
    (stepSL leq ord s (.op o)).2 = answer leq s.p.elems o := by
  rw [stepSL_query ho hne]
  exact (step_spec_full henv.po henv.ord_perm hA.nd hU hA.inv o hok (opIn_query ho)).2

theorem stepSL_leq_out {i j : Nat} {x y : α} (hi : s.p.elems[i]? = some x) (hj : s.p.elems[j]? = some y) :
    (stepSL leq ord s (.op (.leq i j))).2 = .bool (leq x y) := by
  have hl := (List.getElem?_eq_some_iff.mp hi).1
  have hl' := (List.getElem?_eq_some_iff.mp hj).1
  rw [stepSL_query_out henv hA hU rfl (fun _ h => by cases h) (by simp [opOk, hl, hl'])]
  simp [answer, hl, hl', show rel leq s.p.elems i j = leq x y from relD_elem (d := .desc) hi hj]

theorem stepSL_closed_out (d : Dir) {i : Nat} (hi : i < s.p.elems.length) :
    (stepSL leq ord s (.op (.closed d i))).2 = .set (closed leq d s.p.elems i) := by
  rw [stepSL_query_out henv hA hU rfl (fun _ h => by cases h) (by simp [opOk, hi])]
  simp [answer, hi]

theorem stepSL_direct_out (d : Dir) {i : Nat} (hi : i < s.p.elems.length) :
    (stepSL leq ord s (.op (.direct d i))).2 = .set (direct leq d s.p.elems i) := by
  rw [stepSL_query_out henv hA hU rfl (fun _ h => by cases h) (by simp [opOk, hi])]
  simp [answer, hi]

end Full

/-- every operation of the history is in the documented range (`opOkSL`) when it is executed (specification
    level: the element list is threaded through `nextSL`) -/
def histOk (leq : α → α → Bool) (cls : Cls) (c : Bool) : List α → List (OpSL α) → Bool
  | _, [] => true
  | E, op :: ops => opOkSL cls E c op && histOk leq cls c (nextSL leq cls E op) ops

theorem refusalSL_of_answer_err {cls : Cls} {E : List α} {op : OpSL α} {e : PyErr} (hm : isMutationSL op = true)
    (h : answerSL leq cls E op = .err e) : refusalSL leq cls E op = some e := by
  cases op with
  | extreme d => cases hm
  | op o =>
    rw [answerSL_op fun d hd => by subst hd; cases hm] at h
    show refusal leq cls E o = some e
    cases hr : refusal leq cls E o with
    | some er =>
      rw [hr] at h
      cases h
      rfl
    | none =>
      rw [hr, answer_mutation_unit hm hr] at h
      cases h

end
end Fca.SemiLattice
