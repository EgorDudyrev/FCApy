/-
  Fca.Lemmas.Sofia — `sofia` on a formal context.
  `sofiaExtents` (Model/Sofia) and `SofiaApprox.sofiaMasks` (Model/SofiaApprox) are two models of the same Python
  loop; they differ in how they spell it (`mergeSort` / insertion sort, a comprehension over indexes / a counter
  loop, a threshold read with a default / `IndexError`, a natural-number `min_supp` / a fraction, `foldl` /
  recursion).  `sofiaMasks_eq`: the first is the second at the constant tie order, the log bound and the threshold
  `minSupp / 1`.  Soundness is then read off the loop invariant `SofiaApprox.Inv`; `C02.sofia_nonbinding_exact` adds
  `SofiaApprox.Complete`.
-/
import Fca.Lemmas.CbOTable
import Fca.Lemmas.SofiaApprox
import Fca.Model.Sofia
namespace Fca.SofiaL
open Fca.Spec Fca.SofiaApprox

theorem stabilityLBounds_eq (exts : List Mask) : stabilityLBounds exts = boundLog exts := by
  unfold boundLog
  rw [ListAux.zipIdx_map_eq_range_map []]
  rfl

theorem sortDescInt_eq (xs : List Int) : sortDescInt xs = (isort (fun a b => decide (a ≤ b)) xs).reverse :=
  congrArg List.reverse (mergeSort_eq_isort_key id (fun _ _ _ => Int.le_trans) Int.le_total xs)

/-- the pruning block: entered on the same test, and then the threshold that `sofiaPrune` reads with a default is
    in range -/
theorem pruneBlock_eq (u : List Mask) (lMax : Nat) :
    (if u.length > lMax then prune lMax u (boundLog u) else .ok u) =
      .ok (if u.length > lMax then sofiaPrune u lMax else u) := by
  split
  · rw [prune_eq (measLen_boundLog u) ‹_›, sofiaPrune, stabilityLBounds_eq, sortDescInt_eq]
  · rfl

/-- a natural-number `min_supp` is the threshold `m / 1` -/
theorem below_one (m n c : Nat) : (MinSupp.mk m 1).below n c = decide (c < m) := by
  have : (MinSupp.mk m 1).thrNum n = m := by
    cases m with
    | zero => exact Nat.zero_mul n
    | succ m => rfl
  rw [MinSupp.below, this, Nat.mul_one]

theorem supportFilter_eq (m n : Nat) (s : List Mask) :
    supportFilter ⟨m, 1⟩ n s = s.take 1 ++ (s.drop 1).filter fun e => decide (baCount e ≥ m) := by
  cases s with
  | nil => rfl
  | cons x xs =>
    refine congrArg (x :: ·) (List.filter_congr fun e _ => ?_)
    rw [below_one, ← decide_not]
    exact decide_eq_decide.mpr Nat.not_lt

/-- `sofiaStep` in the words of the other model: its `kept` is `stepPre` at the constant tie order -/
theorem sofiaStep_eq_stepPre (tie : List Mask → List Mask) (lMax m n j : Nat) (ep : List Mask) (col : Mask) :
    sofiaStep tie lMax m ep col =
      if pyAll col then ep else if count col < m then ep else
      if (stepPre (fun _ => tie) ⟨m, 1⟩ n j ep col).length > lMax
      then sofiaPrune (stepPre (fun _ => tie) ⟨m, 1⟩ n j ep col) lMax
      else stepPre (fun _ => tie) ⟨m, 1⟩ n j ep col := by
  rw [stepPre, supportFilter_eq, sortByCount, ← mergeSort_eq_isort_key count (fun _ _ _ => Nat.le_trans) Nat.le_total]
  rfl

/-- one iteration of the loop; in particular it never raises -/
theorem sofiaStep_eq (tie : List Mask → List Mask) (lMax m n j : Nat) (ep : List Mask) (col : Mask) :
    step (fun _ => tie) boundLog ⟨m, 1⟩ n lMax j ep col = .ok (sofiaStep tie lMax m ep col) := by
  rw [sofiaStep_eq_stepPre tie lMax m n j, step, below_one, pruneBlock_eq]
  -- the same chain of tests on both sides; `.ok` moves under them
  simp only [decide_eq_true_eq, apply_ite Except.ok]

theorem loop_eq_foldl (tie : List Mask → List Mask) (lMax m : Nat) (t : Table) (js : List Nat) :
    ∀ ep : List Mask, loop (fun _ => tie) boundLog ⟨m, 1⟩ lMax t ep js =
      .ok (js.foldl (fun ep a => sofiaStep tie lMax m ep (attrExtentBa t a)) ep) := by
  induction js with
  | nil => exact fun _ => rfl
  | cons j js ih =>
    intro ep
    rw [loop, sofiaStep_eq]
    exact ih _

theorem sofiaMasks_eq (tie : List Mask → List Mask) (lMax m : Nat) (t : Table) :
    sofiaMasks (fun _ => tie) boundLog ⟨m, 1⟩ lMax t = .ok (sofiaExtents t tie lMax m) :=
  loop_eq_foldl tie lMax m t _ _

theorem key_of_mask (K : Ctx) (hwf : K.table.WF) (B : List Nat) :
    conceptKey (K.fromObjects (search1 (maskOf K.table B)) true) = (extAll K.table B, closureAttr K.table B) := by
  rw [search1_maskOf, CbOM.key_fromObjects_true K hwf (extAll_lt K.table),
    sortIdx_eq_self_of_sorted (extAll_sorted K.table _)]
  rfl

theorem sofia_sound_nodup (K : Ctx) (hwf : K.table.WF) (tie : List (List Bool) → List (List Bool))
    (htie : ∀ l, (tie l).Perm l) (lMax minSupp : Nat) :
    SoundNodup K.table (sofia K tie lMax minSupp) := by
  obtain ⟨out, hout, hinv⟩ := inv_sofiaMasks (tie := fun _ => tie) (fun _ => htie) measLen_boundLog
    ⟨minSupp, 1⟩ lMax K.table
  cases (sofiaMasks_eq tie lMax minSupp K.table).symm.trans hout
  have ⟨hnd, hsub⟩ := concepts_of_masks (f := fun e => conceptKey (K.fromObjects (search1 e) true))
    (key_of_mask K hwf) hinv.nodup (hinv.gen_lt (applied_lt _ _))
  rw [SoundNodup, sofia, List.map_map]
  exact ⟨hnd, fun A B => hsub (A, B)⟩

end Fca.SofiaL
