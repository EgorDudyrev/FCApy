/-
  Fca.Lemmas.LatticeQueryConcept — the concept order (`FormalConcept.__le__`) on a duplicate-free list of
  concepts of one table (`IsConceptSub`: e.g. what remains after `del L[i]` / `L.remove(c)`) is a partial order =
  extent inclusion, so the `PQ` queries answer with sub- and super-extents and covers *within the list*.
  In a list of all concepts (`IsConceptList`) every concept of the table has a position, so the extrema exist.
-/
import Fca.Lemmas.LatticeQuery
import Fca.Lemmas.Galois
import Fca.Lemmas.ExtentOrder
import Fca.Lemmas.Concept
import Fca.Lemmas.Names
import Fca.Spec.LatticeQuery
namespace Fca.LQ
open Fca.Spec

/-- the hypothesis of the C03 / C04 theorems: `cs` lists every formal concept of `t` exactly once
    (as (ascending extent, ascending intent)), in any order.  Discharged by C02. -/
def IsConceptList (t : Table) (cs : Lat) : Prop := cs.Perm (allConcepts t)

instance (t : Table) (cs : Lat) : Decidable (IsConceptList t cs) := by
  unfold IsConceptList; infer_instance

theorem isConceptList_iff_bool (t : Table) (cs : Lat) :
    Spec.isConceptList t cs = true ↔ IsConceptList t cs := by
  unfold Spec.isConceptList IsConceptList
  exact List.isPerm_iff

def IsConceptSub (t : Table) (cs : Lat) : Prop :=
  cs.Nodup ∧ ∀ c ∈ cs, isConcept t c.1 c.2 = true

instance (t : Table) (cs : Lat) : Decidable (IsConceptSub t cs) := by
  unfold IsConceptSub; infer_instance

theorem isConceptSub_iff_bool (t : Table) (cs : Lat) :
    Spec.isConceptSub t cs = true ↔ IsConceptSub t cs := by
  simp only [Spec.isConceptSub, IsConceptSub, Bool.and_eq_true, decide_eq_true_eq, List.all_eq_true]

theorem leLoop_eq_memLoop (G l : List Nat) : leLoop G l = memLoop G l := by
  induction l with
  | nil => rfl
  | cons g rest ih => rw [leLoop, memLoop, ih]

/-- `FormalConcept.__le__` of this model is the `leCore` of the concept classes (C08) -/
theorem conceptLe_eq_leCore (a b : Concept) : conceptLe a b = leCore a.1 b.1 := by
  rw [conceptLe, leCore, leLoop_eq_memLoop]

/-- for a duplicate-free extent the support shortcut never fires wrongly: `<=` is extent inclusion -/
theorem conceptLe_iff {a b : Concept} (hnd : a.1.Nodup) :
    conceptLe a b = true ↔ ∀ g ∈ a.1, g ∈ b.1 :=
  conceptLe_eq_leCore a b ▸ leCore_iff_subset hnd

theorem conceptLe_trans {a b c : Concept} (h₁ : conceptLe a b = true) (h₂ : conceptLe b c = true) :
    conceptLe a c = true := by
  rw [conceptLe_eq_leCore] at *
  exact leCore_trans h₁ h₂

theorem support_lt {t : Table} {c d : Concept} (hc : isConcept t c.1 c.2 = true)
    (hd : isConcept t d.1 d.2 = true) (hsub : ∀ g ∈ c.1, g ∈ d.1) (hne : c ≠ d) :
    c.1.length < d.1.length :=
  ListAux.length_lt_of_subset_of_not_subset (isConcept_extent_nodup hc) hsub fun hback =>
    hne (isConcept_eq_of_mem_iff hc hd fun x => ⟨hsub x, hback x⟩)

theorem conc_eq_getElem {l : Lat} {k : Nat} (hk : k < l.length) : conc l k = l[k] :=
  ListAux.getD_eq_get l k _ hk

theorem conc_mem {cs : Lat} {i : Nat} (hi : i < cs.length) : conc cs i ∈ cs :=
  ListAux.getD_mem cs i _ hi

theorem exists_idx_of_mem {cs : Lat} {c : Concept} (h : c ∈ cs) : ∃ k, k < cs.length ∧ conc cs k = c :=
  let ⟨k, hk, e⟩ := List.mem_iff_getElem.mp h
  ⟨k, hk, (conc_eq_getElem hk).trans e⟩

theorem exts_getD (cs : Lat) (j : Nat) : (cs.map (·.1)).getD j [] = extOf cs j :=
  ListAux.getD_map_default (·.1) cs j ([], [])

theorem ints_getD (cs : Lat) (j : Nat) : (cs.map (·.2)).getD j [] = intOf cs j :=
  ListAux.getD_map_default (·.2) cs j ([], [])

theorem subset_iff {a b : List Nat} : Spec.subset a b = true ↔ ∀ g ∈ a, g ∈ b := Trace.subset_iff

theorem mem_interAll {base : List Nat} {ls : List (List Nat)} {g : Nat} :
    g ∈ Spec.interAll base ls ↔ g ∈ base ∧ ∀ l ∈ ls, g ∈ l := by
  simp only [Spec.interAll, List.mem_filter, List.all_eq_true, List.contains_eq_mem, decide_eq_true_eq]

theorem IsConceptList.nodup {t : Table} {cs : Lat} (H : IsConceptList t cs) : cs.Nodup :=
  (List.Perm.nodup_iff H).mpr (allConcepts_nodup t)

theorem IsConceptList.mem_iff {t : Table} {cs : Lat} (H : IsConceptList t cs) {c : Concept} :
    c ∈ cs ↔ isConcept t c.1 c.2 = true :=
  (List.Perm.mem_iff H).trans (mem_allConcepts t)

theorem IsConceptList.toSub {t : Table} {cs : Lat} (H : IsConceptList t cs) : IsConceptSub t cs :=
  ⟨H.nodup, fun _ hc => H.mem_iff.mp hc⟩

/-- what `del L[i]` / `L.remove(c)` leave of such a list is one again -/
theorem IsConceptSub.sublist {t : Table} {cs cs' : Lat} (H : IsConceptSub t cs) (h : cs'.Sublist cs) :
    IsConceptSub t cs' :=
  ⟨List.Nodup.sublist h H.1, fun c hc => H.2 c (h.subset hc)⟩

theorem children_lt {cs : Lat} {ord : List Nat → List Nat} {i j : Nat}
    (hj : j ∈ children cs ord i) : j < cs.length ∧ leq cs j i = true ∧ j ≠ i :=
  PQ.mem_descendants.mp (PQ.children_sub ord i j hj)

theorem parents_lt {cs : Lat} {ord : List Nat → List Nat} {i j : Nat}
    (hj : j ∈ parents cs ord i) : j < cs.length ∧ leq cs i j = true ∧ j ≠ i :=
  PQ.mem_ancestors.mp (PQ.parents_sub ord i j hj)

namespace IsConceptSub
variable {t : Table} {cs : Lat} (H : IsConceptSub t cs)
include H

theorem isConcept {i : Nat} (hi : i < cs.length) : Spec.isConcept t (extOf cs i) (intOf cs i) = true :=
  H.2 _ (conc_mem hi)

theorem ext_eq {i : Nat} (hi : i < cs.length) : extAll t (intOf cs i) = extOf cs i :=
  ((isConcept_iff t).mp (H.isConcept hi)).1

theorem int_eq {i : Nat} (hi : i < cs.length) : intAll t (extOf cs i) = intOf cs i :=
  ((isConcept_iff t).mp (H.isConcept hi)).2

theorem ext_lt {i : Nat} (hi : i < cs.length) : ∀ g ∈ extOf cs i, g < t.height :=
  isConcept_extent_lt (H.isConcept hi)

theorem int_lt {i : Nat} (hi : i < cs.length) : ∀ a ∈ intOf cs i, a < t.width :=
  isConcept_intent_lt (H.isConcept hi)

theorem ext_inj {i j : Nat} (hi : i < cs.length) (hj : j < cs.length)
    (h : extOf cs i = extOf cs j) : i = j :=
  (List.getD_inj hi hj H.1).mp (isConcept_eq_of_extent_eq (H.isConcept hi) (H.isConcept hj) h)

theorem leq_iff {i : Nat} (hi : i < cs.length) (j : Nat) :
    leq cs i j = true ↔ ∀ g ∈ extOf cs i, g ∈ extOf cs j :=
  conceptLe_iff (isConcept_extent_nodup (H.isConcept hi))

theorem leq_antisymm {i j : Nat} (hi : i < cs.length) (hj : j < cs.length)
    (h₁ : leq cs i j = true) (h₂ : leq cs j i = true) : i = j :=
  (List.getD_inj hi hj H.1).mp <| isConcept_eq_of_mem_iff (H.isConcept hi) (H.isConcept hj) fun x =>
    ⟨(H.leq_iff hi j).mp h₁ x, (H.leq_iff hj i).mp h₂ x⟩

theorem isPO : PQ.IsPO (leq cs) cs.length where
  refl := fun a ha => (H.leq_iff ha a).mpr (fun _ h => h)
  trans := fun _ _ _ h₁ h₂ => conceptLe_trans h₁ h₂
  antisymm := fun _ _ ha hb h₁ h₂ => H.leq_antisymm ha hb h₁ h₂

theorem ssubset_iff_lt {a b : Nat} (ha : a < cs.length) (hb : b < cs.length) :
    Spec.ssubset (extOf cs a) (extOf cs b) = true ↔ leq cs a b = true ∧ a ≠ b := by
  rw [Trace.ssubset_iff, ← H.leq_iff ha b, ← H.leq_iff hb a]
  exact and_congr_right fun hle =>
    ⟨fun hnb e => hnb (e ▸ H.isPO.refl a ha), fun hne hback => hne (H.leq_antisymm ha hb hle hback)⟩

theorem ext_len_lt {a b : Nat} (ha : a < cs.length) (hb : b < cs.length)
    (h : leq cs a b = true) (hne : a ≠ b) : (extOf cs a).length < (extOf cs b).length :=
  support_lt (c := conc cs a) (d := conc cs b) (H.isConcept ha) (H.isConcept hb)
    ((H.leq_iff ha b).mp h) fun e => hne ((List.getD_inj ha hb H.1).mp e)

theorem leq_iff_int {a b : Nat} (ha : a < cs.length) (hb : b < cs.length) :
    leq cs a b = true ↔ ∀ m ∈ intOf cs b, m ∈ intOf cs a :=
  (H.leq_iff ha b).trans (concept_order t (H.isConcept ha) (H.isConcept hb))

theorem descendants_eq (i : Nat) (hi : i < cs.length) :
    descendants cs i = Spec.strictSub (cs.map (·.1)) i := by
  unfold descendants PQ.descendants Spec.strictSub
  rw [List.length_map]
  refine List.filter_congr fun j hj => ?_
  rw [exts_getD, exts_getD, Bool.eq_iff_iff, Bool.and_eq_true, bne_iff_ne]
  exact (H.ssubset_iff_lt (List.mem_range.mp hj) hi).symm

theorem ancestors_eq (i : Nat) (hi : i < cs.length) :
    ancestors cs i = Spec.strictSuper (cs.map (·.1)) i := by
  unfold ancestors PQ.ancestors Spec.strictSuper
  rw [List.length_map]
  refine List.filter_congr fun j hj => ?_
  rw [exts_getD, exts_getD, Bool.eq_iff_iff, Bool.and_eq_true, bne_iff_ne]
  exact ((H.ssubset_iff_lt hi (List.mem_range.mp hj)).trans (and_congr_right' ne_comm)).symm

theorem slt_eq_ssubAt {a b : Nat} (ha : a < cs.length) (hb : b < cs.length) :
    PQ.slt (leq cs) a b = Spec.ssubAt (cs.map (·.1)) a b := by
  rw [Bool.eq_iff_iff, PQ.slt_iff, ← H.ssubset_iff_lt ha hb, ← exts_getD, ← exts_getD]
  rfl

theorem children_eq {ord : List Nat → List Nat} (ho : PQ.IsOrder ord) (i : Nat) (hi : i < cs.length) :
    children cs ord i = Spec.lowerCovers (cs.map (·.1)) i := by
  rw [Trace.lowerCovers_eq_covers, Spec.covers]
  apply ListAux.sorted_ext (PQ.children_sorted ord i) Construct.pairwise_lt_coversBy
  intro x
  rw [Construct.mem_coversBy_iff, List.length_map]
  exact (PQ.mem_children_iff H.isPO ho).trans
    (and_congr_right fun hx => Ord.cover_congr (fun _ _ => H.slt_eq_ssubAt) hx hi)

theorem parents_eq {ord : List Nat → List Nat} (ho : PQ.IsOrder ord) (i : Nat) (hi : i < cs.length) :
    parents cs ord i = Spec.upperCovers (cs.map (·.1)) i := by
  rw [Trace.upperCovers_eq_upperCoversC, Spec.upperCoversC]
  apply ListAux.sorted_ext (PQ.parents_sorted ord i) Construct.pairwise_lt_upperCoversBy
  intro x
  rw [Construct.mem_upperCoversBy_iff, List.length_map]
  exact (PQ.mem_parents_iff H.isPO ho).trans
    (and_congr_right fun hx => Ord.cover_congr (fun _ _ => H.slt_eq_ssubAt) hi hx)

/-- the four relations with the length of the list under another name, as after `sort_concepts` -/
theorem relations_eq {n : Nat} (hn : cs.length = n) {ord : List Nat → List Nat} (ho : PQ.IsOrder ord)
    {i : Nat} (hi : i < n) :
    PQ.descendants (leq cs) n i = Spec.strictSub (cs.map (·.1)) i ∧
    PQ.ancestors (leq cs) n i = Spec.strictSuper (cs.map (·.1)) i ∧
    PQ.children (leq cs) n ord i = Spec.lowerCovers (cs.map (·.1)) i ∧
    PQ.parents (leq cs) n ord i = Spec.upperCovers (cs.map (·.1)) i := by
  subst hn
  exact ⟨H.descendants_eq i hi, H.ancestors_eq i hi, H.children_eq ho i hi, H.parents_eq ho i hi⟩

theorem leq_of_ext_eq_range {k : Nat} (he : extOf cs k = List.range t.height) {j : Nat}
    (hj : j < cs.length) : leq cs j k = true := by
  rw [H.leq_iff hj k, he]
  exact fun g hg => List.mem_range.mpr (H.ext_lt hj g hg)

theorem leq_of_ext_eq_extAll {k : Nat} (hk : k < cs.length) (he : extOf cs k = extAll t (List.range t.width))
    {j : Nat} (hj : j < cs.length) : leq cs k j = true := by
  rw [H.leq_iff hk j, he, ← H.ext_eq hj]
  exact extAll_antitone t (fun a ha => List.mem_range.mpr (H.int_lt hj a ha))

theorem exists_top (hmem : (extAll t [], closureAttr t []) ∈ cs) :
    ∃ k, k < cs.length ∧ top cs = .ok k ∧ extOf cs k = List.range t.height := by
  obtain ⟨k, hk, e⟩ := exists_idx_of_mem hmem
  have he : extOf cs k = List.range t.height := (congrArg Prod.fst e).trans (extAll_nil t)
  exact ⟨k, hk, PQ.top_eq_of_greatest H.isPO hk fun _ => H.leq_of_ext_eq_range he, he⟩

theorem exists_bottom (hmem : (extAll t (List.range t.width), closureAttr t (List.range t.width)) ∈ cs) :
    ∃ k, k < cs.length ∧ bottom cs = .ok k ∧ extOf cs k = extAll t (List.range t.width) := by
  obtain ⟨k, hk, e⟩ := exists_idx_of_mem hmem
  have he : extOf cs k = extAll t (List.range t.width) := congrArg Prod.fst e
  exact ⟨k, hk, PQ.bottom_eq_of_least H.isPO hk fun _ => H.leq_of_ext_eq_extAll hk he, he⟩

theorem interAll_exts {S : List Nat} (hS : ∀ s ∈ S, s < cs.length) :
    Spec.interAll (List.range t.height) (S.map (extOf cs)) = extAll t (S.flatMap (intOf cs)) := by
  refine ListAux.sorted_ext (List.Pairwise.filter _ List.pairwise_lt_range) (extAll_sorted t _) fun g => ?_
  rw [mem_interAll, mem_extAll, List.mem_range, List.forall_mem_map, List.forall_mem_flatMap]
  refine and_congr_right fun hg => forall₂_congr fun s hs => ?_
  rw [← H.ext_eq (hS s hs), mem_extAll]
  exact and_iff_right hg

theorem interAll_ints {S : List Nat} (hS : ∀ s ∈ S, s < cs.length) :
    Spec.interAll (List.range t.width) (S.map (intOf cs)) = intAll t (S.flatMap (extOf cs)) := by
  refine ListAux.sorted_ext (List.Pairwise.filter _ List.pairwise_lt_range) (intAll_sorted t _) fun a => ?_
  rw [mem_interAll, mem_intAll, List.mem_range, List.forall_mem_map, List.forall_mem_flatMap]
  refine and_congr_right fun ha => forall₂_congr fun s hs => ?_
  rw [← H.int_eq (hS s hs), mem_intAll]
  exact and_iff_right ha

theorem meet_eq_of_ext_eq_inter {ord : List Nat → List Nat} (ho : PQ.IsOrder ord) {S : List Nat} (hS : S ≠ [])
    (hSn : ∀ s ∈ S, s < cs.length) {k : Nat} (hk : k < cs.length)
    (he : extOf cs k = Spec.interAll (List.range t.height) (S.map (extOf cs))) :
    meet cs ord S = .ok (some k) := by
  apply PQ.meet_eq_of_glb H.isPO ho hS hSn hk
  · intro s hs
    rw [H.leq_iff hk s, he]
    exact fun g hg => (mem_interAll.mp hg).2 _ (List.mem_map_of_mem hs)
  · intro y hy hlb
    rw [H.leq_iff hy k, he]
    refine fun g hg => mem_interAll.mpr ⟨List.mem_range.mpr (H.ext_lt hy g hg), fun l hl => ?_⟩
    obtain ⟨s, hs, rfl⟩ := List.mem_map.mp hl
    exact (H.leq_iff hy s).mp (hlb s hs) g hg

theorem join_eq_of_int_eq_inter {ord : List Nat → List Nat} (ho : PQ.IsOrder ord) {S : List Nat} (hS : S ≠ [])
    (hSn : ∀ s ∈ S, s < cs.length) {k : Nat} (hk : k < cs.length)
    (hi : intOf cs k = Spec.interAll (List.range t.width) (S.map (intOf cs))) :
    join cs ord S = .ok (some k) := by
  apply PQ.join_eq_of_lub H.isPO ho hS hSn hk
  · intro s hs
    rw [H.leq_iff_int (hSn s hs) hk, hi]
    exact fun a ha => (mem_interAll.mp ha).2 _ (List.mem_map_of_mem hs)
  · intro y hy hub
    rw [H.leq_iff_int hk hy, hi]
    refine fun a ha => mem_interAll.mpr ⟨List.mem_range.mpr (H.int_lt hy a ha), fun l hl => ?_⟩
    obtain ⟨s, hs, rfl⟩ := List.mem_map.mp hl
    exact (H.leq_iff_int (hSn s hs) hy).mp (hub s hs) a ha

end IsConceptSub

namespace IsConceptList
variable {t : Table} {cs : Lat} (H : IsConceptList t cs)
include H

theorem isConcept {i : Nat} (hi : i < cs.length) : isConcept t (extOf cs i) (intOf cs i) = true :=
  H.toSub.isConcept hi

theorem int_sorted {i : Nat} (hi : i < cs.length) : (intOf cs i).Pairwise (· < ·) :=
  isConcept_intent_sorted (H.isConcept hi)

theorem exists_idx {A B : List Nat} (h : Spec.isConcept t A B = true) :
    ∃ k, k < cs.length ∧ extOf cs k = A ∧ intOf cs k = B :=
  let ⟨k, hk, e⟩ := exists_idx_of_mem ((H.mem_iff (c := (A, B))).mpr h)
  ⟨k, hk, congrArg Prod.fst e, congrArg Prod.snd e⟩

theorem exists_objConcept (g : Nat) (hg : g < t.height) : ∃ k, k < cs.length ∧ extOf cs k = closure t [g] :=
  let ⟨k, hk, he, _⟩ := H.exists_idx (isConcept_of_objs t (A := [g]) fun _ hx => List.mem_singleton.mp hx ▸ hg)
  ⟨k, hk, he⟩

theorem exists_attrConcept (a : Nat) (ha : a < t.width) : ∃ k, k < cs.length ∧ extOf cs k = extAll t [a] :=
  let ⟨k, hk, he, _⟩ := H.exists_idx (isConcept_of_attrs t (B := [a]) fun _ hx => List.mem_singleton.mp hx ▸ ha)
  ⟨k, hk, he⟩

theorem top_mem : (extAll t [], closureAttr t []) ∈ cs :=
  H.mem_iff.mpr (isConcept_of_attrs t (B := []) nofun)

theorem bottom_mem : (extAll t (List.range t.width), closureAttr t (List.range t.width)) ∈ cs :=
  H.mem_iff.mpr (isConcept_of_attrs t fun _ h => List.mem_range.mp h)

end IsConceptList

theorem mem_removeAll_flatMap {own : List Nat} {f : Nat → List Nat} {idxs : List Nat} {g : Nat} :
    g ∈ PQ.removeAll own (unionOf f idxs) ↔ g ∈ own ∧ ∀ j ∈ idxs, g ∉ f j := by
  rw [PQ.mem_removeAll, unionOf, List.mem_flatMap]
  exact and_congr_right fun _ => ⟨fun hn j hj hg => hn ⟨j, hj, hg⟩, fun hn ⟨j, hj, hg⟩ => hn j hj hg⟩

theorem mem_newExtentI {cs : Lat} {ord : List Nat → List Nat} {i g : Nat} :
    g ∈ newExtentI cs ord i ↔ g ∈ extOf cs i ∧ ∀ j ∈ children cs ord i, g ∉ extOf cs j :=
  mem_removeAll_flatMap

theorem mem_newIntentI {cs : Lat} {ord : List Nat → List Nat} {i a : Nat} :
    a ∈ newIntentI cs ord i ↔ a ∈ intOf cs i ∧ ∀ j ∈ parents cs ord i, a ∉ intOf cs j :=
  mem_removeAll_flatMap

/-- `get_concept_new_extent` / `get_concept_new_intent` against their `_i` versions: with pairwise distinct
    names, removing by name is removing by index -/
theorem filter_names_eq {names : List String} (hn : names.Nodup) {own : List Nat} {f : Nat → List Nat}
    {idxs : List Nat} (hown : ∀ g ∈ own, g < names.length) (hf : ∀ j ∈ idxs, ∀ x ∈ f j, x < names.length) :
    ((namesOf names own).filter fun g => !((idxs.flatMap fun j => namesOf names (f j)).contains g)) =
      namesOf names (PQ.removeAll own (unionOf f idxs)) := by
  unfold namesOf PQ.removeAll unionOf
  rw [List.filter_map, ← List.map_flatMap]
  congr 1
  refine List.filter_congr fun g hg => ?_
  simp only [Function.comp_apply, List.contains_eq_mem, getD_mem_names_iff hn
    (fun x hx => let ⟨j, hj, hxj⟩ := List.mem_flatMap.mp hx; hf j hj x hxj) (hown g hg)]

theorem IsConceptSub.newExtent_eq {t : Table} {cs : Lat} (H : IsConceptSub t cs) (ord : List Nat → List Nat)
    {names : List String} (hn : names.Nodup) (hl : names.length = t.height)
    {i : Nat} (hi : i < cs.length) : newExtent names cs ord i = namesOf names (newExtentI cs ord i) :=
  filter_names_eq hn (fun g hg => hl ▸ H.ext_lt hi g hg)
    fun _ hj x hx => hl ▸ H.ext_lt (children_lt hj).1 x hx

theorem IsConceptSub.newIntent_eq {t : Table} {cs : Lat} (H : IsConceptSub t cs) (ord : List Nat → List Nat)
    {names : List String} (hn : names.Nodup) (hl : names.length = t.width)
    {i : Nat} (hi : i < cs.length) : newIntent names cs ord i = namesOf names (newIntentI cs ord i) :=
  filter_names_eq hn (fun a ha => hl ▸ H.int_lt hi a ha)
    fun _ hj x hx => hl ▸ H.int_lt (parents_lt hj).1 x hx

end Fca.LQ
