/-
  The bit-set operations of `Fca.Model.Caspailleur` position by position and on the sets that bitarrays of one
  length hold (`Holds`), tables of bitarrays, and the scatter loop that `sort_intents_inclusion` and
  `inverse_order` share: from the all-zero table it computes a transpose.
-/
import Fca.Model.Caspailleur
import Fca.Lemmas.ListAux
namespace Fca.Casp

@[simp] theorem length_zeros (n : Nat) : (zeros n).length = n := List.length_replicate
@[simp] theorem length_ones (n : Nat) : (ones n).length = n := List.length_replicate

theorem bit_eq (a : Bits) (j : Nat) : bit a j = (a[j]?).getD false := List.getD_eq_getElem?_getD

theorem bit_nil (j : Nat) : bit [] j = false := rfl
theorem bit_cons_zero (x : Bool) (r : Bits) : bit (x :: r) 0 = x := rfl
theorem bit_cons_succ (x : Bool) (r : Bits) (j : Nat) : bit (x :: r) (j + 1) = bit r j := rfl

theorem bit_ge {a : Bits} {j : Nat} (h : a.length ≤ j) : bit a j = false := by
  rw [bit_eq, List.getElem?_eq_none h]; rfl

theorem lt_of_bit {a : Bits} {j : Nat} (h : bit a j = true) : j < a.length :=
  Nat.lt_of_not_le fun hn => Bool.false_ne_true (bit_ge hn ▸ h)

theorem bit_zeros (n j : Nat) : bit (zeros n) j = false := by
  rw [bit_eq, zeros, List.getElem?_replicate]; split <;> rfl

theorem bit_ones (n j : Nat) : bit (ones n) j = decide (j < n) := by
  rw [bit_eq, ones, List.getElem?_replicate]; split <;> simp [*]

@[simp] theorem length_band (a b : Bits) : (band a b).length = min a.length b.length := List.length_zipWith
@[simp] theorem length_bor (a b : Bits) : (bor a b).length = min a.length b.length := List.length_zipWith
@[simp] theorem length_bnot (a : Bits) : (bnot a).length = a.length := List.length_map _

theorem bit_band (a b : Bits) (j : Nat) : bit (band a b) j = (bit a j && bit b j) := by
  simp only [bit_eq, band, List.getElem?_zipWith]
  cases a[j]? <;> cases b[j]? <;> simp

/-- `|` truncates to the shorter array, so the lengths have to agree -/
theorem bit_bor {a b : Bits} (h : a.length = b.length) (j : Nat) : bit (bor a b) j = (bit a j || bit b j) := by
  induction a generalizing b j with
  | nil => cases b with
    | nil => rfl
    | cons _ _ => cases h
  | cons x a ih => cases b with
    | nil => cases h
    | cons y b => cases j with
      | zero => rfl
      | succ j => exact ih (Nat.succ.inj h) j

theorem bit_bnot (a : Bits) (j : Nat) : bit (bnot a) j = (decide (j < a.length) && !bit a j) := by
  by_cases hj : j < a.length
  · simp [bit_eq, bnot, hj]
  · rw [bit_ge (by simpa using hj)]; simp [hj]

theorem bit_set (a : Bits) (i j : Nat) :
    bit (a.set i true) j = true ↔ (j = i ∧ i < a.length) ∨ bit a j = true := by
  unfold bit
  rw [ListAux.getD_set]
  split <;> simp [*]

theorem mem_search1 {a : Bits} {j : Nat} : j ∈ search1 a ↔ bit a j = true := by
  unfold search1
  simp only [List.mem_filter, List.mem_range]
  exact ⟨fun h => h.2, fun h => ⟨lt_of_bit h, h⟩⟩

theorem search1_eq_filter (a : Bits) : search1 a = (List.range a.length).filter (bit a) := rfl

theorem find1_eq (a : Bits) : find1 a = a.findIdx? id := by
  induction a with
  | nil => rfl
  | cons x r ih => cases x <;> simp [find1, List.findIdx?_cons, ih]

theorem find1_some {a : Bits} {k : Nat} :
    find1 a = some k ↔ bit a k = true ∧ ∀ j, j < k → bit a j = false := by
  rw [find1_eq, List.findIdx?_eq_some_iff_getElem]
  constructor
  · rintro ⟨hk, h1, h2⟩
    exact ⟨(ListAux.getD_eq_get _ _ _ hk).trans h1, fun j hj =>
      (ListAux.getD_eq_get _ _ _ (Nat.lt_trans hj hk)).trans (Bool.not_eq_true _ ▸ h2 j hj)⟩
  · rintro ⟨h1, h2⟩
    have hk := lt_of_bit h1
    exact ⟨hk, (ListAux.getD_eq_get _ _ _ hk).symm.trans h1, fun j hj =>
      Bool.not_eq_true _ ▸ (ListAux.getD_eq_get _ _ _ (Nat.lt_trans hj hk)).symm.trans (h2 j hj)⟩

theorem find1_none {a : Bits} : find1 a = none ↔ ∀ j, bit a j = false := by
  rw [find1_eq, List.findIdx?_eq_none_iff]
  refine ⟨fun h j => ?_, fun h x hx => ?_⟩
  · by_cases hj : j < a.length
    · rw [bit, ListAux.getD_eq_get _ _ _ hj]; exact h _ (List.getElem_mem hj)
    · exact bit_ge (Nat.le_of_not_lt hj)
  · obtain ⟨j, hj, rfl⟩ := List.getElem_of_mem hx
    exact ListAux.getD_eq_get _ _ false hj ▸ h j

theorem bits_ext {a b : Bits} (hl : a.length = b.length) (h : ∀ j, bit a j = true ↔ bit b j = true) :
    a = b := by
  apply List.ext_getElem hl
  intro i h1 h2
  have := h i
  rwa [bit_eq, bit_eq, List.getElem?_eq_getElem h1, List.getElem?_eq_getElem h2, ← Bool.eq_iff_iff] at this

theorem nodup_search1 (a : Bits) : (search1 a).Nodup := List.nodup_range.sublist List.filter_sublist

theorem count1_eq (a : Bits) : count1 a = (search1 a).length := by
  rw [count1, List.count_eq_length_filter, search1]
  conv => lhs; rw [← ListAux.range_map_getD a false, List.filter_map, List.length_map]
  exact congrArg _ (List.filter_congr fun i _ => beq_true _)

/-- the bitarray `a` has length `n` and holds the set `P`: `&`, `|`, `~` (which truncate to the shorter operand)
    are `∧`, `∨`, `¬` on such arrays -/
structure Holds (n : Nat) (a : Bits) (P : Nat → Prop) : Prop where
  length : a.length = n
  iff : ∀ j, bit a j = true ↔ P j

section
variable {n : Nat} {a b : Bits} {P Q : Nat → Prop}

theorem Holds.congr (h : Holds n a P) (e : ∀ j, P j ↔ Q j) : Holds n a Q :=
  ⟨h.length, fun j => (h.iff j).trans (e j)⟩

theorem Holds.ext (ha : Holds n a P) (hb : Holds n b P) : a = b :=
  bits_ext (ha.length.trans hb.length.symm) fun j => (ha.iff j).trans (hb.iff j).symm

theorem holds_zeros (n : Nat) : Holds n (zeros n) fun _ => False :=
  ⟨length_zeros n, fun j => by rw [bit_zeros]; exact ⟨nofun, nofun⟩⟩

theorem holds_ones (n : Nat) : Holds n (ones n) (· < n) :=
  ⟨length_ones n, fun j => by rw [bit_ones, decide_eq_true_eq]⟩

theorem Holds.band (ha : Holds n a P) (hb : Holds n b Q) : Holds n (band a b) fun j => P j ∧ Q j :=
  ⟨by rw [length_band, ha.length, hb.length, Nat.min_self], fun j => by
    rw [bit_band, Bool.and_eq_true, ha.iff, hb.iff]⟩

theorem Holds.bor (ha : Holds n a P) (hb : Holds n b Q) : Holds n (bor a b) fun j => P j ∨ Q j :=
  ⟨by rw [length_bor, ha.length, hb.length, Nat.min_self], fun j => by
    rw [bit_bor (ha.length.trans hb.length.symm), Bool.or_eq_true, ha.iff, hb.iff]⟩

theorem Holds.bnot (ha : Holds n a P) : Holds n (bnot a) fun j => j < n ∧ ¬ P j :=
  ⟨by rw [length_bnot, ha.length], fun j => by
    rw [bit_bnot, Bool.and_eq_true, decide_eq_true_eq, Bool.not_eq_true', ← Bool.not_eq_true, ha.iff, ha.length]⟩

theorem Holds.set {k : Nat} (ha : Holds n a P) (hk : k < n) : Holds n (a.set k true) fun j => P j ∨ j = k :=
  ⟨by rw [List.length_set, ha.length], fun j => by rw [bit_set, ha.length, and_iff_left hk, ha.iff, or_comm]⟩

end

def Shape (t : List Bits) (R C : Nat) : Prop := t.length = R ∧ ∀ r, r < R → (t.getD r []).length = C

theorem lt_of_bit_getD {t : List Bits} {r c : Nat} (h : bit (t.getD r []) c = true) : r < t.length :=
  Nat.lt_of_not_le fun hn => by
    rw [List.getD_eq_getElem?_getD, List.getElem?_eq_none hn] at h
    exact Bool.false_ne_true h

theorem shape_replicate (R C : Nat) : Shape (List.replicate R (zeros C)) R C :=
  ⟨List.length_replicate, fun r hr => by rw [ListAux.getD_replicate _ _ _ _ hr, length_zeros]⟩

theorem cell_replicate (R C r c : Nat) : cell (List.replicate R (zeros C)) r c = false := by
  unfold cell
  by_cases hr : r < R
  · rw [ListAux.getD_replicate _ _ _ _ hr]
    exact bit_zeros C c
  · rw [ListAux.getD_of_ge _ _ _ (List.length_replicate ▸ Nat.le_of_not_lt hr)]
    rfl

theorem shape_set {t : List Bits} {R C : Nat} (h : Shape t R C) (i : Nat) {b : Bits}
    (hb : i < R → b.length = C) : Shape (t.set i b) R C := by
  refine ⟨by rw [List.length_set, h.1], fun r hr => ?_⟩
  rw [ListAux.getD_set]
  split
  · next hh => exact hb (hh.1 ▸ hr)
  · exact h.2 r hr

theorem shape_setCell {t : List Bits} {R C : Nat} (h : Shape t R C) (r c : Nat) : Shape (setCell t r c) R C :=
  shape_set h r fun hr => by rw [List.length_set]; exact h.2 r hr

theorem cell_setCell {t : List Bits} {R C : Nat} (h : Shape t R C) (r c r' c' : Nat) :
    cell (setCell t r c) r' c' = true ↔ (r' = r ∧ c' = c ∧ r < R ∧ c < C) ∨ cell t r' c' = true := by
  unfold cell setCell
  rw [ListAux.getD_set, h.1]
  split
  · next hh =>
    obtain ⟨rfl, hr⟩ := hh
    rw [bit_set, h.2 r' hr]
    simp [hr]
  · next hh =>
    simp only [not_and] at hh
    exact ⟨.inr, fun hor => hor.elim (fun a => absurd a.2.2.1 (hh a.1)) id⟩

theorem scatterRow_spec {R C : Nat} (i : Nat) (js : List Nat) : ∀ t : List Bits, Shape t R C →
    Shape (scatterRow i js t) R C ∧
    ∀ r c, cell (scatterRow i js t) r c = true ↔ (c = i ∧ r ∈ js ∧ r < R ∧ i < C) ∨ cell t r c = true := by
  induction js with
  | nil => exact fun t h => ⟨h, fun r c => by simp [scatterRow]⟩
  | cons j js ih =>
    intro t h
    obtain ⟨h1, h2⟩ := ih (setCell t j i) (shape_setCell h j i)
    refine ⟨h1, fun r c => ?_⟩
    rw [scatterRow, h2, cell_setCell h, List.mem_cons]
    constructor
    · rintro (⟨a, b, c', d⟩ | ⟨a, b, c', d⟩ | a)
      · exact .inl ⟨a, .inr b, c', d⟩
      · exact .inl ⟨b, .inl a, a ▸ c', d⟩
      · exact .inr a
    · rintro (⟨a, b | b, c', d⟩ | a)
      · exact .inr (.inl ⟨b, a, b ▸ c', d⟩)
      · exact .inl ⟨a, b, c', d⟩
      · exact .inr (.inr a)

theorem scatter_spec {R C : Nat} (rows : List Bits) : ∀ (i0 : Nat) (t : List Bits), Shape t R C →
    Shape (scatter rows i0 t) R C ∧
    ∀ r c, cell (scatter rows i0 t) r c = true ↔
      (∃ k, c = i0 + k ∧ bit (rows.getD k []) r = true ∧ r < R ∧ c < C) ∨ cell t r c = true := by
  induction rows with
  | nil => exact fun i0 t h => ⟨h, fun r c => by simp [scatter, bit_nil]⟩
  | cons row rows ih =>
    intro i0 t h
    obtain ⟨s1, s2⟩ := scatterRow_spec i0 (search1 row) t h
    obtain ⟨h1, h2⟩ := ih (i0 + 1) _ s1
    refine ⟨h1, fun r c => ?_⟩
    rw [scatter, h2, s2, mem_search1]
    constructor
    · rintro (⟨k, e, hb⟩ | ⟨e, hb⟩ | a)
      · exact .inl ⟨k + 1, e.trans (Nat.succ_add_eq_add_succ i0 k), hb⟩
      · exact .inl ⟨0, e, hb.1, hb.2.1, e ▸ hb.2.2⟩
      · exact .inr a
    · rintro (⟨k, e, hb⟩ | a)
      · cases k with
        | zero => subst e; exact .inr (.inl ⟨rfl, hb⟩)
        | succ k => exact .inl ⟨k, e.trans (Nat.succ_add_eq_add_succ i0 k).symm, hb⟩
      · exact .inr (.inr a)

theorem scatter_zero {rows : List Bits} {R C : Nat} (hs : Shape rows C R) :
    Shape (scatter rows 0 (List.replicate R (zeros C))) R C ∧
    ∀ r c, bit ((scatter rows 0 (List.replicate R (zeros C))).getD r []) c = true ↔
      bit (rows.getD c []) r = true := by
  obtain ⟨h1, h2⟩ := scatter_spec (R := R) (C := C) rows 0 _ (shape_replicate R C)
  refine ⟨h1, fun r c => (h2 r c).trans ?_⟩
  rw [cell_replicate]
  simp only [Nat.zero_add, exists_eq_left', Bool.false_eq_true, or_false]
  exact and_iff_left_of_imp fun h =>
    have hc := hs.1 ▸ lt_of_bit_getD h
    ⟨hs.2 c hc ▸ lt_of_bit h, hc⟩

end Fca.Casp
