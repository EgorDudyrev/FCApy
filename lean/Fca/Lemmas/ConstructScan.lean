/-
  One call of `iterate_chain`: every exit keeps the shared sets sound, records every superconcept lying on the scanned
  chain, leaves a resume index whose prefix is recorded, and makes every recorded upper cover a candidate.
-/
import Fca.Lemmas.ConstructBasic
namespace Fca.Construct
open Fca.Spec

variable {n : Nat} {lt : Nat → Nat → Bool} {rk : Nat → Nat}

structure SweepCtx (n : Nat) (lt : Nat → Nat → Bool) (rk : Nat → Nat) (pos : Nat → Nat) (top : Nat)
    (chains : List (List Nat)) : Prop where
  so : StrictOrd lt rk
  posOK : ∀ a b, a < n → b < n → lt a b = true → pos b < pos a
  topGreatest : Ord.Greatest n lt top
  chainsLt : ∀ ch ∈ chains, ∀ x ∈ ch, x < n
  chainsDesc : ∀ ch ∈ chains, ch.Pairwise (fun a b => lt b a = true)
  chainsHead : ∀ ch ∈ chains, ch.head? = some top
  chainsCover : ∀ i, i < n → ∃ ch ∈ chains, i ∈ ch

/-- the three sets of `c` only hold what they may: strict superconcepts in `all` and `sup`,
    non-superconcepts in `inc` -/
structure ScanOK (n : Nat) (lt : Nat → Nat → Bool) (c : Nat) (s : Scan) : Prop where
  allSound : ∀ x ∈ s.all, x < n ∧ lt c x = true
  supSound : ∀ x ∈ s.sup, x < n ∧ lt c x = true
  supNodup : s.sup.Nodup
  incSound : ∀ x ∈ s.inc, lt c x = false

/-- loop invariant of `iterate_chain` with `pre` already passed and `rest` ahead; the element recorded in the
    previous step may still have to become a candidate -/
structure AuxInv (n : Nat) (lt : Nat → Nat → Bool) (top : Nat) (chain : List Nat) (c : Nat)
    (pre rest : List Nat) (s : Scan) : Prop extends ScanOK n lt c s where
  topIn : top ∈ s.all
  preIn : ∀ x ∈ pre, x ∈ s.all
  startLe : s.start ≤ chain.length
  pendOK : ∀ q ∈ s.all, q ∈ upperCoversBy n lt c → q ∈ s.sup ∨ (pre.getLast? = some q ∧ rest ≠ [])

/-- what one call of `iterate_chain` on the state `s` guarantees of the state `r` it returns -/
structure AuxRes (n : Nat) (lt : Nat → Nat → Bool) (chain : List Nat) (c : Nat) (s r : Scan) : Prop
    extends ScanOK n lt c r where
  covIn : ∀ q ∈ r.all, q ∈ upperCoversBy n lt c → q ∈ r.sup
  startLe : r.start ≤ chain.length
  startIn : ∀ x ∈ chain.take r.start, x ∈ r.all
  done : ∀ x ∈ chain, lt c x = true → x ∈ r.all
  all : ∀ x ∈ s.all, x ∈ r.all
  sup : ∀ x ∈ s.sup, x ∈ r.sup

section
variable {pos : Nat → Nat} {top : Nat} {chains : List (List Nat)} {chain : List Nat} {c : Nat}

theorem chainPrev_append (pre rest : List Nat) {q : Nat} (h : pre.getLast? = some q) :
    chainPrev (pre ++ rest) pre.length = q := by
  have hpos : 0 < pre.length := List.length_pos_iff.mpr (fun e => by rw [e] at h; cases h)
  rw [chainPrev, if_neg (Nat.ne_of_gt hpos), List.getD_eq_getElem?_getD,
    List.getElem?_append_left (Nat.sub_lt hpos Nat.one_pos),
    ← List.getLast?_eq_getElem?, h]
  rfl


theorem iterateChainAux_ok (ctx : SweepCtx n lt rk pos top chains) (hmem : chain ∈ chains) (hc : c < n) :
    ∀ (rest pre : List Nat) (s : Scan), chain = pre ++ rest →
      AuxInv n lt top chain c pre rest s →
      AuxRes n lt chain c s (iterateChainAux lt pos chain c rest pre.length s) := by
  intro rest
  induction rest with
  | nil =>
    intro pre s hch inv
    rw [List.append_nil] at hch
    exact ⟨inv.toScanOK, fun q hq hc => (inv.pendOK q hq hc).elim id fun h => absurd rfl h.2, inv.startLe,
      fun x hx => inv.preIn x (hch ▸ List.mem_of_mem_take hx), fun x hx _ => inv.preIn x (hch ▸ hx),
      fun _ h => h, fun _ h => h⟩
  | cons cComp rest ih =>
    intro pre s hch inv
    have hcCn : cComp < n := ctx.chainsLt chain hmem cComp (hch ▸ List.mem_append_right _ (List.mem_cons_self ..))
    -- everything in `pre` is strictly above `cComp`, everything in `rest` strictly below
    have hdesc := List.pairwise_append.mp (hch ▸ ctx.chainsDesc chain hmem)
    have habove : ∀ x ∈ pre, lt cComp x = true := fun x hx => hdesc.2.2 x hx cComp (List.mem_cons_self ..)
    have hbelow : ∀ y ∈ rest, lt y cComp = true := fun y hy => List.rel_of_pairwise_cons hdesc.2.1 hy
    have hch' : chain = (pre ++ [cComp]) ++ rest := hch.trans (List.append_cons ..)
    have hlen' : (pre ++ [cComp]).length = pre.length + 1 := List.length_append
    -- the model's test for the last chain position
    have hlastIff : pre.length + 1 = chain.length ↔ rest = [] := by
      rw [hch', List.length_append, hlen']
      exact ⟨fun h => List.eq_nil_of_length_eq_zero (Nat.add_left_cancel (n := pre.length + 1) (k := 0) h.symm), fun h => h ▸ rfl⟩
    have hpreIn' : ∀ {A : List Nat}, (∀ x ∈ pre, x ∈ A) → cComp ∈ A → ∀ x ∈ pre ++ [cComp], x ∈ A :=
      fun hA hc x hx => (List.mem_append.mp hx).elim (hA x) (fun hx => List.mem_singleton.mp hx ▸ hc)
    -- the last element passed is above `cComp`, hence no cover once `cComp` is a superconcept
    have hpendNo : lt c cComp = true → ∀ q, pre.getLast? = some q → q ∉ upperCoversBy n lt c :=
      fun hsup q hq hcov => (mem_upperCoversBy.mp hcov).2.2 cComp hcCn hsup
        (habove q (List.mem_of_getLast? hq))
    show AuxRes n lt chain c s (if s.all.contains cComp = true then _ else _)
    by_cases hin : cComp ∈ s.all
    · -- `continue`
      rw [if_pos (by simpa using hin), ← hlen']
      exact ih (pre ++ [cComp]) s hch'
        { inv with
          preIn := hpreIn' inv.preIn hin
          pendOK := fun q hq hcov => (inv.pendOK q hq hcov).imp_right
            fun h => absurd hcov (hpendNo (inv.allSound cComp hin).2 q h.1) }
    · rw [if_neg (by simpa using hin)]
      extract_lets hasSmaller last isSup inc'
      -- the shortcuts (`inc`, listing position) never contradict `lt c cComp`
      have hsupEq : isSup = lt c cComp := by
        cases hl : lt c cComp
        · show (if _ then false else if _ then lt c cComp else false) = false
          rw [hl, ite_self, ite_self]
        · have hni : ¬ s.inc.contains cComp = true := fun h => by
            have := inv.incSound cComp (by simpa using h); rw [hl] at this; cases this
          exact (if_neg hni).trans ((if_pos (decide_eq_true (ctx.posOK c cComp hc hcCn hl))).trans hl)
      have hincS : ∀ x ∈ inc', lt c x = false := fun x hx => by
        by_cases hb : (!(s.inc.contains cComp) && hasSmaller && !isSup) = true
        · rw [show inc' = addSet s.inc cComp from if_pos hb] at hx
          rw [Bool.and_eq_true, Bool.not_eq_true', hsupEq] at hb
          exact (mem_addSet.mp hx).elim (inv.incSound x) (fun e => e ▸ hb.2)
        · rw [show inc' = s.inc from if_neg hb] at hx
          exact inv.incSound x hx
      have hlastEq : last = decide (pre.length + 1 = chain.length) := rfl
      clear_value inc' isSup last hasSmaller
      subst hsupEq hlastEq
      -- `pre` is not empty: the chain starts with `top`, which is recorded
      have hpre : pre ≠ [] := by
        intro e
        have hh := ctx.chainsHead chain hmem
        rw [hch, e] at hh
        cases hh
        exact hin inv.topIn
      have htake : chain.take pre.length = pre := hch ▸ List.take_left' rfl
      have hstartLe : pre.length ≤ chain.length := by rw [hch, List.length_append]; exact Nat.le_add_right _ _
      by_cases hsup : lt c cComp = true
      · have hallS : ∀ x ∈ addSet s.all cComp, x < n ∧ lt c x = true :=
          forall_mem_addSet.mpr ⟨inv.allSound, hcCn, hsup⟩
        by_cases hlast : pre.length + 1 = chain.length
        · -- exit 1: superconcept at the end of the chain
          rw [if_pos (by rw [hsup, decide_eq_true hlast]; rfl)]
          have hrest := hlastIff.mp hlast
          refine ⟨⟨hallS, forall_mem_addSet.mpr ⟨inv.supSound, hcCn, hsup⟩, nodup_addSet inv.supNodup,
            hincS⟩, fun q hq hcov => ?_, hstartLe, fun x hx => ?_, fun x hx _ => ?_,
            fun x hx => mem_addSet_of_mem hx, fun x hx => mem_addSet_of_mem hx⟩
          · rcases mem_addSet.mp hq with hq | hq
            · exact mem_addSet.mpr ((inv.pendOK q hq hcov).imp_right
                fun h => absurd hcov (hpendNo hsup q h.1))
            · exact mem_addSet.mpr (Or.inr hq)
          · exact mem_addSet_of_mem (inv.preIn x (htake ▸ hx))
          · rw [hch', hrest, List.append_nil] at hx
            exact hpreIn' (fun x hx => mem_addSet_of_mem (inv.preIn x hx))
              mem_addSet_self x hx
        · -- superconcept inside the chain: record it and go on
          rw [if_neg (by rw [hsup, decide_eq_false hlast]; exact Bool.false_ne_true),
            if_neg (by rw [hsup]; exact Bool.false_ne_true), ← hlen']
          have := ih (pre ++ [cComp]) { s with all := addSet s.all cComp, inc := inc' } hch'
            { inv with
              allSound := hallS
              incSound := hincS
              topIn := mem_addSet_of_mem inv.topIn
              preIn := hpreIn' (fun x hx => mem_addSet_of_mem (inv.preIn x hx)) mem_addSet_self
              pendOK := fun q hq hcov => ?_ }
          · exact { this with all := fun x hx => this.all x (mem_addSet_of_mem hx) }
          rcases mem_addSet.mp hq with hq | hq
          · exact (inv.pendOK q hq hcov).imp_right fun h => absurd hcov (hpendNo hsup q h.1)
          · exact Or.inr ⟨hq ▸ List.getLast?_concat .., fun e => hlast (hlastIff.mpr e)⟩
      · -- exit 2: not a superconcept; the previous chain element becomes a candidate
        have hsupF : lt c cComp = false := Bool.eq_false_iff.mpr hsup
        rw [if_neg (by rw [hsupF]; exact Bool.false_ne_true), if_pos (by rw [hsupF]; rfl)]
        obtain ⟨q, hq⟩ : ∃ q, pre.getLast? = some q := by
          cases hgl : pre.getLast? with
          | none => exact absurd (List.getLast?_eq_none_iff.mp hgl) hpre
          | some q => exact ⟨q, rfl⟩
        rw [hch, chainPrev_append pre _ hq, ← hch]
        have hqall := inv.preIn q (List.mem_of_getLast? hq)
        refine ⟨⟨inv.allSound, forall_mem_addSet.mpr ⟨inv.supSound, inv.allSound q hqall⟩,
          nodup_addSet inv.supNodup, hincS⟩, fun q' hq' hcov => ?_, hstartLe,
          fun x hx => inv.preIn x (htake ▸ hx), fun x hx hcx => ?_,
          fun _ h => h, fun x hx => mem_addSet_of_mem hx⟩
        · exact mem_addSet.mpr ((inv.pendOK q' hq' hcov).imp_right fun h => Option.some.inj (h.1.symm.trans hq))
        · -- a superconcept on the chain is above `cComp`, i.e. in `pre`
          rw [hch] at hx
          rcases List.mem_append.mp hx with hx | hx
          · exact inv.preIn x hx
          · rcases List.mem_cons.mp hx with e | hx
            · exact absurd (e ▸ hcx) hsup
            · exact absurd (ctx.so.trans _ _ _ hcx (hbelow x hx)) hsup

theorem iterateChain_ok (ctx : SweepCtx n lt rk pos top chains) (hmem : chain ∈ chains) (hc : c < n) (s : Scan)
    (hs : ScanOK n lt c s) (topIn : top ∈ s.all) (startLe : s.start ≤ chain.length)
    (startIn : ∀ x ∈ chain.take s.start, x ∈ s.all) (covIn : ∀ q ∈ s.all, q ∈ upperCoversBy n lt c → q ∈ s.sup) :
    AuxRes n lt chain c s (iterateChain lt pos chain c s) := by
  have := iterateChainAux_ok ctx hmem hc (chain.drop s.start) (chain.take s.start) s (List.take_append_drop ..).symm
    ⟨hs, topIn, startIn, startLe, fun q hq hc => Or.inl (covIn q hq hc)⟩
  rwa [List.length_take, Nat.min_eq_left startLe] at this

end

end Fca.Construct
