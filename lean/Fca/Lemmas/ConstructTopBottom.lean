/-
  `get_top_bottom_concepts_i` (unsorted path) finds the indexes of the unique largest / smallest support.
-/
import Fca.Lemmas.ConstructBasic
namespace Fca.Construct
open Fca.Spec

/-- the loop body treats the two extremes independently and alike, with `>` resp. `<` on the supports -/
theorem topBottomStep_eq (supp : Nat → Nat) (s : TB) (i : Nat) :
    topBottomStep supp s i =
      ⟨if supp i > supp s.top then i else s.top, if supp i < supp s.bot then i else s.bot,
        if supp i > supp s.top then false else (s.multTop || supp i == supp s.top),
        if supp i < supp s.bot then false else (s.multBot || supp i == supp s.bot)⟩ := by
  unfold topBottomStep
  by_cases h1 : supp i > supp s.top <;> by_cases h2 : supp i < supp s.bot <;> simp only [h1, h2, if_true, if_false]

/-- one extreme of the loop state after the indexes below `k`: the current candidate `cur` and the flag
    "its support occurs twice"; once the true extreme `t0` has been passed they are `t0` and `false` -/
structure HalfInv (t0 k cur : Nat) (mult : Bool) : Prop where
  lt : cur < k
  found : t0 < k → cur = t0 ∧ mult = false

/-- `better i j` = "`i` beats `j`" (`supp i > supp j` for the top, `<` for the bottom), `tie` the equality
    test on the supports; `t0` beats every other index up to `k` -/
theorem HalfInv.step {better : Nat → Nat → Prop} [DecidableRel better] {tie : Nat → Nat → Bool}
    (hasym : ∀ i j, better i j → ¬ better j i) (htie : ∀ i j, better i j → tie j i = false)
    {t0 k cur : Nat} {mult : Bool}
    (hbest : ∀ j, j ≤ k → j ≠ t0 → better t0 j) (inv : HalfInv t0 k cur mult) :
    HalfInv t0 (k + 1) (if better k cur then k else cur)
      (if better k cur then false else (mult || tie k cur)) := by
  refine ⟨?_, fun hm => ?_⟩
  · split
    · exact Nat.lt_succ_self k
    · exact Nat.lt_succ_of_lt inv.lt
  · rcases Nat.lt_succ_iff_lt_or_eq.mp hm with hm | hm
    · obtain ⟨e1, e2⟩ := inv.found hm
      have hb := hbest k (Nat.le_refl k) (Nat.ne_of_gt hm)
      rw [e1, e2, if_neg (hasym _ _ hb), if_neg (hasym _ _ hb), htie _ _ hb]
      exact ⟨rfl, rfl⟩
    · subst hm
      have hb := hbest cur (Nat.le_of_lt inv.lt) (Nat.ne_of_lt inv.lt)
      rw [if_pos hb, if_pos hb]
      exact ⟨rfl, rfl⟩

theorem getTopBottom_eq {n : Nat} {supp : Nat → Nat} {t0 b0 : Nat} (ht0 : t0 < n) (hb0 : b0 < n)
    (ht : ∀ j, j < n → j ≠ t0 → supp j < supp t0) (hb : ∀ j, j < n → j ≠ b0 → supp b0 < supp j) :
    getTopBottom n supp = (some t0, some b0) := by
  have key : ∀ m, m < n → ∀ s, ((List.range (m + 1)).drop 1).foldl (topBottomStep supp) ⟨0, 0, false, false⟩ = s →
      HalfInv t0 (m + 1) s.top s.multTop ∧ HalfInv b0 (m + 1) s.bot s.multBot := by
    intro m
    induction m with
    | zero =>
      intro _ s e
      subst e
      have h0 : ∀ x, HalfInv x 1 0 false := fun x =>
        ⟨Nat.zero_lt_one, fun h => ⟨(Nat.lt_one_iff.mp h).symm, rfl⟩⟩
      exact ⟨h0 t0, h0 b0⟩
    | succ m ih =>
      intro hm s e
      obtain ⟨it, ib⟩ := ih (Nat.lt_of_succ_lt hm) _ rfl
      rw [List.range_succ (n := m + 1), List.drop_append_of_le_length (by rw [List.length_range]; exact Nat.succ_pos m),
        List.foldl_append, List.foldl_cons, List.foldl_nil, topBottomStep_eq] at e
      subst e
      -- the projections of the record literal, reduced once here and not in every unification below
      dsimp only
      exact ⟨it.step (better := fun i j => supp i > supp j) (fun _ _ h => Nat.lt_asymm h)
          (fun _ _ h => beq_eq_false_iff_ne.mpr (Nat.ne_of_lt h)) (fun j hj => ht j (Nat.lt_of_le_of_lt hj hm)),
        ib.step (better := fun i j => supp i < supp j) (fun _ _ h => Nat.lt_asymm h)
          (fun _ _ h => beq_eq_false_iff_ne.mpr (Nat.ne_of_gt h)) (fun j hj => hb j (Nat.lt_of_le_of_lt hj hm))⟩
  cases n with
  | zero => exact absurd ht0 (Nat.not_lt_zero _)
  | succ m =>
    obtain ⟨⟨_, ft⟩, ⟨_, fb⟩⟩ := key m (Nat.lt_succ_self m) _ rfl
    obtain ⟨e1, e2⟩ := ft ht0
    obtain ⟨e3, e4⟩ := fb hb0
    unfold getTopBottom
    simp only [e1, e2, e3, e4, Bool.false_eq_true, if_false]

/-- on duplicate-free extents the greatest and the least concept have the unique extreme supports -/
theorem getTopBottom_of_isTop {cs : List Ext} (hnd : ExtsNodup cs) {t0 b0 : Nat} (ht : IsTop cs t0)
    (hb : IsBottom cs b0) : getTopBottom cs.length (suppAt cs) = (some t0, some b0) :=
  getTopBottom_eq ht.1 hb.1
    (fun j hj hne => ltC_length (ltAt_eq_ssubAt hnd ▸ ht.2 j hj hne : ltAt cs j t0 = true))
    (fun j hj hne => ltC_length (ltAt_eq_ssubAt hnd ▸ hb.2 j hj hne : ltAt cs b0 j = true))

/-- `add_concept` and `remove_concept` keep the extreme indexes they are given unless one is `None` or they
    look "weird" for the change at hand; either way they go on with the true ones -/
theorem topBottom_of_given {cs : List Ext} (hnd : ExtsNodup cs) {t0 b0 : Nat} (ht : IsTop cs t0)
    (hb : IsBottom cs b0) {rt rb : Option Nat} (hrt : rt = none ∨ rt = some t0)
    (hrb : rb = none ∨ rb = some b0) (weird : Nat → Nat → Bool) :
    (match (generalizing := false) rt, rb with
      | some t, some b => if weird t b then getTopBottom cs.length (suppAt cs) else (some t, some b)
      | _, _ => getTopBottom cs.length (suppAt cs)) = (some t0, some b0) := by
  have hg := getTopBottom_of_isTop hnd ht hb
  rcases hrt with rfl | rfl
  · exact hg
  rcases hrb with rfl | rfl
  · exact hg
  · show (if _ then _ else _) = _
    split
    · exact hg
    · rfl

end Fca.Construct
