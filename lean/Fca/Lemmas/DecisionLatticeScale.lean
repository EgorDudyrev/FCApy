/-
  Scaling.  `dl *= c` multiplies every prediction by `c`; and the converter is homogeneous in the targets
  (`C20.dl_target_homogeneous`): multiplying every node value of the tree by `c` multiplies every decision (node
  delta) by `c` and changes nothing else (same parents, premises, concepts, generators, same exceptions).
-/
import Fca.Lemmas.DecisionLatticeTree
import Fca.Lemmas.ListAux
namespace Fca.DL

theorem alGet_map_scale (dec : List (DKey × Rat)) (c : Rat) (k : DKey) :
    alGet (dec.map fun kv => (kv.1, kv.2 * c)) k = (alGet dec k).map (· * c) := by
  induction dec with
  | nil => rfl
  | cons kv rest ih =>
    simp only [List.map, alGet]
    split
    · rfl
    · exact ih

theorem getD_map_scale (acc : List Rat) (c : Rat) (g : Nat) :
    (acc.map (· * c)).getD g 0 = acc.getD g 0 * c := by
  have h := ListAux.getD_map_default (· * c) acc g 0
  rwa [Rat.zero_mul] at h

theorem addAt_scale (acc : List Rat) (ext : List Nat) (d c : Rat) :
    addAt (acc.map (· * c)) ext (d * c) = (addAt acc ext d).map (· * c) := by
  unfold addAt
  simp only [List.length_map, List.map_map]
  apply List.map_congr_left
  intro g _
  simp only [Function.comp, getD_map_scale]
  split
  · rw [Rat.add_mul]
  · rfl

theorem sumDiff_scale (dec : List (DKey × Rat)) (c : Rat) (recs : List GenRec) (acc : List Rat) :
    sumDiff (dec.map fun kv => (kv.1, kv.2 * c)) recs (acc.map (· * c))
      = (sumDiff dec recs acc).map (List.map (· * c)) := by
  induction recs generalizing acc with
  | nil => rfl
  | cons r rs ih =>
    simp only [sumDiff, alGet_map_scale]
    cases alGet dec ⟨r.sup, r.concept, r.gen⟩ with
    | none => rfl
    | some d =>
      simp only [Option.map]
      rw [addAt_scale, ih]

theorem predict_imul (L : DLat) (X : Rows) (m : Nat) (order : List GenRec → List GenRec) (c : Rat) :
    predict (imul L c) X m order = (predict L X m order).map (List.map (· * c)) := by
  unfold predict imul
  simp only
  cases traceContext L.lat X m order with
  | error e => rfl
  | ok recs =>
    simp only
    have h0 : List.replicate (nObjects X) (0 : Rat) = (List.replicate (nObjects X) (0 : Rat)).map (· * c) := by
      simp [Rat.zero_mul]
    rw [h0, sumDiff_scale]
    simp [Rat.zero_mul]

def scaleTargets (t : Tree) (c : Rat) : Tree := { t with value := t.value.map (· * c) }

theorem scaleTargets_n (t : Tree) (c : Rat) : (scaleTargets t c).n = t.n := by
  simp [scaleTargets, Tree.n]

theorem parentOf_scale (t : Tree) (c : Rat) (k : Nat) : parentOf (scaleTargets t c) k = parentOf t k := rfl

theorem directDescr_scale (t : Tree) (c : Rat) (nxt : Rat → Rat) (k : Nat) (thr : Rat) :
    directDescr (scaleTargets t c) nxt k thr = directDescr t nxt k thr := rfl

theorem nodes1_scale (t : Tree) (c : Rat) : nodes1 (scaleTargets t c) = nodes1 t := by
  simp [nodes1, scaleTargets_n]

-- `parseLoop`, `parentsList` and `descend` never read `value`; `delta` because `rfl` alone keeps the loop folded
theorem parseLoop_scale (t : Tree) (c : Rat) (m : Nat) (nxt : Rat → Rat) (ks : List Nat) (dps ps : List Prem) :
    parseLoop (scaleTargets t c) m nxt ks dps ps = parseLoop t m nxt ks dps ps := by
  delta parseLoop
  rfl

theorem parentsList_scale (t : Tree) (c : Rat) (ks : List Nat) :
    parentsList (scaleTargets t c) ks = parentsList t ks := by
  delta parentsList
  rfl

theorem sub_mul (a b c : Rat) : (a - b) * c = a * c - b * c := by
  rw [Rat.sub_eq_add_neg, Rat.sub_eq_add_neg, Rat.add_mul, Rat.neg_mul]

theorem deltas_scale (v : List Rat) (c : Rat) (ks : List Nat) :
    ∀ ps : List (Option Nat), deltas (v.map (· * c)) ks ps = (deltas v ks ps).map (List.map (· * c)) := by
  induction ks with
  | nil => intro _; rfl
  | cons k ks ih =>
    intro ps
    match ps with
    | [] => rfl
    | none :: _ => rfl
    | some p :: ps =>
      simp only [deltas, List.getElem?_map, ih]
      cases v[k]? <;> cases v[p]? <;> try rfl
      cases deltas v ks ps
      · rfl
      · simp only [Option.map_some, Except.map, List.map_cons, sub_mul]

theorem mkDecisions_scale (c : Rat) : ∀ (i : Nat) (ps : List (Option Nat)) (dps : List Prem) (ds : List Rat),
    mkDecisions i ps dps (ds.map (· * c)) = (mkDecisions i ps dps ds).map fun kv => (kv.1, kv.2 * c)
  | _, [], _, _ => rfl
  | _, _ :: _, [], _ => rfl
  | _, _ :: _, _ :: _, [] => rfl
  | i, p :: ps, dp :: dps, d :: ds => by
    simp only [List.map_cons, mkDecisions, mkDecisions_scale c (i + 1) ps dps ds]

theorem parse_scale (t : Tree) (c : Rat) (m : Nat) (nxt : Rat → Rat) :
    parse (scaleTargets t c) m nxt =
      (parse t m nxt).map fun r => { r with dtargets := r.dtargets.map (· * c) } := by
  simp only [parse, nodes1_scale, parentsList_scale, parseLoop_scale]
  have hv : (scaleTargets t c).value = t.value.map (· * c) := rfl
  rw [hv]
  cases parentsList t (nodes1 t) with
  | error e => rfl
  | ok pl =>
    simp only
    cases parseLoop t m nxt (nodes1 t) [[]] [[]] with
    | error e => rfl
    | ok dp =>
      obtain ⟨dps, ps⟩ := dp
      simp only
      rw [deltas_scale]
      cases deltas t.value (nodes1 t) pl with
      | error e => rfl
      | ok ds => simp [Except.map, List.map_take]

theorem descend_scale (t : Tree) (c : Rat) (x : List Rat) (fuel i : Nat) :
    descend (scaleTargets t c) x fuel i = descend t x fuel i := by
  delta descend
  rfl

end Fca.DL
