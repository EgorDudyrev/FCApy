/-
  `construct_spanning_tree` builds a tree rooted at the greatest concept whose edges are strict inclusions, and
  `_get_chains` decomposes it into root-to-node chains that cover all indexes.
-/
import Fca.Lemmas.ConstructBasic
import Fca.Lemmas.ChainWalk
namespace Fca.Construct
open Fca.Spec

/-- what the tree / chain routines need of the listing order -/
structure SortViewOK (n : Nat) (sv : SortView) : Prop where
  perm : sv.isortI.Perm (List.range n)
  pos_isortI : ∀ k, k < n → sv.pos (sv.isortI.getD k 0) = k

namespace SortViewOK
variable {n : Nat} {sv : SortView}

theorem length (h : SortViewOK n sv) : sv.isortI.length = n := ListAux.length_of_perm_range h.perm

theorem mem_iff (h : SortViewOK n sv) {i : Nat} : i ∈ sv.isortI ↔ i < n := ListAux.mem_of_perm_range h.perm

theorem pos_eq_zero (h : SortViewOK n sv) {i : Nat} (hi : i < n) :
    sv.pos i = 0 ↔ i = sv.isortI.getD 0 0 := by
  obtain ⟨k, hk, hki⟩ := ListAux.exists_getD_of_perm_range h.perm hi
  have hp := h.pos_isortI k hk
  rw [hki] at hp
  constructor
  · intro h0
    have : k = 0 := hp.symm.trans h0
    subst this; exact hki.symm
  · intro h0; rw [h0]; exact h.pos_isortI 0 (Nat.zero_lt_of_lt hi)

end SortViewOK

variable {n : Nat} {lt : Nat → Nat → Bool} {rank : Nat → Nat}

/-- invariant of `construct_spanning_tree` after the concepts in `placed` have been placed -/
structure TreeInv (n : Nat) (lt : Nat → Nat → Bool) (root : Nat) (placed : List Nat) (t : SpTree) : Prop where
  lenSub : t.sub.length = n
  lenSup : t.sup.length = n
  rootPlaced : root ∈ placed
  placedLt : ∀ c ∈ placed, c < n
  parent : ∀ c ∈ placed, c ≠ root →
    ∃ p, t.sup.getD c [] = [p] ∧ p ∈ placed ∧ lt c p = true ∧ c ∈ t.sub.getD p []
  child : ∀ p s, s ∈ t.sub.getD p [] → s ∈ placed ∧ s ≠ root ∧ t.sup.getD s [] = [p]
  rootSup : t.sup.getD root [] = []

theorem treeInv_init {root : Nat} (hr : root < n) :
    TreeInv n lt root [root] ⟨List.replicate n [], List.replicate n []⟩ := by
  refine ⟨List.length_replicate, List.length_replicate, List.mem_singleton_self _, ?_, ?_, ?_,
    ListAux.getD_replicate_self _ _ _⟩
  · intro c hc; rw [List.mem_singleton.mp hc]; exact hr
  · intro c hc hne; exact absurd (List.mem_singleton.mp hc) hne
  · intro p s hs; rw [ListAux.getD_replicate_self _ _ _] at hs; cases hs

theorem treeInv_child_lt {root : Nat} {placed : List Nat} {t : SpTree} (inv : TreeInv n lt root placed t)
    {p s : Nat} (hs : s ∈ t.sub.getD p []) : lt s p = true ∧ s ∈ placed := by
  obtain ⟨h1, h2, h3⟩ := inv.child p s hs
  obtain ⟨q, hq, _, hlt, _⟩ := inv.parent s h1 h2
  rw [h3] at hq
  cases hq
  exact ⟨hlt, h1⟩

/-- every sift step descends in rank, so a fuel above the rank of the start is enough -/
theorem siftDown_ok (h : StrictOrd lt rank) (ord : List Nat → List Nat)
    (hord : OrdOK ord) {root : Nat} {placed : List Nat} {t : SpTree}
    (inv : TreeInv n lt root placed t) (c : Nat) :
    ∀ fuel sup, sup ∈ placed → lt c sup = true → rank sup < fuel →
      ∃ s, siftDown lt ord t.sub c fuel sup = .ok s ∧ s ∈ placed ∧ lt c s = true := by
  intro fuel
  induction fuel with
  | zero => intro sup _ _ hf; exact absurd hf (Nat.not_lt_zero _)
  | succ f ih =>
    intro sup hsup hlt hf
    unfold siftDown
    cases hfind : (ord (t.sub.getD sup [])).find? (fun s => lt c s) with
    | none => exact ⟨sup, rfl, hsup, hlt⟩
    | some s =>
      obtain ⟨hsp, hspl⟩ := treeInv_child_lt inv (hord.mem_iff.mp (List.mem_of_find?_eq_some hfind))
      have := h.rank_lt s sup hsp
      exact ih s hspl (List.find?_some hfind) (Nat.lt_of_lt_of_le this (Nat.le_of_lt_succ hf))

theorem treeInv_place (h : StrictOrd lt rank) (ord : List Nat → List Nat)
    (hord : OrdOK ord) {root : Nat} {placed : List Nat} {t : SpTree}
    (inv : TreeInv n lt root placed t) {c fuel : Nat} (hc : c < n) (hcp : c ∉ placed)
    (hroot : lt c root = true) (hf : rank root < fuel) :
    ∃ t', placeConcept lt ord fuel root t c = .ok t' ∧ TreeInv n lt root (placed ++ [c]) t' := by
  obtain ⟨s, hs, hsp, hcs⟩ := siftDown_ok h ord hord inv c fuel root inv.rootPlaced hroot hf
  unfold placeConcept
  rw [hs]
  refine ⟨_, rfl, ?_⟩
  have hsSub : s < t.sub.length := by rw [inv.lenSub]; exact inv.placedLt s hsp
  have hcSup : c < t.sup.length := by rw [inv.lenSup]; exact hc
  -- the parents of the placed concepts stay, the children sets gain the one edge `s → c`
  have hsup : ∀ x, x ∈ placed → (t.sup.set c [s]).getD x [] = t.sup.getD x [] :=
    fun x hx => ListAux.getD_set_ne _ _ _ _ _ (fun e => hcp (e ▸ hx))
  have hsub : ∀ p y, y ∈ (t.sub.set s (addSet (t.sub.getD s []) c)).getD p [] ↔
      y ∈ t.sub.getD p [] ∨ (p = s ∧ y = c) := by
    intro p y
    by_cases hps : p = s
    · rw [hps, ListAux.getD_set_eq _ _ _ _ hsSub, mem_addSet, eq_self_iff_true, true_and]
    · rw [ListAux.getD_set_ne _ _ _ _ _ (Ne.symm hps), eq_false hps, false_and, or_false]
  refine ⟨List.length_set.trans inv.lenSub, List.length_set.trans inv.lenSup,
    List.mem_append_left _ inv.rootPlaced, ?_, ?_, ?_, (hsup root inv.rootPlaced).trans inv.rootSup⟩
  · intro x hx
    rcases List.mem_append.mp hx with hx | hx
    · exact inv.placedLt x hx
    · rw [List.mem_singleton.mp hx]; exact hc
  · intro x hx hxr
    rcases List.mem_append.mp hx with hx | hx
    · obtain ⟨p, hp1, hp2, hp3, hp4⟩ := inv.parent x hx hxr
      exact ⟨p, (hsup x hx).trans hp1, List.mem_append_left _ hp2, hp3, (hsub p x).mpr (Or.inl hp4)⟩
    · rw [List.mem_singleton.mp hx]
      exact ⟨s, ListAux.getD_set_eq _ _ _ _ hcSup, List.mem_append_left _ hsp, hcs, (hsub s c).mpr (Or.inr ⟨rfl, rfl⟩)⟩
  · intro p y hy
    rcases (hsub p y).mp hy with hy | ⟨rfl, rfl⟩
    · obtain ⟨h1, h2, h3⟩ := inv.child p y hy
      exact ⟨List.mem_append_left _ h1, h2, (hsup y h1).trans h3⟩
    · exact ⟨List.mem_append_right _ (List.mem_singleton_self _), fun e => hcp (e ▸ inv.rootPlaced),
        ListAux.getD_set_eq _ _ _ _ hcSup⟩

theorem treeInv_placeAll (h : StrictOrd lt rank) (ord : List Nat → List Nat)
    (hord : OrdOK ord) {root fuel : Nat} (hf : rank root < fuel) :
    ∀ (rest placed : List Nat) (t : SpTree), TreeInv n lt root placed t →
      (placed ++ rest).Nodup → (∀ c ∈ rest, c < n ∧ lt c root = true) →
      ∃ t', placeAll lt ord fuel root t rest = .ok t' ∧ TreeInv n lt root (placed ++ rest) t' := by
  intro rest
  induction rest with
  | nil => intro placed t inv _ _; exact ⟨t, rfl, by rw [List.append_nil]; exact inv⟩
  | cons c rest ih =>
    intro placed t inv hnd hall
    have hcp : c ∉ placed := fun hc =>
      (List.nodup_append.mp hnd).2.2 c hc c (List.mem_cons_self ..) rfl
    obtain ⟨hc, hcr⟩ := hall c (List.mem_cons_self ..)
    obtain ⟨t1, ht1, inv1⟩ := treeInv_place h ord hord inv hc hcp hcr hf
    unfold placeAll
    rw [ht1]
    have e : placed ++ c :: rest = (placed ++ [c]) ++ rest := (List.append_cons ..)
    rw [e] at hnd ⊢
    exact ih (placed ++ [c]) t1 inv1 hnd (fun x hx => hall x (List.mem_cons_of_mem _ hx))

theorem constructSpanningTree_ok (h : StrictOrd lt rank) (ord : List Nat → List Nat)
    (hord : OrdOK ord) {sv : SortView} (hsv : SortViewOK n sv) {top fuel : Nat}
    (hroot : sv.isortI.getD 0 0 = top) (htop : Ord.Greatest n lt top) (hf : rank top < fuel) :
    ∃ t, constructSpanningTree n lt sv ord fuel = .ok t ∧ TreeInv n lt top sv.isortI t := by
  unfold constructSpanningTree
  have hlen := hsv.length
  have hnd := hsv.perm.nodup_iff.mpr List.nodup_range
  have hmem := fun i => hsv.mem_iff (i := i)
  cases hI : sv.isortI with
  | nil => rw [hI] at hlen; exact absurd hlen.symm (Nat.ne_of_gt (Nat.zero_lt_of_lt htop.1))
  | cons root rest =>
    rw [hI] at hroot hnd hmem
    obtain rfl : root = top := hroot
    have hall : ∀ c ∈ rest, c < n ∧ lt c root = true := fun c hc =>
      have hcn : c < n := (hmem c).mp (List.mem_cons_of_mem _ hc)
      ⟨hcn, htop.2 c hcn (fun e => (List.nodup_cons.mp hnd).1 (e ▸ hc))⟩
    exact treeInv_placeAll h ord hord hf rest [root] _
      (treeInv_init ((hmem root).mp (List.mem_cons_self ..))) hnd hall

theorem minOf_singleton (p : Nat) : minOf [p] = .ok p := rfl

theorem chainStepsOK_of_steps {par : Nat → Option Nat} (ch : List Nat) :
    LQ.Steps (fun p c => par c = some p ∧ lt c p = true) ch → chainStepsOK lt par ch = true := by
  induction ch with
  | nil => exact fun _ => rfl
  | cons p rest ih =>
    intro hs
    cases rest with
    | nil => rfl
    | cons c rest =>
      rw [LQ.steps_cons_cons] at hs
      unfold chainStepsOK
      rw [Bool.and_eq_true, Bool.and_eq_true, beq_iff_eq]
      exact ⟨hs.1, ih hs.2⟩

/-- the rank grows at every step of the walk from `c` to the root -/
theorem walkUp_ok (h : StrictOrd lt rank) {sv : SortView} (hsv : SortViewOK n sv) {top : Nat}
    {t : SpTree} (hroot : sv.isortI.getD 0 0 = top) (inv : TreeInv n lt top sv.isortI t)
    (htop : Ord.Greatest n lt top) :
    ∀ fuel c, c < n → rank top - rank c < fuel →
      ∃ l, walkUp t.sup sv.pos fuel c (sv.pos c) = .ok l ∧ l.head? = some c ∧
        Chain.Good (fun p c => parentOf t.sup c = some p ∧ lt c p = true) n top l.reverse :=
  Chain.walk_ok (W := fun f c l => walkUp t.sup sv.pos f c (sv.pos c) = .ok l) (stop := fun c => c = top)
    (μ := fun c => rank top - rank c)
    (fun f c hc e => ⟨e, by rw [walkUp, if_pos (beq_iff_eq.mpr ((hsv.pos_eq_zero hc).mpr (e.trans hroot.symm)))]⟩)
    fun f c hc hct => by
      obtain ⟨p, hp1, hp2, hp3, _⟩ := inv.parent c (hsv.mem_iff.mpr hc) hct
      have hpn := hsv.mem_iff.mp hp2
      refine ⟨p, hpn, ⟨by rw [parentOf, hp1], hp3⟩, ?_, fun l hl => ?_⟩
      · have hr := h.rank_lt c p hp3
        have hpt : rank p ≤ rank top := Classical.byCases (fun e : p = top => Nat.le_of_eq (congrArg rank e))
          fun e => Nat.le_of_lt (h.rank_lt p top (htop.2 p hpn e))
        exact Nat.sub_lt_sub_left (Nat.lt_of_lt_of_le hr hpt) hr
      · rw [walkUp, if_neg (fun e => hct (((hsv.pos_eq_zero hc).mp (beq_iff_eq.mp e)).trans hroot)),
          ListAux.getElem?_eq_some_getD [] (inv.lenSup.symm ▸ hc), hp1]
        simp only [minOf_singleton]
        rw [hl]

/-- one round of the outer loop, as `Chain.loop_ok` asks for it -/
theorem chainsLoop_round (h : StrictOrd lt rank) {sv : SortView} (hsv : SortViewOK n sv) {top : Nat}
    {t : SpTree} (hroot : sv.isortI.getD 0 0 = top) (inv : TreeInv n lt top sv.isortI t)
    (htop : Ord.Greatest n lt top) {wfuel : Nat} (hw : rank top < wfuel) (fuel : Nat) (vis : List Nat)
    (chs : List (List Nat)) (hnd : vis.Nodup) (hv : vis.length < n) (hex : ∃ i, i < n ∧ i ∉ vis) :
    ∃ (c : Nat) (l vis' : List Nat), c ∉ vis ∧ c ∈ l ∧
      Chain.Good (fun p c => parentOf t.sup c = some p ∧ lt c p = true) n top l.reverse ∧
      vis'.Nodup ∧ (∀ x, x ∈ vis' ↔ x ∈ vis ∨ x ∈ l) ∧
      chainsLoop n t.sup sv wfuel (fuel + 1) vis chs = chainsLoop n t.sup sv wfuel fuel vis' (chs ++ [l.reverse]) := by
  obtain ⟨i, hi, hiv⟩ := hex
  obtain ⟨k0, hk0, hki⟩ := ListAux.exists_getD_of_perm_range hsv.perm hi
  obtain ⟨k, hk, hfu, hcv⟩ := Chain.scan_ok (scan := findUnvisited sv.isortI vis)
    (ret := fun k => some (k, sv.isortI.getD k 0)) (fun _ => rfl) n ⟨k0, hk0, hki ▸ hiv⟩
  obtain ⟨l, hl, hhead, hg⟩ := walkUp_ok h hsv hroot inv htop wfuel _ (ListAux.getD_lt_of_perm_range hsv.perm hk)
    (Nat.lt_of_le_of_lt (Nat.sub_le _ _) hw)
  rw [hsv.pos_isortI k hk] at hl
  refine ⟨_, l, _, hcv, List.mem_of_mem_head? hhead, hg, nodup_union hnd, fun x => mem_union, ?_⟩
  rw [chainsLoop, if_pos hv, hfu]
  simp only [hl]

theorem chainsOK_of_good {par : Nat → Option Nat} {top : Nat} {chs : List (List Nat)}
    (hcov : ∀ i, i < n → ∃ ch ∈ chs, i ∈ ch)
    (hgood : ∀ ch ∈ chs, Chain.Good (fun p c => par c = some p ∧ lt c p = true) n top ch) :
    chainsOK n lt par top chs = true := by
  simp only [chainsOK, Bool.and_eq_true, List.all_eq_true, List.any_eq_true, List.mem_range,
    List.contains_eq_mem, decide_eq_true_eq, beq_iff_eq]
  exact ⟨fun ch hch => ⟨⟨(hgood ch hch).head, chainStepsOK_of_steps ch (hgood ch hch).steps⟩, (hgood ch hch).lt⟩, hcov⟩

theorem tree_chains_ok (h : StrictOrd lt rank) (ord : List Nat → List Nat)
    (hord : OrdOK ord) {sv : SortView} (hsv : SortViewOK n sv) {top fuel : Nat}
    (hroot : sv.isortI.getD 0 0 = top) (htop : Ord.Greatest n lt top) (hf : rank top < fuel) :
    ∃ t chs, constructSpanningTree n lt sv ord fuel = .ok t ∧ getChains n t.sup sv fuel = .ok chs ∧
      chainsOK n lt (parentOf t.sup) top chs = true := by
  obtain ⟨t, ht, inv⟩ := constructSpanningTree_ok h ord hord hsv hroot htop hf
  obtain ⟨chs, hchs, hcov, hgood⟩ := Chain.loop_ok (fun f vis chs hv => by rw [chainsLoop, if_neg hv])
    (chainsLoop_round h hsv hroot inv htop hf) (n + 1) [] [] List.nodup_nil nofun nofun nofun (Nat.lt_succ_self n)
  exact ⟨t, chs, ht, hchs, chainsOK_of_good hcov hgood⟩

end Fca.Construct
