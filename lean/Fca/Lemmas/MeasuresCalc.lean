/-
  `calc_concepts_measures` stores, for every concept, the value of the measure function under the measure's
  key(s).  Such a value depends on the key and the concept only, so after any sequence of calls concept `i` carries
  `keys.map fun k => (k, value of k for i)` for the keys computed so far (`runCalls_rows`).
-/
import Fca.Lemmas.MeasuresEval
import Fca.Lemmas.MeasuresArrays
namespace Fca.Measures
open Fca.Spec

theorem calcLoop_rows (v : String → Nat → Val) (ks keys : List String)
    (f : Nat → Except PyErr (List (String × Val))) (n : Nat)
    (hf : ∀ j, j < n → f j = .ok (ks.map fun k => (k, v k j))) :
    ∀ (len i : Nat), i + len ≤ n →
      calcLoop f i ((List.range' i len).map (row v keys))
        = .ok ((List.range' i len).map (row v (addKeys keys ks))) := by
  intro len
  induction len with
  | zero => exact fun _ _ => rfl
  | succ len ih =>
    intro i hi
    have hlt : i < n := Nat.lt_of_lt_of_le (Nat.lt_succ_of_le (Nat.le_add_right i len)) hi
    simp only [List.range'_succ, List.map_cons, calcLoop, hf i hlt,
      ih (i + 1) (Nat.le_trans (Nat.le_of_eq (Nat.add_right_comm i 1 len)) hi), bind, Except.bind, pure,
      Except.pure, foldl_dictSet_row]

/-- the executable check of the driver decides `IsLatticeOf` -/
theorem isLatticeOfB_iff (t : Table) (L : Lattice) : isLatticeOfB t L = true ↔ IsLatticeOf t L := by
  simp only [isLatticeOfB, Bool.and_eq_true, decide_eq_true_eq, List.all_eq_true, List.contains_eq_mem,
    List.mem_range, sameMembers]
  constructor
  · rintro ⟨⟨⟨h1, h2⟩, h3⟩, h4⟩
    exact ⟨h1, fun c => ⟨h2 c, h3 c⟩, fun i hi => (h4 i hi).1,
      fun i hi j => ⟨(h4 i hi).2.1 j, (h4 i hi).2.2 j⟩⟩
  · intro h
    exact ⟨⟨⟨h.nodup, fun c hc => (h.mem c).mp hc⟩, fun c hc => (h.mem c).mpr hc⟩,
      fun i hi => ⟨h.cnodup i hi, fun j hj => (h.cmem i hi j).mp hj, fun j hj => (h.cmem i hi j).mpr hj⟩⟩

theorem mem_allConceptsObj (t : Table) {A B : List Nat} :
    (A, B) ∈ allConceptsObj t ↔ isConcept t A B = true := by
  unfold allConceptsObj
  rw [List.mem_eraseDups, List.mem_map]
  constructor
  · rintro ⟨S, hS, heq⟩
    have hr : ∀ g ∈ S, g < t.height := fun g hg => List.mem_range.mp (mem_of_mem_sublists hS g hg)
    have := isConcept_of_objs t hr
    simp only [Prod.mk.injEq] at heq
    rw [← heq.1, ← heq.2]; exact this
  · intro h
    rw [isConcept_iff] at h
    refine ⟨A, ?_, ?_⟩
    · rw [← h.1]; unfold extAll Spec.ext; exact filter_mem_sublists _ _
    · simp only [closure, Prod.mk.injEq]
      rw [h.2]; exact ⟨h.1, rfl⟩

theorem mem_allConceptsObj_iff_mem_allConcepts (t : Table) (c : List Nat × List Nat) :
    c ∈ allConceptsObj t ↔ c ∈ allConcepts t := by
  obtain ⟨A, B⟩ := c
  rw [mem_allConceptsObj, mem_allConcepts]

theorem isLatticeOfObjB_iff (t : Table) (L : Lattice) : isLatticeOfObjB t L = true ↔ IsLatticeOf t L := by
  rw [← isLatticeOfB_iff]
  simp only [isLatticeOfObjB, isLatticeOfB, Bool.and_eq_true, decide_eq_true_eq, List.all_eq_true,
    List.contains_eq_mem, mem_allConceptsObj_iff_mem_allConcepts]

/-- the keys `calc_concepts_measures` stores under for a measure name `m` of C16 (`Spec.inScope`) -/
def keysFor (m : String) : List String :=
  if m = "stability_bounds" ∨ m = "LStab" ∨ m = "UStab" then ["LStab", "UStab"]
  else if m = "log_stability_lbound" then ["log_stability_lbound"]
  else ["Stab"]

theorem keysFor_ne_nil (m : String) : keysFor m ≠ [] := by
  unfold keysFor
  split
  · exact List.cons_ne_nil _ _
  · split <;> exact List.cons_ne_nil _ _

theorem valueOf_LStab (L : Lattice) (K : Ctx) (i : Nat) :
    valueOf L K "LStab" i = (stabilityBounds i L).map fun p => Val.q p.1 := by simp [valueOf]

theorem valueOf_UStab (L : Lattice) (K : Ctx) (i : Nat) :
    valueOf L K "UStab" i = (stabilityBounds i L).map fun p => Val.q p.2 := by simp [valueOf]

theorem valueOf_Stab (L : Lattice) (K : Ctx) (i : Nat) :
    valueOf L K "Stab" i = (stability i L K).map Val.q := by simp [valueOf]

theorem valueOf_log (L : Lattice) (K : Ctx) (i : Nat) :
    valueOf L K "log_stability_lbound" i = (logStabilityLbound i L K.nAttributes).map Val.lg := by
  simp [valueOf]

/-- the value stored under the key `k` for concept `i` (`valueOf` made total; `calc_name` shows that it returns
    on the keys of the C16 measures) -/
def valOf (L : Lattice) (K : Ctx) (k : String) (i : Nat) : Val :=
  match valueOf L K k i with
  | .ok x => x
  | .error _ => default

theorem valOf_of_ok {L : Lattice} {K : Ctx} {k : String} {i : Nat} {x : Val} (h : valueOf L K k i = .ok x) :
    valOf L K k i = x := by
  rw [valOf, h]

/-- the dispatch of `calc_concepts_measures` on a C16 measure name: the per-concept loop over a function that, on
    a concept lattice, returns for every concept the measure's keys, each with the value `valueOf` returns for it -/
theorem calc_name (K : Ctx) (L : Lattice) (h : IsLatticeOf K.table L) (hw : K.nAttributes ≠ 0) (m : String)
    (hm : inScope m) :
    ∃ f, (∀ meas, calcConceptsMeasures L meas (.name m) K = calcLoop f 0 meas) ∧
      ∀ j, j < L.concepts.length → f j = .ok ((keysFor m).map fun k => (k, valOf L K k j)) ∧
        ∀ k ∈ keysFor m, valueOf L K k j = .ok (valOf L K k j) := by
  by_cases h1 : m = "stability_bounds" ∨ m = "LStab" ∨ m = "UStab"
  · refine ⟨_, fun meas => by rw [calcConceptsMeasures]; exact if_pos h1, fun j hj => ?_⟩
    obtain ⟨⟨A, B⟩, hc⟩ := get_of_lt L hj
    obtain ⟨lb, ub, hp, _⟩ := stabilityBounds_bracket h hc
    have e1 : valueOf L K "LStab" j = .ok (.q lb) := by rw [valueOf_LStab, hp]; rfl
    have e2 : valueOf L K "UStab" j = .ok (.q ub) := by rw [valueOf_UStab, hp]; rfl
    rw [keysFor, if_pos h1]
    refine ⟨by simp only [hp, bind, Except.bind, pure, Except.pure, List.map_cons, List.map_nil, valOf_of_ok e1,
      valOf_of_ok e2], fun k hk => ?_⟩
    rcases List.mem_cons.mp hk with rfl | hk
    · rw [valOf_of_ok e1, e1]
    · rw [List.mem_singleton.mp hk, valOf_of_ok e2, e2]
  · by_cases h2 : m = "log_stability_lbound"
    · refine ⟨_, fun meas => by rw [calcConceptsMeasures]; exact (if_neg h1).trans (if_pos h2),
        fun j hj => ?_⟩
      obtain ⟨⟨A, B⟩, hc⟩ := get_of_lt L hj
      obtain ⟨b, hb, _⟩ := logStabilityLbound_spec h hc hw (Nat.le_refl _)
      have e1 : valueOf L K "log_stability_lbound" j = .ok (.lg ⟨b, K.nAttributes⟩) := by
        rw [valueOf_log, hb]; rfl
      rw [keysFor, if_neg h1, if_pos h2]
      refine ⟨by simp only [hb, bind, Except.bind, pure, Except.pure, List.map_cons, List.map_nil, valOf_of_ok e1],
        fun k hk => ?_⟩
      rw [List.mem_singleton.mp hk, valOf_of_ok e1, e1]
    · have h3 : m = "stability" := by
        rcases hm with e | e | e | e | e
        · exact absurd (Or.inl e) h1
        · exact absurd (Or.inr (Or.inl e)) h1
        · exact absurd (Or.inr (Or.inr e)) h1
        · exact e
        · exact absurd e h2
      refine ⟨_, fun meas => by
        rw [calcConceptsMeasures]; exact (if_neg h1).trans ((if_neg h2).trans (if_pos h3)), fun j hj => ?_⟩
      obtain ⟨c, hc⟩ := get_of_lt L hj
      obtain ⟨s, hs⟩ := stability_ok K L hc
      have e1 : valueOf L K "Stab" j = .ok (.q s) := by rw [valueOf_Stab, hs]; rfl
      rw [keysFor, if_neg h1, if_neg h2]
      refine ⟨by simp only [hs, bind, Except.bind, pure, Except.pure, List.map_cons, List.map_nil, valOf_of_ok e1],
        fun k hk => ?_⟩
      rw [List.mem_singleton.mp hk, valOf_of_ok e1, e1]

/-- every sequence of C16 calls returns, and leaves every concept with the keys computed so far, each with its
    value: the state is a function of the key list alone, whatever calls produced it -/
theorem runCalls_rows (K : Ctx) (L : Lattice) (h : IsLatticeOf K.table L) (hw : K.nAttributes ≠ 0) :
    ∀ (names : List String), (∀ m ∈ names, inScope m) → ∀ keys : List String,
      runCalls L K names ((List.range L.concepts.length).map (row (valOf L K) keys))
        = .ok ((List.range L.concepts.length).map
            (row (valOf L K) (addKeys keys (names.flatMap keysFor)))) := by
  intro names
  induction names with
  | nil => exact fun _ _ => rfl
  | cons m rest ih =>
    intro hn keys
    obtain ⟨f, hf, hval⟩ := calc_name K L h hw m (hn m List.mem_cons_self)
    have := calcLoop_rows (valOf L K) (keysFor m) keys f _ (fun j hj => (hval j hj).1) L.concepts.length 0
      (Nat.le_of_eq (Nat.zero_add _))
    rw [← List.range_eq_range'] at this
    simp only [runCalls, hf, this, bind, Except.bind]
    rw [List.flatMap_cons, addKeys_append]
    exact ih (fun x hx => hn x (List.mem_cons_of_mem _ hx)) _

/-- `C16.measures_arrays`, which carries one hypothesis more -/
theorem runCalls_measures (K : Ctx) (L : Lattice) (h : IsLatticeOf K.table L) (hw : K.nAttributes ≠ 0)
    (names : List String) (hnames : ∀ m ∈ names, inScope m) (hne : names ≠ []) :
    ∃ st arrays, runCalls L K names (List.replicate L.concepts.length []) = .ok st ∧
      st.length = L.concepts.length ∧
      measures st = .ok arrays ∧ arrays ≠ [] ∧
      ∀ p ∈ arrays, p.2.length = L.concepts.length ∧
        ∀ i, i < L.concepts.length → ∃ v, p.2[i]? = some (some v) ∧ valueOf L K p.1 i = .ok v := by
  have hn : L.concepts.length ≠ 0 := fun e => concepts_ne_nil h (List.length_eq_zero_iff.mp e)
  refine ⟨_, _, map_row_nil (valOf L K) _ ▸ runCalls_rows K L h hw names hnames [],
    by rw [List.length_map, List.length_range],
    measures_rows _ (nodup_addKeys List.nodup_nil _) hn, fun e => ?_, fun p hp => ?_⟩
  · obtain ⟨m, rest, rfl⟩ := List.exists_cons_of_ne_nil hne
    obtain ⟨k, ks, hk⟩ := List.exists_cons_of_ne_nil (keysFor_ne_nil m)
    exact List.ne_nil_of_mem
      ((mem_addKeys _).mpr (Or.inr (List.mem_flatMap.mpr ⟨m, List.mem_cons_self, hk ▸ List.mem_cons_self⟩)))
      (List.map_eq_nil_iff.mp e)
  · obtain ⟨k, hk, rfl⟩ := List.mem_map.mp hp
    refine ⟨by rw [List.length_map, List.length_range], fun i hi => ⟨valOf L K k i, ?_, ?_⟩⟩
    · rw [List.getElem?_map, List.getElem?_range hi, Option.map_some]
    · obtain ⟨m, hm, hkm⟩ := List.mem_flatMap.mp (((mem_addKeys _).mp hk).resolve_left fun h => nomatch h)
      obtain ⟨_, _, hval⟩ := calc_name K L h hw m (hnames m hm)
      exact (hval i hi).2 k hkm

end Fca.Measures
