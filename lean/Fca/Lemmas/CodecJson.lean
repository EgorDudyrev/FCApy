/-
  Fca.Lemmas.CodecJson — what the readers of `FormalContext.read_json` make of the entries `write_json` builds,
  by lookups that keep the literal keys of the dictionaries symbolic.
-/
import Fca.Model.CodecJson
import Fca.Lemmas.Codec
import Fca.Lemmas.ListAux
import Fca.Lemmas.ExceptAux
namespace Fca.Codec

-- `JV` is a nested inductive type, for which `deriving DecidableEq` has no handler.
mutual
def JV.eqb : JV → JV → Bool
  | .null, .null => true
  | .bool a, .bool b => a == b
  | .int a, .int b => a == b
  | .flt a, .flt b => a == b
  | .str a, .str b => a == b
  | .arr xs, .arr ys => JV.eqbList xs ys
  | .obj xs, .obj ys => JV.eqbPairs xs ys
  | _, _ => false
def JV.eqbList : List JV → List JV → Bool
  | [], [] => true
  | x :: xs, y :: ys => JV.eqb x y && JV.eqbList xs ys
  | _, _ => false
def JV.eqbPairs : List (Str × JV) → List (Str × JV) → Bool
  | [], [] => true
  | (k, x) :: xs, (l, y) :: ys => k == l && JV.eqb x y && JV.eqbPairs xs ys
  | _, _ => false
end

mutual
theorem JV.eqb_refl : ∀ a : JV, JV.eqb a a = true
  | .null | .bool _ | .int _ | .flt _ | .str _ => by simp [JV.eqb]
  | .arr xs => by simp [JV.eqb, JV.eqbList_refl xs]
  | .obj xs => by simp [JV.eqb, JV.eqbPairs_refl xs]
theorem JV.eqbList_refl : ∀ xs : List JV, JV.eqbList xs xs = true
  | [] => rfl
  | x :: xs => by simp [JV.eqbList, JV.eqb_refl x, JV.eqbList_refl xs]
theorem JV.eqbPairs_refl : ∀ xs : List (Str × JV), JV.eqbPairs xs xs = true
  | [] => rfl
  | (_, x) :: xs => by simp [JV.eqbPairs, JV.eqb_refl x, JV.eqbPairs_refl xs]
end

/-- Along the induction principle of `JV.eqb` itself, whose cases are the arms of the three definitions: all mixed
    pairs of constructors are ONE case (`case8`, the arm `| _, _ => false`), and its hypotheses are the premises
    of `JV.eqb.eq_8`, which says that the test is `false` there. -/
theorem JV.eq_of_eqb (a b : JV) (h : JV.eqb a b = true) : a = b := by
  induction a, b using JV.eqb.induct (motive_2 := fun xs ys => JV.eqbPairs xs ys = true → xs = ys)
    (motive_3 := fun xs ys => JV.eqbList xs ys = true → xs = ys) with
  | case1 | case9 | case12 => rfl
  | case2 | case3 | case4 | case5 => exact congrArg _ (eq_of_beq h)
  | case6 _ _ ih | case7 _ _ ih => exact congrArg _ (ih (by rwa [JV.eqb] at h))
  | case8 a b h1 h2 h3 h4 h5 h6 h7 =>
    rw [JV.eqb.eq_8 a b h1 h2 h3 h4 h5 h6 h7] at h
    cases h
  | case10 x xs y ys ih1 ih2 =>
    rename_i h
    rw [JV.eqbList, Bool.and_eq_true] at h
    rw [ih1 h.1, ih2 h.2]
  | case11 a b h1 h2 =>
    rename_i h
    rw [JV.eqbList.eq_3 a b h1 h2] at h
    cases h
  | case13 k x xs l y ys ih1 ih2 =>
    rename_i h
    rw [JV.eqbPairs, Bool.and_eq_true, Bool.and_eq_true] at h
    rw [eq_of_beq h.1.1, ih1 h.1.2, ih2 h.2]
  | case14 a b h1 h2 =>
    rename_i h
    rw [JV.eqbPairs.eq_3 a b h1 h2] at h
    cases h

instance : DecidableEq JV := fun a b => decidable_of_iff _ ⟨JV.eq_of_eqb a b, fun h => h ▸ JV.eqb_refl a⟩

/-! A key comparison inside `if k' = k` evaluates both `String.toList` literals in the kernel, and so does every
definitional unfolding of a reader over a dictionary with literal keys.  The lemmas below keep the keys symbolic:
`simp only [JV.lookup_cons_self, JV.lookup_lit_ne, String.reduceEq, not_false_eq_true]` walks a literal dictionary
by comparing the `String` literals themselves (`String.reduceNe` is much slower), and the readers are entered
through `getKey_of_lookup` / `getOpt_obj` by `rw`. -/

theorem JV.lookup_nil (k : Str) : JV.lookup k [] = none := rfl

theorem JV.lookup_cons_self (k : Str) (v : JV) (r : List (Str × JV)) : JV.lookup k ((k, v) :: r) = some v :=
  if_pos rfl

theorem JV.lookup_cons_ne {k k' : Str} (h : k' ≠ k) (v : JV) (r : List (Str × JV)) :
    JV.lookup k ((k', v) :: r) = JV.lookup k r :=
  if_neg h

theorem toList_ne {s t : String} (h : ¬ s = t) : s.toList ≠ t.toList :=
  fun e => h (String.toList_inj.mp e)

theorem JV.lookup_lit_ne {s t : String} (h : ¬ s = t) (v : JV) (r : List (Str × JV)) :
    JV.lookup t.toList ((s.toList, v) :: r) = JV.lookup t.toList r :=
  JV.lookup_cons_ne (toList_ne h) v r

theorem JV.getKey_of_lookup {kvs : List (Str × JV)} {k : Str} {v : JV} (h : JV.lookup k kvs = some v) :
    JV.getKey (.obj kvs) k = .ok v := by
  simp only [JV.getKey, h]

theorem JV.getOpt_obj (kvs : List (Str × JV)) (k : Str) : JV.getOpt (.obj kvs) k = .ok (JV.lookup k kvs) := by
  simp only [JV.getOpt]

/-- Rewriting with this lemma instead of unfolding `Except.bind` keeps the kernel from comparing the scrutinees of
    two nested `bind`s, i.e. from evaluating the reader on the written dictionary, when it re-checks a `simp` proof. -/
theorem bind_ok {ε α β : Type} (a : α) (f : α → Except ε β) : (Except.ok a).bind f = f a := by
  simp only [Except.bind]

theorem mapME_map_ok {α β γ : Type} (f : β → Except CErr γ) (g : α → β) (h : α → γ) :
    ∀ xs : List α, (∀ x ∈ xs, f (g x) = .ok (h x)) → mapME f (xs.map g) = .ok (xs.map h)
  | [], _ => rfl
  | x :: xs, hx => by
    simp only [List.map_cons, mapME, hx x (by simp),
      mapME_map_ok f g h xs (fun y hy => hx y (List.mem_cons_of_mem _ hy))]

theorem mapME_ok {α β : Type} (f : α → Except CErr β) (h : α → β) (xs : List α)
    (hx : ∀ x ∈ xs, f x = .ok (h x)) : mapME f xs = .ok (xs.map h) :=
  (congrArg (mapME f) (List.map_id xs).symm).trans (mapME_map_ok f id h xs hx)

theorem mapME_map_inv {α β : Type} (dec : β → Except CErr α) (enc : α → β) (xs : List α)
    (h : ∀ x ∈ xs, dec (enc x) = .ok x) : mapME dec (xs.map enc) = .ok xs :=
  (mapME_map_ok dec enc id xs h).trans (congrArg Except.ok (List.map_id xs))

theorem namesOf_arr (ns : List Str) : namesOf (some (.arr (ns.map jStr))) = .ok (some ns) := by
  simp only [namesOf, mapME_map_inv asName jStr ns (fun _ _ => rfl)]

theorem row_of_inds (r : List Bool) :
    ((List.range r.length).map fun ind =>
      ((indsOf r.length r).map Int.ofNat).contains (Int.ofNat ind)) = r := by
  conv => rhs; rw [← ListAux.range_map_getD r false]
  apply List.map_congr_left
  intro i hi
  rw [Bool.eq_iff_iff, List.contains_iff_mem, List.mem_map]
  constructor
  · rintro ⟨n, hn, e⟩
    cases Int.ofNat.inj e
    exact (List.mem_filter.mp hn).2
  · exact fun h => ⟨i, List.mem_filter.mpr ⟨hi, h⟩, rfl⟩

theorem lineInds_row (m : Nat) (r : List Bool) :
    lineInds (JV.obj [("Count".toList, jNat (r.count true)), ("Inds".toList, .arr ((indsOf m r).map jNat))])
      = .ok ((indsOf m r).map Int.ofNat) := by
  rw [lineInds, JV.getKey_of_lookup (v := .arr ((indsOf m r).map jNat))
    (by simp only [JV.lookup_cons_self, JV.lookup_lit_ne, String.reduceEq, not_false_eq_true])]
  exact mapME_map_ok asIndex jNat Int.ofNat _ (fun _ _ => rfl)

theorem paramsAttrNames_obj (x : JV) : paramsAttrNames (some (.obj [("AttrNames".toList, x)])) = .ok (some x) := by
  rw [paramsAttrNames, JV.getOpt_obj, JV.lookup_cons_self]

theorem dataLines_obj (x : JV) (ls : List JV) :
    dataLines (.obj [("Count".toList, x), ("Data".toList, .arr ls)]) = .ok ls := by
  rw [dataLines, JV.getKey_of_lookup (v := .arr ls)
    (by simp only [JV.lookup_cons_self, JV.lookup_lit_ne, String.reduceEq, not_false_eq_true])]

end Fca.Codec
