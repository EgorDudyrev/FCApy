/-
  The hypotheses in which the C12 theorems are stated, why the listing order `sortView` meets what the generic
  theorems ask of it, and the routines on extent lists.
-/
import Fca.Lemmas.ConstructCC
import Fca.Lemmas.ConstructTree
import Fca.Lemmas.ConstructSweep
namespace Fca.Construct
open Fca.Spec

/-- what `is_concepts_sorted=True` needs: every strict superconcept is listed before its subconcepts -/
def TopoSorted (cs : List Ext) : Prop :=
  ∀ i j, i < cs.length → j < cs.length → ssubAt cs j i = true → i < j

/-- the documented way to obtain it: non-increasing extent size -/
def SizeSorted (cs : List Ext) : Prop :=
  ∀ i j, i < j → j < cs.length → (cs.getD j []).length ≤ (cs.getD i []).length

/-- lists sorted by non-increasing support (what `sort_concepts` produces) satisfy the flag's requirement -/
theorem sizeSorted_topoSorted (cs : List Ext) (hnd : ExtsNodup cs) (h : SizeSorted cs) : TopoSorted cs := by
  intro i j hi hj hlt
  rw [← ltAt_eq_ssubAt hnd] at hlt
  have hlen : (cs.getD j []).length < (cs.getD i []).length := ltC_length hlt
  apply Classical.byContradiction
  intro hij
  rcases Nat.lt_or_eq_of_le (Nat.le_of_not_lt hij) with hji | hji
  · exact Nat.not_le_of_lt hlen (h j i hji hi)
  · rw [hji] at hlen; exact Nat.lt_irrefl _ hlen

/-- decidable form of `TopoSorted`, to exhibit instances -/
def topoSortedB (cs : List Ext) : Bool :=
  (List.range cs.length).all fun i => (List.range cs.length).all fun j => !(ssubAt cs j i) || decide (i < j)

theorem topoSortedB_iff {cs : List Ext} : topoSortedB cs = true ↔ TopoSorted cs := by
  simp only [topoSortedB, List.all_eq_true, List.mem_range, Bool.or_eq_true, Bool.not_eq_true', ← Bool.not_eq_true,
    decide_eq_true_eq, ← Decidable.imp_iff_not_or]
  exact ⟨fun h i j hi hj => h i hi j hj, fun h i hi j hj => h i j hi hj⟩

theorem topoSorted_of_B {cs : List Ext} (h : topoSortedB cs = true) : TopoSorted cs := topoSortedB_iff.mp h

/-- hypotheses shared by the spanning-tree routines: duplicate-free extents, a greatest concept `top`, and —
    when `is_concepts_sorted=True` is passed — a list in which superconcepts precede subconcepts -/
structure TreeInput (cs : List Ext) (top : Nat) (isSorted : Bool) : Prop where
  nodup : ExtsNodup cs
  top : IsTop cs top
  sorted : isSorted = true → TopoSorted cs

theorem sortViewOK_sortView (cs : List Ext) (isSorted : Bool) : SortViewOK cs.length (sortView cs isSorted) := by
  cases isSorted with
  | true =>
    refine ⟨List.Perm.refl _, fun k hk => ?_⟩
    show (List.range cs.length).getD k 0 = k
    rw [List.getD_eq_getElem?_getD, List.getElem?_range hk]; rfl
  | false =>
    exact ⟨perm_sortBy _ _, fun k hk => ListAux.idxOf_getD_of_perm_range (perm_sortBy _ _) hk⟩

/-- `sort_concepts` lists larger supports first -/
theorem pairwise_sortedIdx (cs : List Ext) :
    (sortedIdx cs).Pairwise (fun a b => suppAt cs b ≤ suppAt cs a) := by
  refine pairwise_sortBy (R := fun a b => suppAt cs b ≤ suppAt cs a) (fun x y hxy => ?_) (fun x y hxy => ?_)
    (fun x y z h1 h2 => Nat.le_trans h2 h1) _
  · simp only [sortKeyLe, Bool.or_eq_true, decide_eq_true_eq, Bool.and_eq_true, beq_iff_eq] at hxy
    unfold suppAt
    omega
  · simp only [sortKeyLe, Bool.or_eq_false_iff, decide_eq_false_iff_not] at hxy
    unfold suppAt
    omega

theorem idxOf_lt_of_supp_lt {l : List Nat} {supp : Nat → Nat}
    (hpw : l.Pairwise (fun a b => supp b ≤ supp a)) {a b : Nat} (ha : a ∈ l) (hb : b ∈ l)
    (hlt : supp a < supp b) : l.idxOf b < l.idxOf a := by
  have hia := List.idxOf_lt_length_of_mem ha
  have hib := List.idxOf_lt_length_of_mem hb
  apply Classical.byContradiction
  intro hn
  rcases Nat.lt_or_eq_of_le (Nat.le_of_not_lt hn) with h1 | h1
  · have := (List.pairwise_iff_getElem.mp hpw) (l.idxOf a) (l.idxOf b) hia hib h1
    rw [List.getElem_idxOf hia, List.getElem_idxOf hib] at this
    exact Nat.not_le_of_lt hlt this
  · have e : l[l.idxOf a] = l[l.idxOf b] := by simp only [h1]
    rw [List.getElem_idxOf hia, List.getElem_idxOf hib] at e
    rw [e] at hlt; exact Nat.lt_irrefl _ hlt

theorem posOK_sortView (cs : List Ext) (hnd : ExtsNodup cs) (isSorted : Bool)
    (hsorted : isSorted = true → TopoSorted cs) :
    ∀ a b, a < cs.length → b < cs.length → ltAt cs a b = true →
      (sortView cs isSorted).pos b < (sortView cs isSorted).pos a := by
  intro a b ha hb hlt
  cases isSorted with
  | true => exact hsorted rfl b a hb ha (ltAt_eq_ssubAt hnd ▸ hlt)
  | false =>
    have hmem := fun i => (sortViewOK_sortView cs false).mem_iff (i := i)
    exact idxOf_lt_of_supp_lt (pairwise_sortedIdx cs) ((hmem a).mpr ha) ((hmem b).mpr hb) (ltC_length hlt)

theorem TreeInput.root_eq {cs : List Ext} {top : Nat} {isSorted : Bool} (hin : TreeInput cs top isSorted) :
    (sortView cs isSorted).isortI.getD 0 0 = top := by
  have hsv := sortViewOK_sortView cs isSorted
  have hr := ListAux.getD_lt_of_perm_range hsv.perm (Nat.zero_lt_of_lt hin.top.1)
  -- the root is listed no later than `top`, so it is not strictly below `top`
  apply Classical.byContradiction
  intro hne
  have hlt : ltAt cs ((sortView cs isSorted).isortI.getD 0 0) top = true :=
    ltAt_eq_ssubAt hin.nodup ▸ hin.top.2 _ hr hne
  have := posOK_sortView cs hin.nodup isSorted hin.sorted _ _ hr hin.top.1 hlt
  rw [hsv.pos_isortI 0 (Nat.zero_lt_of_lt hin.top.1)] at this
  exact Nat.not_lt_zero _ this

/-- `complete_comparison` returns the very lists of the specification, not only the same sets -/
theorem completeComparisonC_eq {cs : List Ext} (hnd : ExtsNodup cs) {isSorted : Bool}
    (hsorted : isSorted = true → TopoSorted cs) (nJobs : Nat) {ord : List Nat → List Nat} (hord : OrdOK ord) :
    completeComparisonC cs isSorted nJobs ord = coversDict cs :=
  (completeComparison_eq (ltAt_strictOrd cs) ord isSorted nJobs hord fun hs a j ha hj hlt =>
    hsorted hs a j ha hj (ltAt_eq_ssubAt hnd ▸ hlt)).trans (by rw [ltAt_eq_ssubAt hnd]; rfl)

theorem completeComparisonC_covers {cs : List Ext} (hnd : ExtsNodup cs) {isSorted : Bool}
    (hsorted : isSorted = true → TopoSorted cs) (nJobs : Nat) {ord : List Nat → List Nat} (hord : OrdOK ord) :
    IsCoverDict cs (completeComparisonC cs isSorted nJobs ord) :=
  isCoverDict_of_eq (completeComparisonC_eq hnd hsorted nJobs hord)

theorem tree_chains_C (cs : List Ext) (top : Nat) (isSorted : Bool) (hin : TreeInput cs top isSorted)
    (ord : List Nat → List Nat) (hord : OrdOK ord) :
    ∃ t chains, spanningTreeC cs isSorted ord = .ok t ∧ getChainsC cs t.sup isSorted = .ok chains ∧
      chainsOK cs.length (ltAt cs) (parentOf t.sup) top chains = true :=
  tree_chains_ok (ltAt_strictOrd cs) ord hord
    (sortViewOK_sortView cs isSorted) hin.root_eq ((isTop_iff hin.nodup).mp hin.top) (suppAt_lt_walkFuel cs top)

/-- with `n_jobs = 1` the schedule is not looked at, so nothing is asked of it -/
theorem bySpanningTree_C (cs : List Ext) (top : Nat) (isSorted : Bool) (hin : TreeInput cs top isSorted)
    (ord : List Nat → List Nat) (hord : OrdOK ord) (nJobs : Nat) (hj : 1 ≤ nJobs)
    (sched : Nat → Nat → List Nat → List Nat) (hsched : nJobs = 1 ∨ SchedOK sched) :
    ∃ out, bySpanningTreeC cs isSorted nJobs ord sched = .ok out ∧ IsCoverDict cs out := by
  obtain ⟨t, chains, h1, h2, h3⟩ := tree_chains_C cs top isSorted hin ord hord
  have ctx : SweepCtx cs.length (ltAt cs) (suppAt cs) (sortView cs isSorted).pos top chains :=
    SweepCtx.of_chainsOK (ltAt_strictOrd cs) (posOK_sortView cs hin.nodup isSorted hin.sorted)
      ((isTop_iff hin.nodup).mp hin.top) h3
  unfold bySpanningTreeC bySpanningTree
  rw [show constructSpanningTree _ _ _ _ _ = _ from h1]
  simp only
  rw [show getChains _ _ _ _ = _ from h2]
  simp only
  by_cases h1j : (nJobs == 1) = true
  · rw [if_pos h1j]
    exact ⟨_, rfl, (isCoverDict_iff hin.nodup).mpr (sweep_finalize_ok ctx (scanOrderOK_seq chains) ord hord)⟩
  · rw [if_neg h1j]
    exact ⟨_, rfl, (isCoverDict_iff hin.nodup).mpr
      (sweep_finalize_ok ctx (scanOrderOK_par chains hj sched
        (hsched.resolve_left fun e => h1j (beq_iff_eq.mpr e))) ord hord)⟩

end Fca.Construct
