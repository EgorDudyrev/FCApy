/-
  Lemmas/SemiLatticeStep — the semilattice machine under the invariant `InvTop`.  The guards only read, so each of
  `add` / `__delitem__` / `remove` is refused exactly as `Spec.refusal` says and is otherwise the `POSet` method
  followed by the index updates, which move the cached indexes to the new extremes: the mutation cases of the step
  relation `StepRel`.  The three classes and the three mutations share one shape (`perSide`).  Nothing is assumed
  about the five `POSet` caches.
-/
import Fca.Lemmas.SemiLatticeSpec
import Fca.Lemmas.SemiLatticeFrame
namespace Fca.SemiLattice
open Fca.Poset Fca.Poset.Fresh Fca.SemiLattice.Spec

/-! The equations of the `ML` monad and of the projections of the state hold by unfolding; they carry the decidable
equality of the section, though none of them uses it. -/
section
variable {α : Type} [DecidableEq α]
set_option linter.unusedSectionVars false

@[simp] theorem bind_apply {β γ : Type} (m : ML α β) (f : β → ML α γ) (s : SL α) :
    (m >>= f) s = (match m s with
      | (s', .ok b) => f b s'
      | (s', .error e) => (s', .error e)) := rfl

@[simp] theorem pure_apply {β : Type} (b : β) (s : SL α) : (pure b : ML α β) s = (s, .ok b) := rfl
@[simp] theorem get_apply (s : SL α) : (ML.get : ML α (SL α)) s = (s, .ok s) := rfl
@[simp] theorem throw_apply {β : Type} (e : PyErr) (s : SL α) : (ML.throw e : ML α β) s = (s, .error e) := rfl
@[simp] theorem modify_apply (f : SL α → SL α) (s : SL α) : (ML.modify f : ML α Unit) s = (f s, .ok ()) := rfl
theorem lift_apply {β : Type} (m : M α β) (s : SL α) :
    (ML.lift m : ML α β) s = ({ s with p := (m s.p).1 }, (m s.p).2) := rfl

theorem bind_ok {β γ : Type} {m : ML α β} {f : β → ML α γ} {s s' : SL α} {b : β} (h : m s = (s', .ok b)) :
    (m >>= f) s = f b s' := by
  rw [bind_apply, h]

theorem bind_err {β γ : Type} {m : ML α β} {f : β → ML α γ} {s s' : SL α} {e : PyErr} (h : m s = (s', .error e)) :
    (m >>= f) s = (s', .error e) := by
  rw [bind_apply, h]

theorem bind_pure_unit (m : ML α Unit) : (m >>= fun _ => (pure () : ML α Unit)) = m := by
  funext s
  rw [bind_apply]
  cases hr : m s with
  | mk s' r => cases r <;> rfl

theorem lift_modify (f : St α → St α) (s : SL α) :
    ML.lift (M.modify f) s = ({ s with p := f s.p }, .ok ()) := rfl

theorem lift_eq {β : Type} {m : M α β} {s : SL α} {p' : St α} {r : Except PyErr β} (h : m s.p = (p', r)) :
    ML.lift m s = ({ s with p := p' }, r) := by
  rw [lift_apply, h]

@[simp] theorem cache_setCache (s : SL α) (d : Dir) (v : Option Nat) : (s.setCache d v).cache d = v := by
  cases d <;> rfl
@[simp] theorem cache_setCache_flip (s : SL α) (d : Dir) (v : Option Nat) :
    (s.setCache d.flip v).cache d = s.cache d := by
  cases d <;> rfl
@[simp] theorem cache_setCache_flip' (s : SL α) (d : Dir) (v : Option Nat) :
    (s.setCache d v).cache d.flip = s.cache d.flip := by
  cases d <;> rfl
@[simp] theorem p_setCache (s : SL α) (d : Dir) (v : Option Nat) : (s.setCache d v).p = s.p := by
  cases d <;> rfl
@[simp] theorem cls_setCache (s : SL α) (d : Dir) (v : Option Nat) : (s.setCache d v).cls = s.cls := by
  cases d <;> rfl
theorem setCache_cache (s : SL α) (d : Dir) : s.setCache d (s.cache d) = s := by
  cases d <;> rfl

/-- the part of the state the guards read -/
structure Key (α : Type) where
  cls : Cls
  cacheTop : Option Nat
  cacheBottom : Option Nat
  useCache : Bool
  elems : List α

def SL.key (s : SL α) : Key α := ⟨s.cls, s.cacheTop, s.cacheBottom, s.p.useCache, s.p.elems⟩

def Key.cache (K : Key α) : Dir → Option Nat
  | .anc => K.cacheTop
  | .desc => K.cacheBottom

theorem key_cache (s : SL α) (d : Dir) : s.key.cache d = s.cache d := by
  cases d <;> rfl

/-- on a caching instance the cached extreme indexes the class uses are set (so `top` / `bottom` only read) -/
def Key.Good (K : Key α) : Prop := K.useCache = true → ∀ d, K.cls.has d = true → (K.cache d).isSome = true

structure FrameSL {β : Type} (K : Key α) (m : ML α β) : Prop where
  h : ∀ s, s.key = K → (m s).1.key = K

theorem frameSL_pure {β : Type} (K : Key α) (b : β) : FrameSL K (pure b : ML α β) := ⟨fun _ h => h⟩
theorem frameSL_throw {β : Type} (K : Key α) (e : PyErr) : FrameSL K (ML.throw e : ML α β) := ⟨fun _ h => h⟩
theorem frameSL_get (K : Key α) : FrameSL K (ML.get : ML α (SL α)) := ⟨fun _ h => h⟩

end

section
variable {α : Type} {leq : α → α → Bool} {ord : List Nat → List Nat}

theorem keeps_traceFrom {I : St α → Prop} (hd : ∀ d e, Keeps I (directE leq ord d e)) (d : Dir) (e : α)
    (start : List Nat) : Keeps I (traceFrom leq ord d e start) := by
  unfold traceFrom
  exact keeps_get_bind fun s => tr_bind (keeps_ofExcept _) fun tv => keeps_traceLoop hd _ _ _ _ _ _

end

section
variable {α : Type} [DecidableEq α] {leq : α → α → Bool} {ord : List Nat → List Nat} {U : α → Prop}

/-- The invariant of C11: on every side the class guards there is a greatest / least element among the current
    elements, and - on a caching instance - the cached index `_cache_top` / `_cache_bottom` is its index.
    (Nothing is said about the five `POSet` caches: the guard logic does not depend on them.) -/
structure InvTop (leq : α → α → Bool) (s : SL α) : Prop where
  ext : ∀ d, s.cls.has d = true →
    ∃ t, isExt leq d s.p.elems t = true ∧ (s.p.useCache = true → s.cache d = some t)

theorem extremeE_cached {s : SL α} {d : Dir} {t : Nat} (hu : s.p.useCache = true) (hc : s.cache d = some t) :
    extremeE leq d s = (s, .ok t) := by
  unfold extremeE
  rw [bind_ok (get_apply s), if_pos hu, hc]
  rfl

theorem extremeE_uncached {s : SL α} (d : Dir) (hu : s.p.useCache = false) :
    extremeE leq d s = (ML.lift (extremesE leq d) >>= fun xs =>
      match xs with
      | [] => ML.throw .IndexError
      | t :: _ => pure t) s := by
  unfold extremeE
  rw [bind_ok (get_apply s), if_neg (by rw [hu]; exact Bool.false_ne_true)]
  rfl

theorem extremeE_run {s : SL α} (hpo : IdxPO leq s.p.elems) {d : Dir} {t : Nat}
    (ht : isExt leq d s.p.elems t = true) (hc : s.p.useCache = true → s.cache d = some t) :
    extremeE leq d s = (s, .ok t) := by
  cases huc : s.p.useCache
  · rw [extremeE_uncached d huc, bind_ok (lift_eq (extremesE_uncached hpo d huc)), extremes_of_isExt hpo ht]
    rfl
  · exact extremeE_cached huc (hc huc)

theorem extremesSL_run {s : SL α} (hpo : IdxPO leq s.p.elems) {d : Dir} {t : Nat} (hd : s.cls.has d = true)
    (ht : isExt leq d s.p.elems t = true) (hc : s.p.useCache = true → s.cache d = some t) :
    extremesSL leq d s = (s, .ok [t]) := by
  unfold extremesSL
  simp [hd, extremeE_run hpo ht hc]

theorem extremesSL_not_has {s : SL α} {d : Dir} (hd : s.cls.has d = false) :
    extremesSL leq d s = ML.lift (extremesE leq d) s := by
  unfold extremesSL
  rw [bind_ok (get_apply s), hd]
  rfl

theorem frameSL_bind {β γ : Type} {K : Key α} {m : ML α β} {f : β → ML α γ} (hm : FrameSL K m)
    (hf : ∀ b, FrameSL K (f b)) : FrameSL K (m >>= f) := by
  constructor
  intro s hs
  rw [bind_apply]
  have h1 := hm.h s hs
  cases hr : m s with
  | mk s' r =>
    rw [hr] at h1
    cases r with
    | error e => exact h1
    | ok b => exact (hf b).h s' h1

theorem frameSL_lift {β : Type} (K : Key α) {m : M α β} (hm : Frame m) : FrameSL K (ML.lift m) := by
  constructor
  intro s hs
  rw [lift_apply]
  have := hm.state s.p
  simp only [SL.key] at hs ⊢
  rw [this.1, this.2]
  exact hs

theorem frameSL_extremeE {K : Key α} (hK : K.Good) (d : Dir) (hd : K.cls.has d = true) :
    FrameSL K (extremeE leq d) := by
  constructor
  intro s hs
  cases huc : s.p.useCache
  · rw [extremeE_uncached d huc]
    refine (frameSL_bind (frameSL_lift K fun E c => keeps_extremesE (keeps_closedE (stable_frame E c)) d)
      fun xs => ?_).h s hs
    cases xs
    · exact frameSL_throw K _
    · exact frameSL_pure K _
  · subst hs
    obtain ⟨t, ht⟩ := Option.isSome_iff_exists.mp (hK huc d hd)
    rw [extremeE_cached huc ((key_cache s d).symm.trans ht)]

theorem frameSL_extremesSL {K : Key α} (hK : K.Good) (d : Dir) : FrameSL K (extremesSL leq d) := by
  constructor
  intro s hs
  cases hd : s.cls.has d
  · rw [extremesSL_not_has hd]
    exact (frameSL_lift K fun E c => keeps_extremesE (leq := leq) (keeps_closedE (stable_frame E c)) d).h s hs
  · unfold extremesSL
    rw [bind_ok (get_apply s), if_pos hd]
    exact (frameSL_bind (frameSL_extremeE hK d (hs ▸ hd)) fun t => frameSL_pure K [t]).h s hs

theorem frameSL_traceElementSL {K : Key α} (hK : K.Good) (d : Dir) (e : α) :
    FrameSL K (traceElementSL leq ord d e) := by
  unfold traceElementSL
  exact frameSL_bind (frameSL_extremesSL hK d) fun start =>
    frameSL_lift K fun E c => keeps_traceFrom (keeps_directE (stable_frame E c)) d e start

theorem frameSL_posetAddFillSL {K : Key α} (hK : K.Good) (e : α) (n : Nat) :
    FrameSL K (posetAddFillSL leq ord e n) := by
  unfold posetAddFillSL
  refine frameSL_bind (frameSL_lift K (frame_modify fun s => ⟨rfl, rfl⟩)) fun _ => ?_
  refine frameSL_bind (frameSL_traceElementSL hK _ _) fun r1 => ?_
  refine frameSL_bind (frameSL_lift K (frame_modify fun s => ⟨rfl, rfl⟩)) fun _ => ?_
  refine frameSL_bind (frameSL_lift K (frame_modify fun s => ⟨rfl, rfl⟩)) fun _ => ?_
  refine frameSL_bind (frameSL_traceElementSL hK _ _) fun r2 => ?_
  refine frameSL_bind (frameSL_lift K (frame_modify fun s => ⟨rfl, rfl⟩)) fun _ => ?_
  refine frameSL_bind (frameSL_lift K (frame_modify fun s => ⟨rfl, rfl⟩)) fun _ => ?_
  exact frameSL_lift K fun E c => keeps_forM (fun i => keeps_addPatch (stable_frame E c) _ i) _

theorem frameSL_posetAddCacheSL {K : Key α} (hK : K.Good) (e : α) (fill : Bool) :
    FrameSL K (posetAddCacheSL leq ord e fill) := by
  unfold posetAddCacheSL
  refine frameSL_bind (frameSL_get K) fun s => ?_
  split
  · split
    · exact frameSL_posetAddFillSL hK _ _
    · exact frameSL_lift K (frame_modify fun s => ⟨rfl, rfl⟩)
  · exact frameSL_pure K _

theorem posetAddSL_key {s s1 : SL α} (hK : s.key.Good) {e : α} {fill : Bool}
    (h : posetAddSL leq ord e fill s = (s1, .ok ())) :
    s1.cls = s.cls ∧ (∀ d, s1.cache d = s.cache d) ∧ s1.p.elems = next s.p.elems (.add e fill) ∧
      s1.p.useCache = s.p.useCache := by
  unfold posetAddSL at h
  rw [bind_ok (get_apply s)] at h
  by_cases he : e ∈ s.p.elems
  · rw [if_pos he] at h
    obtain ⟨rfl, -⟩ := Prod.mk.inj h
    exact ⟨rfl, fun _ => rfl, by simp only [next, he, ↓reduceIte], rfl⟩
  · rw [if_neg he] at h
    have hf := (frameSL_posetAddCacheSL (leq := leq) (ord := ord) hK e fill).h s rfl
    cases hc : posetAddCacheSL leq ord e fill s with
    | mk s' r' =>
      rw [hc] at hf
      cases r' with
      | error err =>
        rw [bind_err hc] at h
        cases h
      | ok u =>
        rw [bind_ok hc] at h
        obtain ⟨rfl, -⟩ := Prod.mk.inj h
        simp only [SL.key, Key.mk.injEq] at hf
        obtain ⟨h1, h2, h3, h4, h5⟩ := hf
        refine ⟨h1, fun d => by cases d <;> assumption, ?_, h4⟩
        simp only [next, he, ↓reduceIte]
        exact congrArg (· ++ [e]) h5

/-- what the guards of a side read -/
theorem InvTop.side {s : SL α} (hI : InvTop leq s) (hpo : IdxPO leq s.p.elems) {d : Dir} (hd : s.cls.has d = true) :
    ∃ t x, isExt leq d s.p.elems t = true ∧ (s.p.useCache = true → s.cache d = some t) ∧
      s.p.elems[t]? = some x ∧ greatest leq d s.p.elems = some t ∧ greatestElem leq d s.p.elems = some x := by
  obtain ⟨t, ht, hc⟩ := hI.ext d hd
  have htl : t < s.p.elems.length := (isExt_iff.mp ht).1
  have hg := (greatest_eq_some_iff hpo).mpr ht
  refine ⟨t, s.p.elems[t], ht, hc, List.getElem?_eq_getElem htl, hg, ?_⟩
  simp [greatestElem, hg, List.getElem?_eq_getElem htl]

/-- the executable check of the invariant (sound by `C11.invTop_of_check`) misses nothing -/
theorem invTopCheck_of_invTop {s : SL α} (hI : InvTop leq s) (hpo : IdxPO leq s.p.elems) :
    invTopCheck leq s = true := by
  unfold invTopCheck
  rw [List.all_eq_true]
  intro d hd
  obtain ⟨t, ht, hc⟩ := hI.ext d (mem_dirsOf.mp hd)
  rw [(greatest_eq_some_iff hpo).mpr ht]
  cases hu : s.p.useCache
  · rfl
  · show (s.cache d == some t) = true
    rw [hc hu]
    exact beq_self_eq_true (some t)

theorem guardAdd_run {s : SL α} (hI : InvTop leq s) (hpo : IdxPO leq s.p.elems) {d : Dir} (hd : s.cls.has d = true)
    (e : α) :
    guardAdd leq d e s =
      if (greatestElem leq d s.p.elems).any (incomparable leq e) then (s, .error .ValueError)
      else (s, .ok ((greatestElem leq d s.p.elems).any (beyond leq d e))) := by
  obtain ⟨t, x, ht, hc, hx, -, hge⟩ := hI.side hpo hd
  unfold guardAdd
  rw [bind_ok (extremeE_run hpo ht hc), bind_ok (get_apply s)]
  simp only [hx]
  rw [bind_ok (extremeE_run hpo ht hc), bind_ok (get_apply s)]
  simp only [hx, hge, Option.any_some]
  unfold incomparable
  cases leq e x || leq x e <;> rfl

theorem guardDel_run {s : SL α} (hI : InvTop leq s) (hpo : IdxPO leq s.p.elems) {d : Dir} (hd : s.cls.has d = true)
    (k : Nat) :
    guardDel leq d k s = if greatest leq d s.p.elems == some k then (s, .error .KeyError) else (s, .ok ()) := by
  obtain ⟨t, ht, hc⟩ := hI.ext d hd
  unfold guardDel
  rw [bind_ok (extremeE_run hpo ht hc), (greatest_eq_some_iff hpo).mpr ht]
  by_cases htk : t = k <;> simp [htk]

theorem guardRemove_run {s : SL α} (hI : InvTop leq s) (hpo : IdxPO leq s.p.elems) {d : Dir}
    (hd : s.cls.has d = true) (e : α) :
    guardRemove leq d e s =
      if greatestElem leq d s.p.elems == some e then (s, .error .ValueError) else (s, .ok ()) := by
  obtain ⟨t, x, ht, hc, hx, -, hge⟩ := hI.side hpo hd
  unfold guardRemove
  rw [bind_ok (extremeE_run hpo ht hc), hge]
  simp only [bind_apply, get_apply, hx]
  by_cases hxe : x = e <;> simp [hxe]

theorem invTop_good {s : SL α} (hI : InvTop leq s) : s.key.Good := by
  intro hu d hd
  obtain ⟨t, _, hc⟩ := hI.ext d hd
  rw [key_cache, hc hu]
  rfl

/-- The index updates of the sides the class has, in the order the MRO runs them (bottom side first). -/
def updSides (cls : Cls) (v : Dir → ML α Unit) : ML α Unit :=
  match cls with
  | .upper => v .anc
  | .lower => v .desc
  | .lattice => do
    v .desc
    v .anc

/-- A mutation of any of the three classes: the guards `g` of the sides the class has (top side first; a guard
    may hand a flag to its update), the `POSet` method `body`, then the index updates `u` in reverse order. -/
def perSide {β : Type} (cls : Cls) (g : Dir → ML α β) (body : ML α Unit) (u : Dir → β → ML α Unit) : ML α Unit :=
  match cls with
  | .upper => do
    let b ← g .anc
    body
    u .anc b
  | .lower => do
    let b ← g .desc
    body
    u .desc b
  | .lattice => do
    let bt ← g .anc
    let bb ← g .desc
    body
    u .desc bb
    u .anc bt

theorem perSide_run {β : Type} {cls : Cls} {g : Dir → ML α β} {body : ML α Unit} {u : Dir → β → ML α Unit}
    {s : SL α} (bad : Dir → Bool) (err : PyErr) (b : Dir → β)
    (hg : ∀ d, cls.has d = true → g d s = if bad d then (s, .error err) else (s, .ok (b d))) :
    perSide cls g body u s =
      if (dirsOf cls).any bad then (s, .error err)
      else (body >>= fun _ => updSides cls fun d => u d (b d)) s := by
  have one : ∀ d (k : β → ML α Unit), cls.has d = true →
      (g d >>= k) s = if bad d then (s, .error err) else k (b d) s := by
    intro d k hd
    have h := hg d hd
    cases hb : bad d <;> rw [hb] at h
    · exact bind_ok h
    · exact bind_err h
  cases cls <;> simp only [dirsOf, List.any_cons, List.any_nil, Bool.or_false]
  · exact one .anc _ rfl
  · exact one .desc _ rfl
  · refine (one .anc _ rfl).trans ?_
    cases bad .anc
    · exact one .desc _ rfl
    · rfl

/-- The updates one after the other.  `hv`: the update of side `d`, run on a state whose poset part satisfies `P` and
    which still has the cached index of side `d` as in `s1`, returns if `ok d` - having changed the poset part (`P`
    again) and the cached index of its own side (`Q d`), nothing else - and raises `err` if not. -/
theorem updSides_cases {cls : Cls} {v : Dir → ML α Unit} {s1 : SL α} {P : St α → Prop} {ok : Dir → Prop}
    {Q : Dir → Option Nat → Prop} {err : PyErr}
    (hv : ∀ d, cls.has d = true → ∀ s', P s'.p → s'.cache d = s1.cache d →
      (ok d → ∃ p c, v d s' = (({ s' with p := p } : SL α).setCache d c, .ok ()) ∧ P p ∧ Q d c) ∧
      (¬ ok d → ∃ s'', v d s' = (s'', .error err)))
    (h1 : P s1.p) :
    ((∀ d, cls.has d = true → ok d) →
      ∃ s', updSides cls v s1 = (s', .ok ()) ∧ P s'.p ∧ s'.cls = s1.cls ∧ ∀ d, cls.has d = true → Q d (s'.cache d)) ∧
    (¬ (∀ d, cls.has d = true → ok d) → ∃ s', updSides cls v s1 = (s', .error err)) := by
  cases cls
  · simp only [forall_has_upper]
    exact (hv .anc rfl s1 h1 rfl).imp
      (fun hy ho => (hy ho).elim fun _ hc => hc.elim fun _ h => ⟨_, h.1, h.2.1, rfl, h.2.2⟩) id
  · simp only [forall_has_lower]
    exact (hv .desc rfl s1 h1 rfl).imp
      (fun hy ho => (hy ho).elim fun _ hc => hc.elim fun _ h => ⟨_, h.1, h.2.1, rfl, h.2.2⟩) id
  · simp only [forall_has_lattice]
    obtain ⟨hy, hn⟩ := hv .desc rfl s1 h1 rfl
    by_cases ho : ok .desc
    · obtain ⟨p2, c2, h, hP, q⟩ := hy ho
      obtain ⟨hy', hn'⟩ := hv .anc rfl (({ s1 with p := p2 } : SL α).setCache .desc c2) hP rfl
      refine ⟨fun hall => ?_, fun hnot => ?_⟩
      · obtain ⟨p3, c3, h', hP', q'⟩ := hy' hall.1
        exact ⟨_, (bind_ok h).trans h', hP', rfl, q', q⟩
      · obtain ⟨s3, h'⟩ := hn' fun ho' => hnot ⟨ho', ho⟩
        exact ⟨s3, (bind_ok h).trans h'⟩
    · obtain ⟨s2, h⟩ := hn ho
      exact ⟨fun hall => absurd hall.2 ho, fun _ => ⟨s2, bind_err h⟩⟩

/-- the `POSet` method that a mutation of a semilattice wraps (`POSet.remove` dispatches its `del` to the class
    again; where the guards of `remove` let it through, so do those of `del`: `StepRel.remove_of_del`) -/
def bodySL (leq : α → α → Bool) (ord : List Nat → List Nat) : Op α → ML α Unit
  | .add e f => posetAddSL leq ord e f
  | .del k => ML.lift (delE ord k)
  | .remove e => ML.lift (removeE ord e)
  | _ => pure ()

/-- Everything one step of the semilattice machine can do from a state that satisfies `InvTop` (`stepSL_rel`).
    `extreme`, `extremes`, `noExtreme`: `top` / `bottom`, `tops` / `bottoms` only read, and report the index of the
    greatest / least element where the class has the property.  `query`: what the class does not override is
    `POSet`'s, run on the poset part.  A mutation is `refused` by the guards, which only read; or the `POSet` method
    `bodySL` is run and `raised` (excluded under `InvAll`: `bodySL_full`), or returned and the step is `done`: the
    index updates keep the poset part and re-establish `InvTop` over the specified element list. -/
inductive StepRel (leq : α → α → Bool) (ord : List Nat → List Nat) (s : SL α) : OpSL α → SL α × Out → Prop
  | extreme {d : Dir} {t : Nat} (hd : s.cls.has d = true) (hg : greatest leq d s.p.elems = some t) :
    StepRel leq ord s (.extreme d) (s, .nat t)
  | extremes {d : Dir} {t : Nat} (hd : s.cls.has d = true) (hg : greatest leq d s.p.elems = some t) :
    StepRel leq ord s (.op (.extremes d)) (s, .list [t])
  | noExtreme {d : Dir} (hd : s.cls.has d = false) : StepRel leq ord s (.extreme d) (s, .err .NotImplementedError)
  | query {o : Op α} (ho : isMutation o = false) (hne : ∀ d, o = .extremes d → s.cls.has d = false) :
    StepRel leq ord s (.op o) ({ s with p := (step leq ord s.p o).1 }, (step leq ord s.p o).2)
  | refused {o : Op α} {e : PyErr} (hr : refusal leq s.cls s.p.elems o = some e) : StepRel leq ord s (.op o) (s, .err e)
  | raised {o : Op α} {s1 : SL α} {er : PyErr} (hm : isMutation o = true) (hr : refusal leq s.cls s.p.elems o = none)
    (hb : bodySL leq ord o s = (s1, .error er)) : StepRel leq ord s (.op o) (s1, .err er)
  | done {o : Op α} {s1 s' : SL α} (hm : isMutation o = true) (hr : refusal leq s.cls s.p.elems o = none)
    (hb : bodySL leq ord o s = (s1, .ok ())) (hp : s'.p = s1.p) (hc : s'.cls = s.cls)
    (he : s'.p.elems = next s.p.elems o) (hu : s'.p.useCache = s.p.useCache) (hI : InvTop leq s') :
    StepRel leq ord s (.op o) (s', .unit)

/-- `StepRel` from the run equation: the body changes the poset part only, into the specified element list, and each
    update moves the cached index of its side to the new extreme. -/
theorem StepRel.of_run {run : ML α Unit} {o : Op α} {s : SL α} {v : Dir → ML α Unit} (hm : isMutation o = true)
    (hrun : run s = match refusal leq s.cls s.p.elems o with
      | some er => (s, .error er)
      | none => (bodySL leq ord o >>= fun _ => updSides s.cls v) s)
    (hbody : refusal leq s.cls s.p.elems o = none → ∀ s1, bodySL leq ord o s = (s1, .ok ()) →
      s1.cls = s.cls ∧ (∀ d, s1.cache d = s.cache d) ∧ s1.p.elems = next s.p.elems o ∧ s1.p.useCache = s.p.useCache)
    (hv : refusal leq s.cls s.p.elems o = none → ∀ d, s.cls.has d = true → ∀ s' : SL α,
      s'.p.elems = next s.p.elems o → s'.p.useCache = s.p.useCache → s'.cache d = s.cache d →
      ∃ c, v d s' = (s'.setCache d c, .ok ()) ∧
        ∃ t', isExt leq d (next s.p.elems o) t' = true ∧ (s'.p.useCache = true → c = some t')) :
    StepRel leq ord s (.op o) ((run s).1, outOf (fun _ => Out.unit) (run s).2) := by
  rw [hrun]
  cases h : refusal leq s.cls s.p.elems o with
  | some er => exact .refused h
  | none =>
    cases hb : bodySL leq ord o s with
    | mk s1 r =>
      cases r with
      | error er =>
        rw [bind_err hb]
        exact .raised hm h hb
      | ok u =>
        obtain ⟨b1, b2, b3, b4⟩ := hbody h s1 hb
        obtain ⟨s', h1, h2, h3, h4⟩ := (updSides_cases (v := v) (P := fun p => p = s1.p) (ok := fun _ => True)
          (err := .ValueError)
          (Q := fun d c => ∃ t', isExt leq d (next s.p.elems o) t' = true ∧ (s.p.useCache = true → c = some t'))
          (fun d hd s' hP hcd => ⟨fun _ => by
            have hu : s'.p.useCache = s.p.useCache := hP ▸ b4
            obtain ⟨c, hc, t', ht', hct'⟩ := hv h d hd s' (hP ▸ b3) hu (hcd.trans (b2 d))
            exact ⟨s'.p, c, hc, hP, t', ht', fun hs => hct' (hu ▸ hs)⟩,
            fun hn => absurd trivial hn⟩) rfl).1 fun _ _ => trivial
        have he : s'.p.elems = next s.p.elems o := by rw [h2, b3]
        have hu : s'.p.useCache = s.p.useCache := by rw [h2, b4]
        rw [(bind_ok hb).trans h1]
        refine .done hm h hb h2 (h3.trans b1) he hu ⟨fun d hd => ?_⟩
        rw [h3, b1] at hd
        obtain ⟨t', ht', hc'⟩ := h4 d hd
        exact ⟨t', by rw [he]; exact ht', fun hu' => hc' (hu ▸ hu')⟩

theorem addSL_eq_perSide (e : α) (fill : Bool) (s : SL α) :
    addSL leq ord e fill s =
      perSide s.cls (fun d => guardAdd leq d e) (posetAddSL leq ord e fill) (fun d b => updateAfterAdd d b e) s := by
  unfold addSL
  rw [bind_ok (get_apply s)]
  cases s.cls <;> rfl

theorem addSL_run {s : SL α} (hI : InvTop leq s) (hpo : IdxPO leq s.p.elems) (e : α) (fill : Bool) :
    addSL leq ord e fill s = match refusal leq s.cls s.p.elems (.add e fill) with
      | some er => (s, .error er)
      | none => (posetAddSL leq ord e fill >>= fun _ => updSides s.cls fun d =>
          updateAfterAdd d ((greatestElem leq d s.p.elems).any (beyond leq d e)) e) s := by
  rw [addSL_eq_perSide, refusal_add, perSide_run (fun d => (greatestElem leq d s.p.elems).any (incomparable leq e))
    .ValueError (fun d => (greatestElem leq d s.p.elems).any (beyond leq d e))]
  · split
    · rfl
    · rfl
  · exact fun d hd => guardAdd_run hI hpo hd e

theorem updateAfterAdd_run (d : Dir) (b : Bool) (e : α) (s : SL α) :
    updateAfterAdd d b e s =
      if s.p.useCache = true ∧ b = true then
        (match indexOf? e s.p.elems with
          | some i => (s.setCache d (some i), .ok ())
          | none => (s, .error .KeyError))
      else (s, .ok ()) := by
  unfold updateAfterAdd
  rw [bind_ok (get_apply s)]
  cases s.p.useCache
  · rfl
  · cases b
    · rfl
    · cases indexOf? e s.p.elems <;> rfl

theorem updateAfterAdd_spec (hpoU : PO leq U) {E : List α} (hU : ∀ a ∈ E, U a) {e : α} (heU : U e)
    {d : Dir} {t : Nat} {x : α} (ht : isExt leq d E t = true) (hx : E[t]? = some x)
    (hcomp : incomparable leq e x = false) (f : Bool) {s' : SL α} (hE : s'.p.elems = next E (.add e f))
    (hc : s'.p.useCache = true → s'.cache d = some t) :
    ∃ c, updateAfterAdd d (beyond leq d e x) e s' = (s'.setCache d c, .ok ()) ∧
      ∃ t', isExt leq d (next E (.add e f)) t' = true ∧ (s'.p.useCache = true → c = some t') := by
  obtain ⟨hB, hN⟩ := isExt_after_add hpoU hU heU ht hx hcomp f
  rw [updateAfterAdd_run]
  by_cases hcond : s'.p.useCache = true ∧ beyond leq d e x = true
  · obtain ⟨i, hi, hie⟩ := hB hcond.2
    rw [if_pos hcond, hE, hi]
    exact ⟨some i, rfl, i, hie, fun _ => rfl⟩
  · rw [if_neg hcond]
    refine ⟨s'.cache d, by rw [setCache_cache], ?_⟩
    cases hb : beyond leq d e x
    · exact ⟨t, hN hb, hc⟩
    · obtain ⟨i, _, hie⟩ := hB hb
      exact ⟨i, hie, fun hu => absurd ⟨hu, hb⟩ hcond⟩

theorem addSL_rel (hpoU : PO leq U) {s : SL α} (hI : InvTop leq s) (hnd : s.p.elems.Nodup)
    (hU : ∀ a ∈ s.p.elems, U a) {e : α} (heU : U e) (fill : Bool) :
    StepRel leq ord s (.op (.add e fill)) (stepSL leq ord s (.op (.add e fill))) := by
  have hpo : IdxPO leq s.p.elems := idxPO_of hpoU hnd hU
  refine StepRel.of_run rfl (addSL_run hI hpo e fill) (fun _ s1 hb => ?_) (fun href d hd s' hE hu hc => ?_)
  · exact posetAddSL_key (invTop_good hI) hb
  · obtain ⟨t, x, ht, hct, hx, -, hge⟩ := hI.side hpo hd
    rw [hge]
    exact updateAfterAdd_spec hpoU hU heU ht hx (refusal_add_eq_none href hd hge) fill hE
      fun h => hc.trans (hct (hu ▸ h))

theorem delSL_eq_perSide (k : Nat) (s : SL α) :
    delSL leq ord k s =
      perSide s.cls (fun d => guardDel leq d k) (ML.lift (delE ord k)) (fun d _ => updateAfterDel d k) s := by
  unfold delSL
  rw [bind_ok (get_apply s)]
  cases s.cls <;> rfl

theorem delSL_run {s : SL α} (hI : InvTop leq s) (hpo : IdxPO leq s.p.elems) (k : Nat) :
    delSL leq ord k s = match refusal leq s.cls s.p.elems (.del k) with
      | some er => (s, .error er)
      | none => (ML.lift (delE ord k) >>= fun _ => updSides s.cls fun d => updateAfterDel d k) s := by
  rw [delSL_eq_perSide, refusal_del, perSide_run (fun d => greatest leq d s.p.elems == some k) .KeyError (fun _ => ())]
  · cases (dirsOf s.cls).any fun d => greatest leq d s.p.elems == some k
    · simp only [Bool.false_eq_true, ↓reduceIte]
      by_cases hk : k < s.p.elems.length
      · rw [if_pos hk]
      · -- an index out of range is refused by `POSet.__delitem__` itself
        rw [if_neg hk]
        exact bind_err (lift_eq (delE_error hk))
    · rfl
  · exact fun d hd => guardDel_run hI hpo hd k

theorem updateAfterDel_run (d : Dir) (k : Nat) (s : SL α) :
    updateAfterDel d k s =
      if s.p.useCache = true then
        (match s.cache d with
          | none => (s, .error .TypeError)
          | some t => (s.setCache d (some (decrIdx t k)), .ok ()))
      else (s, .ok ()) := by
  unfold updateAfterDel
  rw [bind_ok (get_apply s)]
  cases s.p.useCache
  · rfl
  · cases s.cache d with
    | none => rfl
    | some t =>
      have : t - (if t > k then 1 else 0) = decrIdx t k := by
        unfold decrIdx
        split <;> rfl
      simp only [↓reduceIte, modify_apply, this]

theorem updateAfterDel_spec {E : List α} {d : Dir} {t k : Nat} (ht : isExt leq d E t = true) (hk : k < E.length)
    (hne : t ≠ k) {s' : SL α} (hc : s'.p.useCache = true → s'.cache d = some t) :
    ∃ c, updateAfterDel d k s' = (s'.setCache d c, .ok ()) ∧
      ∃ t', isExt leq d (E.eraseIdx k) t' = true ∧ (s'.p.useCache = true → c = some t') := by
  have hx := isExt_eraseIdx ht hk hne
  rw [updateAfterDel_run]
  cases hu : s'.p.useCache
  · exact ⟨s'.cache d, by rw [setCache_cache]; rfl, _, hx, fun h => by cases h⟩
  · rw [if_pos rfl, hc hu]
    exact ⟨_, rfl, _, hx, fun _ => rfl⟩

theorem delSL_rel {s : SL α} (hI : InvTop leq s) (hpo : IdxPO leq s.p.elems) (k : Nat) :
    StepRel leq ord s (.op (.del k)) (stepSL leq ord s (.op (.del k))) := by
  refine StepRel.of_run rfl (delSL_run hI hpo k) (fun href s1 hb => ?_) (fun href d hd s' hE hu hc => ?_)
  · obtain ⟨rfl, -⟩ := Prod.mk.inj hb
    have hk := (refusal_del_eq_none href).1
    exact ⟨rfl, fun d => by cases d <;> rfl, (delE_elems hk).1, (delE_elems hk).2⟩
  · obtain ⟨hk, hne⟩ := refusal_del_eq_none href
    obtain ⟨t, x, ht, hct, -, hg, -⟩ := hI.side hpo hd
    exact updateAfterDel_spec ht hk (fun h => hne d hd (h ▸ hg)) fun h => hc.trans (hct (hu ▸ h))

theorem removeSL_eq_perSide (e : α) (s : SL α) :
    removeSL leq ord e s =
      perSide s.cls (fun d => guardRemove leq d e) (posetRemoveSL leq ord e) (fun _ _ => pure ()) s := by
  unfold removeSL
  rw [bind_ok (get_apply s)]
  cases s.cls <;> simp only [perSide, bind_pure_unit]

theorem posetRemoveSL_run (e : α) (s : SL α) :
    posetRemoveSL leq ord e s = match indexOf? e s.p.elems with
      | some i => delSL leq ord i s
      | none => (s, .error .KeyError) := by
  unfold posetRemoveSL
  rw [bind_apply, lift_apply, indexE_run]
  cases indexOf? e s.p.elems <;> rfl

theorem removeSL_run {s : SL α} (hI : InvTop leq s) (hpo : IdxPO leq s.p.elems) (e : α) :
    removeSL leq ord e s =
      if (dirsOf s.cls).any (fun d => greatestElem leq d s.p.elems == some e) then (s, .error .ValueError)
      else posetRemoveSL leq ord e s := by
  rw [removeSL_eq_perSide, perSide_run (fun d => greatestElem leq d s.p.elems == some e) .ValueError (fun _ => ())]
  · have : (updSides s.cls fun _ => (pure () : ML α Unit)) = pure () := by cases s.cls <;> rfl
    rw [this, bind_pure_unit]
  · exact fun d hd => guardRemove_run hI hpo hd e

theorem lift_removeE {s : SL α} {e : α} {i : Nat} (hi : indexOf? e s.p.elems = some i) :
    ML.lift (removeE ord e) s = ML.lift (delE ord i) s := by
  rw [lift_apply, lift_apply, removeE_run, hi]

/-- once the guards are passed, `remove(e)` is `del` of the element's index -/
theorem StepRel.remove_of_del {s : SL α} {e : α} {i : Nat} {res : SL α × Out}
    (href : refusal leq s.cls s.p.elems (.remove e) = none) (hi : indexOf? e s.p.elems = some i)
    (h : StepRel leq ord s (.op (.del i)) res) : StepRel leq ord s (.op (.remove e)) res := by
  have hb : bodySL leq ord (.remove e) s = bodySL leq ord (.del i) s := lift_removeE hi
  have hn : next s.p.elems (.del i) = next s.p.elems (.remove e) := by simp only [next, hi]
  cases h with
  | query ho => cases ho
  | refused hr =>
    rw [refusal_del_of_remove href hi] at hr
    cases hr
  | raised _ _ hb' => exact .raised rfl href (hb.trans hb')
  | done _ _ hb' hp hc he hu hI => exact .done rfl href (hb.trans hb') hp hc (he.trans hn) hu hI

theorem removeSL_rel {s : SL α} (hI : InvTop leq s) (hpo : IdxPO leq s.p.elems) (e : α) :
    StepRel leq ord s (.op (.remove e)) (stepSL leq ord s (.op (.remove e))) := by
  have hrun := removeSL_run (ord := ord) hI hpo e
  rw [posetRemoveSL_run] at hrun
  have href := refusal_remove (leq := leq) s.cls s.p.elems e
  show StepRel leq ord s _ ((removeSL leq ord e s).1, outOf (fun _ => Out.unit) (removeSL leq ord e s).2)
  rw [hrun]
  by_cases hany : ((dirsOf s.cls).any fun d => greatestElem leq d s.p.elems == some e) = true
  · rw [if_pos hany] at href ⊢
    exact .refused href
  rw [if_neg hany] at href ⊢
  by_cases he : e ∈ s.p.elems
  · rw [if_pos he] at href
    obtain ⟨i, hi⟩ := indexOf?_some_of_mem he
    rw [hi]
    exact .remove_of_del href hi (delSL_rel hI hpo i)
  · rw [if_neg he] at href
    rw [indexOf?_none_of_not_mem he]
    exact .refused href

end
end Fca.SemiLattice
