/-
  Two loops that several models of one Python function share, each recognised by its unfolding equations:
  the running hull of intervals of `IntervalPS.intention_i` (with Python's `min`/`max` as folds), and the narrowing
  loop with an early exit of `MVContext.extension_i`.
-/
import Fca.Lemmas.ListAux

namespace Fca

/-! ### the hull of intervals

  What every model of `IntervalPS.intention_i` iterates (`Model/PS`, `Model/MVPS`, `Model/Concept` over `Int`,
  `Model/RFTree` over `Rat`): the running minimum of the left and maximum of the right ends, i.e. the hull of a list of
  intervals. -/

section
variable {α : Type} [LT α] [DecidableLT α]

/-- Python's `v if v < m else m` -/
def pickMin (m v : α) : α := if v < m then v else m
/-- Python's `v if v > m else m` -/
def pickMax (m v : α) : α := if v > m then v else m

/-- the body of the loop of `IntervalPS.intention_i` -/
def hullStep (m v : α × α) : α × α := (pickMin m.1 v.1, pickMax m.2 v.2)

theorem foldl_hullStep (vs : List (α × α)) (m : α × α) :
    vs.foldl hullStep m = ((vs.map (·.1)).foldl pickMin m.1, (vs.map (·.2)).foldl pickMax m.2) := by
  induction vs generalizing m with
  | nil => rfl
  | cons v vs ih => exact ih (hullStep m v)

end

section
open Std
variable {α : Type} [LE α]

def IsHull {ι : Type} (f : ι → α × α) (A : List ι) (h : α × α) : Prop :=
  (∀ g ∈ A, h.1 ≤ (f g).1 ∧ (f g).2 ≤ h.2) ∧ (∃ g ∈ A, (f g).1 = h.1) ∧ (∃ g ∈ A, (f g).2 = h.2)

theorem IsHull.least {ι : Type} {f : ι → α × α} {A : List ι} {h : α × α} (hh : IsHull f A h) {lo hi : α}
    (hc : ∀ g ∈ A, lo ≤ (f g).1 ∧ (f g).2 ≤ hi) : lo ≤ h.1 ∧ h.2 ≤ hi := by
  obtain ⟨_, ⟨gl, hgl, el⟩, ⟨gr, hgr, er⟩⟩ := hh
  exact ⟨el ▸ (hc gl hgl).1, er ▸ (hc gr hgr).2⟩

variable [IsLinearOrder α]

theorem IsHull.unique {ι : Type} {f : ι → α × α} {A B : List ι} {h h' : α × α} (hA : IsHull f A h)
    (hB : IsHull f B h') (hAB : ∀ g, g ∈ A ↔ g ∈ B) : h = h' := by
  have h1 := hA.least (fun g hg => hB.1 g ((hAB g).mp hg))
  have h2 := hB.least (fun g hg => hA.1 g ((hAB g).mpr hg))
  exact Prod.ext (le_antisymm h2.1 h1.1) (le_antisymm h1.2 h2.2)

variable [LT α] [DecidableLT α] [LawfulOrderLT α]

theorem pickMin_spec (m v : α) : pickMin m v ≤ m ∧ pickMin m v ≤ v ∧ (pickMin m v = m ∨ pickMin m v = v) := by
  unfold pickMin
  by_cases h : v < m
  · rw [if_pos h]; exact ⟨le_of_lt h, le_refl v, Or.inr rfl⟩
  · rw [if_neg h]; exact ⟨le_refl m, not_lt.mp h, Or.inl rfl⟩

theorem pickMax_spec (m v : α) : m ≤ pickMax m v ∧ v ≤ pickMax m v ∧ (pickMax m v = m ∨ pickMax m v = v) := by
  unfold pickMax
  by_cases h : v > m
  · rw [if_pos h]; exact ⟨le_of_lt h, le_refl v, Or.inr rfl⟩
  · rw [if_neg h]; exact ⟨le_refl m, not_lt.mp h, Or.inl rfl⟩

/-- Python's `min`/`max` of a non-empty list as the models fold it: a member, and below (in `le`) every member -/
theorem foldl_pick_least {α} {le : α → α → Prop} (refl : ∀ a, le a a) (trans : ∀ {a b c}, le a b → le b c → le a c)
    {pick : α → α → α} (hpick : ∀ m v, le (pick m v) m ∧ le (pick m v) v ∧ (pick m v = m ∨ pick m v = v))
    (xs : List α) (x : α) : xs.foldl pick x ∈ x :: xs ∧ ∀ y ∈ x :: xs, le (xs.foldl pick x) y := by
  obtain ⟨h0, h, hsel⟩ := ListAux.foldl_pick_spec le refl trans id id pick (fun m v => (hpick m v).1)
    (fun m v => (hpick m v).2.1) (fun m v => (hpick m v).2.2) xs x
  exact ⟨List.mem_cons.mpr (hsel.imp id fun ⟨a, ha, e⟩ => (show xs.foldl pick x = a from e) ▸ ha),
    List.forall_mem_cons.mpr ⟨h0, h⟩⟩

theorem isHull_foldl {ι : Type} (f : ι → α × α) (g0 : ι) (rest : List ι) :
    IsHull f (g0 :: rest) ((rest.map f).foldl hullStep (f g0)) := by
  rw [List.foldl_map]
  obtain ⟨l0, l, hl⟩ := ListAux.foldl_pick_spec (· ≤ ·) le_refl le_trans (·.1) (fun g => (f g).1)
    (fun m g => hullStep m (f g)) (fun m g => (pickMin_spec m.1 (f g).1).1) (fun m g => (pickMin_spec m.1 (f g).1).2.1)
    (fun m g => (pickMin_spec m.1 (f g).1).2.2) rest (f g0)
  obtain ⟨r0, r, hr⟩ := ListAux.foldl_pick_spec (· ≥ ·) le_refl (fun h h' => le_trans h' h) (·.2)
    (fun g => (f g).2) (fun m g => hullStep m (f g)) (fun m g => (pickMax_spec m.2 (f g).2).1)
    (fun m g => (pickMax_spec m.2 (f g).2).2.1) (fun m g => (pickMax_spec m.2 (f g).2).2.2) rest (f g0)
  refine ⟨List.forall_mem_cons.mpr ⟨⟨l0, r0⟩, fun g hg => ⟨l g hg, r g hg⟩⟩, ?_, ?_⟩
  · exact hl.elim (fun e => ⟨g0, List.mem_cons_self, e.symm⟩) fun ⟨g, hg, e⟩ => ⟨g, List.mem_cons_of_mem _ hg, e.symm⟩
  · exact hr.elim (fun e => ⟨g0, List.mem_cons_self, e.symm⟩) fun ⟨g, hg, e⟩ => ⟨g, List.mem_cons_of_mem _ hg, e.symm⟩

end

theorem pickMin_eq_min : (pickMin : Int → Int → Int) = min := by
  funext m v
  rw [pickMin, Int.min_def]
  by_cases h : v < m
  · rw [if_pos h, if_neg (Int.not_le.mpr h)]
  · rw [if_neg h, if_pos (Int.not_lt.mp h)]

theorem pickMax_eq_max : (pickMax : Int → Int → Int) = max := by
  funext m v
  rw [pickMax, Int.max_def]
  by_cases h : m < v
  · rw [if_pos h, if_pos (Int.le_of_lt h)]
  · rw [if_neg h]
    split
    · exact Int.le_antisymm ‹m ≤ v› (Int.not_lt.mp h)
    · rfl

/-! ### narrowing with an early exit (the loop of `MVContext.extension_i`) -/

/-- A loop that narrows an extent by one filter per entry and leaves early once nothing is left (recognised by its
    equations) computes the filter by all entries: the early exit does not change the answer.  `ret` is `id` for the
    models that cannot raise and `Except.ok` for those that can; the equation of a step is asked of the entries of `l`
    only, where the model's lookup of the column succeeds. -/
theorem narrowLoop_eq {β γ : Type} (p : β → Nat → Bool) (ret : List Nat → γ) (loop : List β → List Nat → γ)
    (hnil : ∀ ext, loop [] ext = ret ext) (l : List β)
    (hcons : ∀ b ∈ l, ∀ rest ext, loop (b :: rest) ext =
      if (ext.filter (p b)).length = 0 then ret (ext.filter (p b)) else loop rest (ext.filter (p b)))
    (ext : List Nat) : loop l ext = ret (ext.filter fun g => l.all fun b => p b g) := by
  induction l generalizing ext with
  | nil =>
    rw [hnil]
    exact congrArg ret (List.filter_eq_self.mpr fun _ _ => rfl).symm
  | cons b rest ih =>
    have hsplit : (ext.filter fun g => (b :: rest).all fun b => p b g)
        = (ext.filter (p b)).filter fun g => rest.all fun b => p b g := by
      rw [List.filter_filter]
      exact List.filter_congr fun g _ => by rw [List.all_cons, Bool.and_comm]
    rw [hcons b List.mem_cons_self, hsplit]
    split
    · rename_i h0
      rw [List.eq_nil_of_length_eq_zero h0]
      rfl
    · exact ih (fun b' hb' => hcons b' (List.mem_cons_of_mem _ hb')) _

end Fca
