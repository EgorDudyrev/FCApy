/-
  The backend operations of C06 (`tableT`, `tableNot`, `subtable`) are the specification's `transpose`, `complement`
  and `permute`; `_transpose_hierarchy` inverts a relation given as a dictionary; the monotone concepts are the
  object-complemented concepts of the complemented table.
-/
import Fca.Model.Duality
import Fca.Spec.Duality
import Fca.Lemmas.Galois
import Fca.Lemmas.ExtentOrder
import Fca.Lemmas.ListAux
import Fca.Lemmas.TransposeHierarchy
namespace Fca.Dual
open Fca.Spec

theorem map_map_cancel {α β} {f : α → β} {g : β → α} {l : List α} (h : ∀ a ∈ l, g (f a) = a) :
    (l.map f).map g = l := by
  rw [List.map_map]
  exact (List.map_congr_left (f := g ∘ f) (g := id) h).trans (List.map_id l)

theorem npT_eq_map_getColumn (t : Table) :
    npT t = (List.range t.width).map fun j => getColumn t (List.range t.height) j := by
  refine List.map_congr_left fun j _ => ?_
  conv => lhs; rw [← ListAux.range_map_getD t.data [], List.map_map]
  rfl

theorem tableT_eq_transpose (be : Backend) (t : Table) (hw : 1 ≤ t.width) :
    tableT be t = transpose t := by
  have key : mkTable ((List.range t.width).map fun j => getColumn t (List.range t.height) j)
      = transpose t :=
    Table.ofRows_eq_mk (by rw [List.length_map, List.length_range]; exact hw)
      (List.forall_mem_map.mpr fun _ _ => (List.length_map _).trans List.length_range)
  cases be
  · exact key
  · exact key
  · show mkTable (npT t) = _
    rw [npT_eq_map_getColumn]
    exact key

theorem transpose_transpose (t : Table) (hwf : t.WF) : transpose (transpose t) = t := by
  have hd : (List.range t.height).map (fun g => (List.range t.width).map fun a => (transpose t).get a g)
      = t.data := by
    rw [t.data_eq_map_row]
    refine List.map_congr_left fun g hg => ?_
    rw [t.row_eq_map hwf (List.mem_range.mp hg)]
    exact List.map_congr_left fun a ha => transpose_get_of_lt_width t (List.mem_range.mp ha) g
  rw [transpose, transpose_height, transpose_width, hd]

theorem tableNot_eq_complement (be : Backend) (t : Table) (hwf : t.WF) (hh : 1 ≤ t.height) :
    tableNot be t = complement t := by
  have key : mkTable (t.data.map fun row => row.map fun v => !v) = complement t :=
    Table.ofRows_eq_mk (by rw [List.length_map]; exact hh)
      (List.forall_mem_map.mpr fun r hr => (List.length_map _).trans (hwf r hr))
  cases be <;> exact key

theorem complement_complement (t : Table) : complement (complement t) = t := by
  show Table.mk ((t.data.map _).map _) t.width = t
  rw [map_map_cancel fun r _ => map_map_cancel fun v _ => Bool.not_not v]

theorem complement_wf (t : Table) (h : t.WF) : (complement t).WF := by
  intro r hr
  obtain ⟨r0, h0, rfl⟩ := List.mem_map.mp hr
  rw [List.length_map]
  exact h r0 h0

theorem complement_height (t : Table) : (complement t).height = t.height :=
  List.length_map _

theorem complement_width (t : Table) : (complement t).width = t.width := rfl

theorem complement_get (t : Table) (hwf : t.WF) {g a : Nat} (hg : g < t.height) (ha : a < t.width) :
    (complement t).get g a = !(t.get g a) := by
  have hrow : (complement t).row g = (t.row g).map fun v => !v := ListAux.getD_map _ _ _ [] [] hg
  rw [Table.get, hrow]
  exact ListAux.getD_map _ _ _ false false (by rw [t.row_length hwf hg]; exact ha)

theorem subtable_eq_permute (be : Backend) (t : Table) (π σ : List Nat) (hπ : 1 ≤ π.length) :
    subtable be t π σ = permute t π σ := by
  have key : mkTable (π.map fun i => σ.map fun j => t.get i j) = permute t π σ :=
    Table.ofRows_eq_mk (by rw [List.length_map]; exact hπ) (List.forall_mem_map.mpr fun _ _ => List.length_map _)
  cases be
  · exact key
  · exact key
  · show mkTable ((π.map t.row).map fun r => σ.map fun j => r.getD j false) = _
    rw [List.map_map]
    exact key

theorem mkCtx_ok (be : Backend) {t : Table} {objs attrs : List String} (ho : objs.length = t.height)
    (ha : attrs.length = t.width) : mkCtx be t objs attrs = .ok ⟨be, t, objs, attrs⟩ := by
  rw [mkCtx, if_neg (not_not_intro ho), if_neg (not_not_intro ha)]

theorem ctxT_ok (K : Ctx) (hm : 1 ≤ K.nAttributes) (ho : K.objNames.length = K.nObjects)
    (ha : K.attrNames.length = K.nAttributes) :
    ctxT K = .ok ⟨K.backend, transpose K.table, K.attrNames, K.objNames⟩ := by
  rw [ctxT, tableT_eq_transpose K.backend K.table hm]
  exact mkCtx_ok _ (ha.trans (transpose_height _).symm) ho

/-- `toggleNot` on the characters of a name -/
def toggleL (cs : List Char) : List Char :=
  if notPrefix.isPrefixOf cs then cs.drop 4 else notPrefix ++ cs

theorem toggleNot_toList (s : String) : (toggleNot s).toList = toggleL s.toList := by
  unfold toggleNot toggleL
  simp only
  split <;> exact String.toList_ofList

theorem notPrefix_length : notPrefix.length = 4 := rfl

theorem notPrefix_isPrefixOf_iff (cs : List Char) : notPrefix.isPrefixOf cs = true ↔ notPrefix <+: cs :=
  List.isPrefixOf_iff_prefix

theorem toggleL_append (cs : List Char) : toggleL (notPrefix ++ cs) = cs := by
  rw [toggleL, if_pos ((notPrefix_isPrefixOf_iff _).mpr (List.prefix_append _ _))]
  exact List.drop_left' notPrefix_length

theorem toggleL_of_prefix {cs : List Char} (h : notPrefix <+: cs) : notPrefix ++ toggleL cs = cs := by
  obtain ⟨r, rfl⟩ := h
  rw [toggleL_append]

theorem toggleL_of_not_prefix {cs : List Char} (h : ¬ notPrefix <+: cs) : toggleL cs = notPrefix ++ cs := by
  rw [toggleL, if_neg (fun hp => h ((notPrefix_isPrefixOf_iff _).mp hp))]

/-- a name on which toggling twice is the identity -/
def NameOK (s : String) : Prop := (notPrefix ++ notPrefix).isPrefixOf s.toList = false

instance (s : String) : Decidable (NameOK s) := by unfold NameOK; infer_instance

theorem nameOK_iff (s : String) : NameOK s ↔ ¬ (notPrefix ++ notPrefix) <+: s.toList := by
  rw [NameOK, ← Bool.not_eq_true, List.isPrefixOf_iff_prefix]

theorem toggleL_toggleL_iff (cs : List Char) :
    toggleL (toggleL cs) = cs ↔ ¬ (notPrefix ++ notPrefix) <+: cs := by
  by_cases h : notPrefix <+: cs
  · obtain ⟨r, rfl⟩ := h
    rw [toggleL_append, List.prefix_append_right_inj]
    by_cases h2 : notPrefix <+: r
    · obtain ⟨r', rfl⟩ := h2
      rw [toggleL_append]
      refine iff_of_false (fun heq => ?_) (fun hn => hn (List.prefix_append _ _))
      have := congrArg List.length heq
      simp only [List.length_append, notPrefix_length] at this
      omega
    · rw [toggleL_of_not_prefix h2]
      exact iff_of_true rfl h2
  · rw [toggleL_of_not_prefix h, toggleL_append]
    exact iff_of_true rfl fun h2 => h ((List.prefix_append _ _).trans h2)

theorem nameOK_of_not_prefix {s : String} (h : ¬ notPrefix <+: s.toList) : NameOK s :=
  (nameOK_iff s).mpr fun h2 => h ((List.prefix_append _ _).trans h2)

theorem mem_setAdd {s : List Nat} {x k : Nat} : x ∈ setAdd s k ↔ x ∈ s ∨ x = k :=
  ListAux.mem_addNew List.contains_iff_mem

/-- the dictionary as `_transpose_hierarchy` uses it: `dget` and `dhas` are the two readings of `lookup` -/
def dictOps : TransposeH.Ops Dict :=
  .ofGet (fun d k => d.lookup k) dset setAdd (fun d k s v => by
    rw [dset, List.lookup_cons]
    by_cases h : v = k
    · rw [if_pos h, beq_iff_eq.mpr h]
    · rw [if_neg h, beq_false_of_ne h]) fun _ _ _ => mem_setAdd

theorem thInner_eq (k : Nat) : ∀ (vs : List Nat) (d : Dict), thInner k vs d = TransposeH.inner dictOps k d vs
  | [], _ => rfl
  | _ :: vs, _ => thInner_eq k vs _

theorem thLoop_eq : ∀ (h d : Dict), thLoop h d = TransposeH.run dictOps h d
  | [], _ => rfl
  | (k, vs) :: rest, d => by
    rw [thLoop, thInner_eq, thLoop_eq rest]
    rfl

theorem mem_transposeHierarchy (h : Dict) (x v : Nat) :
    x ∈ dget (transposeHierarchy h) v ↔ ∃ p ∈ h, v ∈ p.2 ∧ x = p.1 := by
  rw [transposeHierarchy, thLoop_eq]
  exact (TransposeH.mem_rd_run dictOps h [] v x).trans (or_iff_right List.not_mem_nil)

/-- `{i: f(i) for i in range(n)}` -/
theorem dget_map_range (n : Nat) (f : Nat → List Nat) {k : Nat} (hk : k < n) :
    dget ((List.range n).map fun i => (i, f i)) k = f k :=
  congrArg (·.getD []) (ListAux.get_of_mem (get := fun d k => d.lookup k) (d := (List.range n).map fun i => (i, f i))
    (fun _ _ _ _ => ListAux.lookup_cons_ite ..) (List.pairwise_map.mpr (List.pairwise_map.mpr List.nodup_range))
    (List.mem_map.mpr ⟨k, List.mem_range.mpr hk, rfl⟩))

theorem mem_map_range {n : Nat} {f : Nat → List Nat} {k : Nat} {vs : List Nat} :
    (k, vs) ∈ (List.range n).map (fun i => (i, f i)) ↔ k < n ∧ vs = f k := by
  rw [List.mem_map]
  constructor
  · rintro ⟨i, hi, h⟩
    cases h
    exact ⟨List.mem_range.mp hi, rfl⟩
  · rintro ⟨hk, rfl⟩
    exact ⟨k, List.mem_range.mpr hk, rfl⟩

theorem ssubset_eq_subset_and_not (a b : List Nat) : ssubset a b = (Spec.subset a b && !(Spec.subset b a)) := rfl

theorem mem_upperCovers_iff (exts : List (List Nat)) {i j : Nat} (hi : i < exts.length) :
    j ∈ upperCovers exts i ↔ j < exts.length ∧ i ∈ lowerCovers exts j := by
  simp only [lowerCovers, upperCovers, List.mem_filter, List.mem_range, hi, true_and]

theorem upperCovers_eq_lowerCovers_of_dual {exts ints : List (List Nat)} {n : Nat} (he : exts.length = n)
    (hn : ints.length = n)
    (h : ∀ i j, i < n → j < n →
      ssubset (exts.getD i []) (exts.getD j []) = ssubset (ints.getD j []) (ints.getD i []))
    {i : Nat} (hi : i < n) : upperCovers exts i = lowerCovers ints i := by
  show upperCoversBy exts.length (ssubAt exts) i = coversBy ints.length (ssubAt ints) i
  rw [he, hn, ← Construct.coversBy_flip]
  exact Construct.coversBy_congr (fun a b ha hb => h b a hb ha) hi

theorem ssubset_concept_dual (t : Table) {A₁ B₁ A₂ B₂ : List Nat}
    (h₁ : isConcept t A₁ B₁ = true) (h₂ : isConcept t A₂ B₂ = true) :
    ssubset A₁ A₂ = ssubset B₂ B₁ := by
  rw [Bool.eq_iff_iff, Trace.ssubset_iff, Trace.ssubset_iff, concept_order t h₁ h₂, concept_order t h₂ h₁]

theorem mem_compl {n : Nat} {xs : List Nat} {x : Nat} : x ∈ compl n xs ↔ x < n ∧ x ∉ xs := by
  rw [compl, List.mem_filter, List.mem_range, Bool.not_eq_true', ← Bool.not_eq_true, List.contains_iff_mem]

theorem canon_congr {n : Nat} {A B : List Nat} (h : ∀ x, x < n → (x ∈ A ↔ x ∈ B)) : canon n A = canon n B := by
  refine List.filter_congr fun x hx => Bool.eq_iff_iff.mpr ?_
  rw [List.contains_iff_mem, List.contains_iff_mem]
  exact h x (List.mem_range.mp hx)

/-- every filter of `range n`: `extAll`, `intAll`, `extMonoAll`, `intMonoAll`, `compl`, `canon` -/
theorem canon_filter (n : Nat) (p : Nat → Bool) : canon n ((List.range n).filter p) = (List.range n).filter p := by
  refine List.filter_congr fun x hx => Bool.eq_iff_iff.mpr ?_
  rw [List.contains_iff_mem, List.mem_filter]
  exact and_iff_right hx

theorem eq_of_canon {n : Nat} {A B : List Nat} (hA : canon n A = A) (hB : canon n B = B)
    (h : ∀ x, x ∈ A ↔ x ∈ B) : A = B := by
  rw [← hA, ← hB]
  exact canon_congr fun x _ => h x

theorem canon_canon (n : Nat) (xs : List Nat) : canon n (canon n xs) = canon n xs :=
  canon_filter n _

theorem compl_compl (n : Nat) (A : List Nat) : compl n (compl n A) = canon n A := by
  refine List.filter_congr fun x hx => Bool.eq_iff_iff.mpr ?_
  rw [Bool.not_eq_true', ← Bool.not_eq_true, List.contains_iff_mem, List.contains_iff_mem, mem_compl]
  exact ⟨fun h => Decidable.byContradiction fun hA => h ⟨List.mem_range.mp hx, hA⟩, fun hA h => h.2 hA⟩

theorem extAll_compl_compl (t : Table) (B : List Nat) :
    compl t.height (compl t.height (extAll t B)) = extAll t B :=
  (compl_compl _ _).trans (canon_filter _ _)

theorem subset_compl {n : Nat} {a b : List Nat} (hb : ∀ x ∈ b, x < n) :
    Spec.subset (compl n a) (compl n b) = Spec.subset b a := by
  rw [Bool.eq_iff_iff, Trace.subset_iff, Trace.subset_iff]
  constructor
  · intro h x hx
    exact Decidable.byContradiction fun hxa => (mem_compl.mp (h x (mem_compl.mpr ⟨hb x hx, hxa⟩))).2 hx
  · intro h x hx
    rw [mem_compl] at *
    exact ⟨hx.1, fun hxb => hx.2 (h x hxb)⟩

theorem ssubset_compl {n : Nat} {a b : List Nat} (ha : ∀ x ∈ a, x < n) (hb : ∀ x ∈ b, x < n) :
    ssubset (compl n a) (compl n b) = ssubset b a := by
  rw [ssubset_eq_subset_and_not, ssubset_eq_subset_and_not, subset_compl hb, subset_compl ha]

theorem mem_extMonoAll (t : Table) {B : List Nat} {g : Nat} :
    g ∈ extMonoAll t B ↔ g < t.height ∧ ∃ a ∈ B, t.get g a = true := by
  rw [extMonoAll, extMono, List.mem_filter, List.mem_range, List.any_eq_true]

theorem isMonoConcept_iff (t : Table) {A B : List Nat} :
    isMonoConcept t A B = true ↔ A = extMonoAll t B ∧ B = intMonoAll t A := by
  rw [isMonoConcept, Bool.and_eq_true, beq_iff_eq, beq_iff_eq]
  exact and_congr eq_comm eq_comm

/-- "no object outside `A` has `a`" is "every object outside `A` has `a` in the complemented table" -/
theorem intMonoAll_eq_intAll_complement (t : Table) (hwf : t.WF) (A : List Nat) :
    intMonoAll t A = intAll (complement t) (compl t.height A) := by
  refine List.filter_congr fun a ha => ?_
  rw [compl, List.all_filter]
  refine ListAux.all_congr_of_mem fun g hg => ?_
  rw [Bool.not_not, complement_get t hwf (List.mem_range.mp hg) (List.mem_range.mp ha)]

/-- De Morgan: "has no attribute of `B`" is "has every attribute of `B` in the complemented table" -/
theorem extAll_complement (t : Table) (hwf : t.WF) {B : List Nat} (hB : ∀ a ∈ B, a < t.width) :
    extAll (complement t) B = compl t.height (extMonoAll t B) := by
  rw [extAll, complement_height]
  refine List.filter_congr fun g hg => ?_
  have hgn := List.mem_range.mp hg
  have hc : (extMonoAll t B).contains g = B.any fun a => t.get g a := by
    rw [Bool.eq_iff_iff, List.contains_iff_mem, mem_extMonoAll, List.any_eq_true]
    exact and_iff_right hgn
  rw [hc, List.not_any_eq_all_not]
  exact ListAux.all_congr_of_mem fun a ha => complement_get t hwf hgn (hB a ha)

theorem mem_map_compl_iff (t : Table) (hwf : t.WF) {cs : List (List Nat × List Nat)}
    (hcs : ∀ C D, (C, D) ∈ cs ↔ isConcept (complement t) C D = true) {A B : List Nat} :
    (A, B) ∈ cs.map (fun p => (compl t.height p.1, p.2)) ↔ A = extMonoAll t B ∧ B = intMonoAll t A := by
  rw [intMonoAll_eq_intAll_complement t hwf, List.mem_map]
  have hext : ∀ {C : List Nat}, intAll (complement t) C = B →
      extAll (complement t) B = compl t.height (extMonoAll t B) := fun hB =>
    extAll_complement t hwf fun a ha => intAll_lt (complement t) a (hB ▸ ha)
  constructor
  · rintro ⟨⟨C, D⟩, hp, heq⟩
    cases heq
    obtain ⟨hC, hD⟩ := (isConcept_iff _).mp ((hcs C D).mp hp)
    have hA : compl t.height C = extMonoAll t D := by
      rw [← hC, hext hD, compl_compl]
      exact canon_filter _ _
    refine ⟨hA, ?_⟩
    rw [hA, ← hext hD, hC, hD]
  · rintro ⟨hA, hB⟩
    refine ⟨(compl t.height A, B), (hcs _ _).mpr ((isConcept_iff _).mpr ⟨?_, hB.symm⟩), ?_⟩
    · rw [hext hB.symm, ← hA]
    · rw [compl_compl, hA]
      exact congrArg (·, B) (canon_filter _ _)

theorem filter_mem_sublists' (l : List Nat) (p : Nat → Bool) : l.filter p ∈ sublists l :=
  filter_mem_sublists l p

theorem isConcept_iff_setConcept (t : Table) {A B : List Nat} :
    isConcept t A B = true ↔ SetConcept t A B ∧ canon t.height A = A ∧ canon t.width B = B := by
  rw [isConcept_iff]
  constructor
  · rintro ⟨hA, hB⟩
    refine ⟨⟨fun g => ?_, fun a => ?_⟩, ?_, ?_⟩
    · rw [← hA, mem_extAll]
    · rw [← hB, mem_intAll]
    · rw [← hA]
      exact canon_filter _ _
    · rw [← hB]
      exact canon_filter _ _
  · rintro ⟨⟨sA, sB⟩, cA, cB⟩
    exact ⟨eq_of_canon (canon_filter _ _) cA fun g => by rw [mem_extAll, sA],
      eq_of_canon (canon_filter _ _) cB fun a => by rw [mem_intAll, sB]⟩

theorem setConcept_congr (t : Table) {A A' B B' : List Nat} (hA : ∀ g, g ∈ A ↔ g ∈ A')
    (hB : ∀ a, a ∈ B ↔ a ∈ B') : SetConcept t A B ↔ SetConcept t A' B' := by
  unfold SetConcept
  simp only [hA, hB]

/-- `π[r]` -/
def at_ (π : List Nat) (r : Nat) : Nat := π.getD r 0

theorem perm_image_iff {π : List Nat} {n : Nat} (hπ : π.Perm (List.range n)) {A' : List Nat}
    (hA' : ∀ r ∈ A', r < n) (P : Nat → Prop) :
    (∀ r, r ∈ A' ↔ r < n ∧ P (at_ π r)) ↔ ∀ g, g ∈ A'.map (at_ π) ↔ g < n ∧ P g := by
  constructor
  · intro h g
    rw [List.mem_map]
    constructor
    · rintro ⟨r, hr, rfl⟩
      exact ⟨ListAux.getD_lt_of_perm_range hπ (hA' r hr), ((h r).mp hr).2⟩
    · rintro ⟨hg, hP⟩
      obtain ⟨r, hrn, rfl⟩ := ListAux.exists_getD_of_perm_range hπ hg
      exact ⟨r, (h r).mpr ⟨hrn, hP⟩, rfl⟩
  · intro h r
    constructor
    · intro hr
      exact ⟨hA' r hr, ((h _).mp (List.mem_map.mpr ⟨r, hr, rfl⟩)).2⟩
    · rintro ⟨hrn, hP⟩
      obtain ⟨r', hr', heq⟩ := List.mem_map.mp ((h _).mpr ⟨ListAux.getD_lt_of_perm_range hπ hrn, hP⟩)
      rw [← ListAux.getD_inj_of_perm_range hπ (hA' r' hr') hrn heq]
      exact hr'

theorem permute_height (t : Table) (π σ : List Nat) : (permute t π σ).height = π.length :=
  List.length_map _

theorem permute_width (t : Table) (π σ : List Nat) : (permute t π σ).width = σ.length := rfl

theorem permute_wf (t : Table) (π σ : List Nat) : (permute t π σ).WF := by
  intro r hr
  obtain ⟨i, _, rfl⟩ := List.mem_map.mp hr
  exact List.length_map _

theorem permute_get (t : Table) (π σ : List Nat) {r c : Nat} (hr : r < π.length) (hc : c < σ.length) :
    (permute t π σ).get r c = t.get (at_ π r) (at_ σ c) := by
  have hrow : (permute t π σ).row r = σ.map fun j => t.get (at_ π r) j := ListAux.getD_map _ _ _ 0 [] hr
  rw [Table.get, hrow]
  exact ListAux.getD_map _ _ _ 0 false hc

def preimage (n : Nat) (π : List Nat) (A : List Nat) : List Nat :=
  (List.range n).filter fun r => A.contains (at_ π r)

theorem canon_map_preimage {π : List Nat} {n : Nat} (hπ : π.Perm (List.range n)) (A : List Nat) :
    canon n ((preimage n π A).map (at_ π)) = canon n A := by
  apply canon_congr
  intro g hg
  rw [List.mem_map]
  constructor
  · rintro ⟨r, hr, rfl⟩
    exact List.contains_iff_mem.mp (List.mem_filter.mp hr).2
  · intro hgA
    obtain ⟨r, hrn, rfl⟩ := ListAux.exists_getD_of_perm_range hπ hg
    exact ⟨r, List.mem_filter.mpr ⟨List.mem_range.mpr hrn, List.contains_iff_mem.mpr hgA⟩, rfl⟩

theorem canon_preimage (n : Nat) (π A : List Nat) : canon n (preimage n π A) = preimage n π A :=
  canon_filter n _

theorem preimage_lt (n : Nat) (π A : List Nat) : ∀ r ∈ preimage n π A, r < n :=
  fun _ hr => List.mem_range.mp (List.mem_filter.mp hr).1

theorem any_ge_eq_false {π : List Nat} {n : Nat} (hπ : π.Perm (List.range n)) :
    (π.any fun i => decide (n ≤ i)) = false := by
  rw [List.any_eq_false]
  intro i hi
  rw [decide_eq_true_eq]
  exact Nat.not_le.mpr (List.mem_range.mp (hπ.mem_iff.mp hi))

/-- `L` lists exactly the formal concepts of `t` and its `children_dict` is the cover relation of
    extent inclusion (what an exact construction algorithm delivers: properties C02 / C03 / C12) -/
structure IsLatticeOf (t : Table) (L : Lat) : Prop where
  concepts : ∀ A B, (A, B) ∈ L.pairs ↔ isConcept t A B = true
  keys : ∀ k vs, (k, vs) ∈ L.children → k < L.concepts.length
  total : ∀ k, k < L.concepts.length → ∃ vs, (k, vs) ∈ L.children
  covers : ∀ k vs, (k, vs) ∈ L.children → ∀ j, j ∈ vs ↔ j ∈ lowerCovers L.exts k

/-- the same for the monotone lattice: monotone concepts, covers of the reversed-inclusion order -/
structure IsMonoLatticeOf (t : Table) (L : Lat) : Prop where
  concepts : ∀ A B, (A, B) ∈ L.pairs ↔ isMonoConcept t A B = true
  keys : ∀ k vs, (k, vs) ∈ L.children → k < L.concepts.length
  total : ∀ k, k < L.concepts.length → ∃ vs, (k, vs) ∈ L.children
  covers : ∀ k vs, (k, vs) ∈ L.children → ∀ j, j ∈ vs ↔ j ∈ monoLowerCovers L.exts k
  mono : L.mono = true ∧ ∀ c ∈ L.concepts, c.mono = true

/-- `self.children(i)` of a lattice whose `children_dict` is a cover relation -/
theorem mem_dget_children {L : Lat} {cov : Nat → List Nat}
    (total : ∀ k, k < L.concepts.length → ∃ vs, (k, vs) ∈ L.children)
    (covers : ∀ k vs, (k, vs) ∈ L.children → ∀ j, j ∈ vs ↔ j ∈ cov k)
    {i : Nat} (hi : i < L.concepts.length) (j : Nat) :
    j ∈ dget L.children i ↔ j ∈ cov i := by
  obtain ⟨vs, hvs⟩ := total i hi
  cases hl : L.children.lookup i with
  | none =>
    have := List.lookup_eq_none_iff.mp hl (i, vs) hvs
    rw [bne_self_eq_false] at this
    cases this
  | some vs' =>
    obtain ⟨l₁, l₂, hd, _⟩ := List.lookup_eq_some_iff.mp hl
    rw [dget, hl]
    exact covers i vs' (by rw [hd]; exact List.mem_append_right _ List.mem_cons_self) j

/-- the fields `keys`, `total`, `covers` of `IsLatticeOf` / `IsMonoLatticeOf` for a lattice whose `children_dict` is
    `{i: f(i) for i in range(n)}` -/
theorem map_range_covers {L : Lat} {n : Nat} {f cov : Nat → List Nat}
    (hd : L.children = (List.range n).map fun i => (i, f i)) (hn : L.concepts.length = n)
    (h : ∀ k, k < n → ∀ j, j ∈ f k ↔ j ∈ cov k) :
    (∀ k vs, (k, vs) ∈ L.children → k < L.concepts.length) ∧
    (∀ k, k < L.concepts.length → ∃ vs, (k, vs) ∈ L.children) ∧
    (∀ k vs, (k, vs) ∈ L.children → ∀ j, j ∈ vs ↔ j ∈ cov k) := by
  rw [hd, hn]
  refine ⟨fun k vs hk => (mem_map_range.mp hk).1, fun k hk => ⟨f k, mem_map_range.mpr ⟨hk, rfl⟩⟩,
    fun k vs hk j => ?_⟩
  obtain ⟨hk', rfl⟩ := mem_map_range.mp hk
  exact h k hk' j

theorem exts_length (L : Lat) : L.exts.length = L.concepts.length := List.length_map _
theorem ints_length (L : Lat) : L.ints.length = L.concepts.length := List.length_map _

theorem pair_mem (L : Lat) {i : Nat} (hi : i < L.concepts.length) :
    (L.exts.getD i [], L.ints.getD i []) ∈ L.pairs := by
  rw [Lat.exts, Lat.ints, ListAux.getD_map _ _ _ default [] hi, ListAux.getD_map _ _ _ default [] hi]
  exact List.mem_map.mpr ⟨_, ListAux.getD_mem _ _ default hi, rfl⟩

/-- in a concept lattice the extents grow exactly where the intents shrink -/
theorem IsLatticeOf.upperCovers_exts {t : Table} {L : Lat} (h : IsLatticeOf t L) {i : Nat}
    (hi : i < L.concepts.length) : upperCovers L.exts i = lowerCovers L.ints i :=
  upperCovers_eq_lowerCovers_of_dual (exts_length L) (ints_length L) (fun _ _ ha hb =>
    ssubset_concept_dual t ((h.concepts _ _).mp (pair_mem L ha)) ((h.concepts _ _).mp (pair_mem L hb))) hi

theorem IsLatticeOf.mem_children {t : Table} {L : Lat} (h : IsLatticeOf t L) {i j : Nat} :
    (∃ p ∈ L.children, i ∈ p.2 ∧ j = p.1) ↔ j < L.concepts.length ∧ i ∈ lowerCovers L.exts j := by
  constructor
  · rintro ⟨⟨k, vs⟩, hp, hin, rfl⟩
    exact ⟨h.keys _ vs hp, (h.covers _ vs hp i).mp hin⟩
  · rintro ⟨hj, hin⟩
    obtain ⟨vs, hvs⟩ := h.total j hj
    exact ⟨(j, vs), hvs, (h.covers j vs hvs i).mpr hin, rfl⟩

theorem latT_pairs (L : Lat) (A B : List Nat) : (B, A) ∈ (latT L).pairs ↔ (A, B) ∈ L.pairs := by
  simp only [latT, Lat.pairs, List.map_map, List.mem_map, Function.comp, conceptT, Prod.mk.injEq]
  exact exists_congr fun c => and_congr_right fun _ => and_comm

theorem latT_exts (L : Lat) : (latT L).exts = L.ints := List.map_map ..
theorem latT_ints (L : Lat) : (latT L).ints = L.exts := List.map_map ..

theorem isLatticeOf_latT (t : Table) (hwf : t.WF) (L : Lat) (h : IsLatticeOf t L) :
    IsLatticeOf (transpose t) (latT L) := by
  obtain ⟨hk, ht, hc⟩ := map_range_covers (L := latT L) rfl (List.length_map _)
    (cov := lowerCovers (latT L).exts) fun i hi j => by
      rw [latT_exts, ← h.upperCovers_exts hi, mem_transposeHierarchy, h.mem_children, ← exts_length]
      exact (mem_upperCovers_iff L.exts ((exts_length L).symm ▸ hi)).symm
  exact ⟨fun B A => by rw [latT_pairs, h.concepts, isConcept_transpose t hwf], hk, ht, hc⟩

def specLat (t : Table) : Lat :=
  let cs := allConcepts t
  ⟨cs.map fun p => ⟨p.1, [], p.2, [], none, false⟩,
   (List.range cs.length).map fun i => (i, lowerCovers (cs.map (·.1)) i), false⟩

theorem fromContextMonotone_pairs (K : Ctx) (hash : Int) (L : Lat) :
    (fromContextMonotone K hash L).pairs = L.pairs.map fun p => (compl K.nObjects p.1, p.2) := by
  rw [Lat.pairs, Lat.pairs, fromContextMonotone, List.map_map, List.map_map]
  rfl

theorem fromContextMonotone_exts (K : Ctx) (hash : Int) (L : Lat) :
    (fromContextMonotone K hash L).exts = L.exts.map (compl K.nObjects) := by
  rw [Lat.exts, Lat.exts, fromContextMonotone, List.map_map, List.map_map]
  rfl

theorem monoLowerCovers_map_compl (n : Nat) (exts : List (List Nat))
    (hin : ∀ e ∈ exts, ∀ g ∈ e, g < n) {i : Nat} (hi : i < exts.length) :
    monoLowerCovers (exts.map (compl n)) i = lowerCovers exts i :=
  upperCovers_eq_lowerCovers_of_dual (List.length_map _) rfl (fun a b ha hb => by
    rw [ListAux.getD_map _ _ _ [] [] ha, ListAux.getD_map _ _ _ [] [] hb]
    exact ssubset_compl (hin _ (ListAux.getD_mem _ _ [] ha)) (hin _ (ListAux.getD_mem _ _ [] hb))) hi

theorem isMonoLatticeOf_fromContextMonotone (K : Ctx) (hwf : K.table.WF) (hash : Int) (L : Lat)
    (h : IsLatticeOf (complement K.table) L) :
    IsMonoLatticeOf K.table (fromContextMonotone K hash L) := by
  have hin : ∀ e ∈ L.exts, ∀ g ∈ e, g < K.nObjects := by
    intro e he g hg
    obtain ⟨c, hc, rfl⟩ := List.mem_map.mp he
    exact Nat.lt_of_lt_of_eq (isConcept_extent_lt ((h.concepts c.extI c.intI).mp (List.mem_map.mpr ⟨c, hc, rfl⟩)) g hg)
      (complement_height K.table)
  obtain ⟨hk, ht, hc⟩ := map_range_covers (L := fromContextMonotone K hash L) rfl (List.length_map _)
    (cov := monoLowerCovers (fromContextMonotone K hash L).exts) fun i hi j => by
      rw [fromContextMonotone_exts, monoLowerCovers_map_compl _ _ hin (by rw [exts_length]; exact hi)]
      exact mem_dget_children h.total h.covers hi j
  refine ⟨fun A B => ?_, hk, ht, hc, rfl, fun c hc => ?_⟩
  · rw [fromContextMonotone_pairs, isMonoConcept_iff]
    exact mem_map_compl_iff K.table hwf h.concepts
  obtain ⟨c0, _, rfl⟩ := List.mem_map.mp hc
  rfl

theorem sameSet_iff (xs ys : List (List Nat × List Nat)) :
    sameSet xs ys = true ↔ ∀ p, p ∈ xs ↔ p ∈ ys := ListAux.all_contains_and_iff xs ys

theorem relOK_iff (f : List (List Nat) → Nat → List Nat) (exts rel : List (List Nat)) :
    relOK f exts rel = true ↔
      rel.length = exts.length ∧ ∀ i, i < exts.length → ∀ j, (j ∈ rel.getD i [] ↔ j ∈ f exts i) := by
  rw [relOK, Bool.and_eq_true, beq_iff_eq, List.all_eq_true]
  exact and_congr_right fun _ => forall_congr' fun i => imp_congr List.mem_range (ListAux.all_contains_and_iff _ _)

end Fca.Dual
