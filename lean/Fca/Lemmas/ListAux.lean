/-
  Facts about lists that several topics share: what core leaves unsaid about reads with a default, duplicate-free
  lists (the pigeonhole), permutations of `range n`, ascending lists and folds; and the Python idioms the models spell
  out (`sorted`, `set(a) == set(b)`, `s | {x}`, `itertools.combinations`, `del l[k]`, `d[k] = v`), each once, stated over the
  equations or the test that recognise it and not over one model's function, so that every model is an instance.
-/
namespace Fca.ListAux

theorem getD_eq_get {α} (l : List α) (i : Nat) (d : α) (h : i < l.length) : l.getD i d = l[i] :=
  (List.getElem_eq_getD d).symm

theorem getD_mem {α} (l : List α) (i : Nat) (d : α) (h : i < l.length) : l.getD i d ∈ l := by
  rw [getD_eq_get l i d h]; exact List.getElem_mem h

theorem getD_idxOf_self {α} [BEq α] [LawfulBEq α] (l : List α) (c d : α) (h : c ∈ l) :
    l.getD (l.idxOf c) d = c := by
  have hlt : l.idxOf c < l.length := List.idxOf_lt_length_iff.mpr h
  rw [getD_eq_get _ _ _ hlt]
  exact List.getElem_idxOf hlt

theorem getD_set_eq {α} (l : List α) (i : Nat) (x d : α) (h : i < l.length) :
    (l.set i x).getD i d = x := by
  rw [getD_eq_get _ _ _ (by rw [List.length_set]; exact h), List.getElem_set_self]

theorem getD_set_ne {α} (l : List α) (i j : Nat) (x d : α) (h : i ≠ j) :
    (l.set i x).getD j d = l.getD j d := by
  rw [List.getD_eq_getElem?_getD, List.getD_eq_getElem?_getD, List.getElem?_set_ne h]

theorem getD_map {α β} (f : α → β) (l : List α) (i : Nat) (d : α) (e : β) (h : i < l.length) :
    (l.map f).getD i e = f (l.getD i d) := by
  rw [getD_eq_get _ _ _ (by rw [List.length_map]; exact h), getD_eq_get _ _ _ h, List.getElem_map]

theorem getD_map_range {α} (f : Nat → α) (n i : Nat) (d : α) (h : i < n) :
    ((List.range n).map f).getD i d = f i := by
  rw [getD_map f _ i 0 d (by rw [List.length_range]; exact h),
    getD_eq_get _ _ _ (by rw [List.length_range]; exact h), List.getElem_range]

theorem range_map_getD {α} (l : List α) (d : α) : (List.range l.length).map (fun i => l.getD i d) = l := by
  apply List.ext_getElem
  · rw [List.length_map, List.length_range]
  · intro i _ h
    rw [List.getElem_map, List.getElem_range, getD_eq_get l i d h]

theorem getD_of_ge {α} (l : List α) (i : Nat) (d : α) (h : l.length ≤ i) : l.getD i d = d := by
  rw [List.getD_eq_getElem?_getD, List.getElem?_eq_none h, Option.getD_none]

theorem getD_append_left {α} (l₁ l₂ : List α) (i : Nat) (d : α) (h : i < l₁.length) :
    (l₁ ++ l₂).getD i d = l₁.getD i d := by
  rw [List.getD_eq_getElem?_getD, List.getD_eq_getElem?_getD, List.getElem?_append_left h]

theorem getD_append_right {α} (l₁ l₂ : List α) (i : Nat) (d : α) (h : l₁.length ≤ i) :
    (l₁ ++ l₂).getD i d = l₂.getD (i - l₁.length) d := by
  rw [List.getD_eq_getElem?_getD, List.getD_eq_getElem?_getD, List.getElem?_append_right h]

theorem getD_append_length {α} (l : List α) (x : α) (r : List α) (d : α) : (l ++ x :: r).getD l.length d = x := by
  rw [getD_append_right _ _ _ _ (Nat.le_refl _), Nat.sub_self, List.getD_cons_zero]

theorem getD_map_default {α β} (f : α → β) (l : List α) (i : Nat) (d : α) :
    (l.map f).getD i (f d) = f (l.getD i d) := by
  rw [List.getD_eq_getElem?_getD, List.getD_eq_getElem?_getD, List.getElem?_map]
  cases l[i]? <;> rfl

theorem getD_replicate {α} (n i : Nat) (a d : α) (h : i < n) : (List.replicate n a).getD i d = a := by
  rw [List.getD_eq_getElem?_getD, List.getElem?_replicate_of_lt h, Option.getD_some]

theorem getD_replicate_self {α} (n i : Nat) (a : α) : (List.replicate n a).getD i a = a := by
  rw [List.getD_eq_getElem?_getD, List.getElem?_replicate]
  split <;> rfl

theorem getElem?_eq_some_getD {α} {l : List α} {i : Nat} (d : α) (h : i < l.length) : l[i]? = some (l.getD i d) := by
  rw [List.getElem?_eq_getElem h, getD_eq_get l i d h]

theorem getD_set {α} (t : List α) (i : Nat) (b d : α) (i' : Nat) :
    (t.set i b).getD i' d = if i' = i ∧ i < t.length then b else t.getD i' d := by
  rw [List.getD_eq_getElem?_getD, List.getD_eq_getElem?_getD, List.getElem?_set]
  by_cases h : i = i'
  · subst h; by_cases hl : i < t.length <;> simp [hl]
  · simp [h, Ne.symm h]

theorem zipIdx_map_eq_range_map {α β} (d : α) (f : α × Nat → β) (l : List α) :
    l.zipIdx.map f = (List.range l.length).map fun i => f (l.getD i d, i) := by
  apply List.ext_getElem
  · rw [List.length_map, List.length_map, List.length_zipIdx, List.length_range]
  · intro i h1 h2
    rw [List.length_map, List.length_zipIdx] at h1
    rw [List.getElem_map, List.getElem_map, List.getElem_zipIdx, List.getElem_range, Nat.zero_add,
      getD_eq_get l i d h1]

/-- position in `l` of the element at position `i` of `l.eraseIdx k` -/
def upIdx (k i : Nat) : Nat := if i < k then i else i + 1

theorem upIdx_ne (k i : Nat) : upIdx k i ≠ k := by
  unfold upIdx
  by_cases h : i < k
  · rw [if_pos h]; exact Nat.ne_of_lt h
  · rw [if_neg h]; exact Nat.ne_of_gt (Nat.lt_succ_of_le (Nat.le_of_not_lt h))

theorem upIdx_lt {k i n : Nat} (hk : k < n) (hi : i < n - 1) : upIdx k i < n := by
  unfold upIdx
  by_cases h : i < k
  · rw [if_pos h]; exact Nat.lt_trans h hk
  · rw [if_neg h]; exact Nat.add_lt_of_lt_sub hi

theorem getElem?_eraseIdx_upIdx {α} (l : List α) (k i : Nat) : (l.eraseIdx k)[i]? = l[upIdx k i]? := by
  unfold upIdx
  rw [List.getElem?_eraseIdx]
  split <;> rfl

/-! ### lists as sets: `set(a) == set(b)`, `a | b`, `s | {x}` -/

/-- mutual containment, as every `set(a) == set(b)` of the models and oracles is written -/
theorem all_contains_and_iff {α} [BEq α] [LawfulBEq α] (a b : List α) :
    (a.all (b.contains ·) && b.all (a.contains ·)) = true ↔ ∀ x, x ∈ a ↔ x ∈ b := by
  simp only [Bool.and_eq_true, List.all_eq_true, List.contains_iff_mem]
  exact ⟨fun h x => ⟨h.1 x, h.2 x⟩, fun h => ⟨fun x => (h x).mp, fun x => (h x).mpr⟩⟩

theorem all_eq_of_mem_iff {α} {l l' : List α} (h : ∀ x, x ∈ l ↔ x ∈ l') (p : α → Bool) : l.all p = l'.all p := by
  rw [Bool.eq_iff_iff, List.all_eq_true, List.all_eq_true]
  exact ⟨fun H a ha => H a ((h a).mpr ha), fun H a ha => H a ((h a).mp ha)⟩

theorem any_eq_of_mem_iff {α} {l l' : List α} (h : ∀ x, x ∈ l ↔ x ∈ l') (p : α → Bool) : l.any p = l'.any p := by
  rw [Bool.eq_iff_iff, List.any_eq_true, List.any_eq_true]
  exact ⟨fun ⟨a, ha, hp⟩ => ⟨a, (h a).mp ha, hp⟩, fun ⟨a, ha, hp⟩ => ⟨a, (h a).mpr ha, hp⟩⟩

theorem all_congr_of_mem {α} {l : List α} {p q : α → Bool} (h : ∀ x ∈ l, p x = q x) : l.all p = l.all q := by
  rw [Bool.eq_iff_iff, List.all_eq_true, List.all_eq_true]
  exact forall₂_congr fun x hx => by rw [h x hx]

theorem any_congr_of_mem {α} {l : List α} {p q : α → Bool} (h : ∀ x ∈ l, p x = q x) : l.any p = l.any q := by
  rw [Bool.eq_iff_iff, List.any_eq_true, List.any_eq_true]
  exact exists_congr fun x => and_congr_right fun hx => by rw [h x hx]

theorem filter_eq_of_same_mem {α} {l : List α} {p q : α → Bool} (h : ∀ g, g ∈ l.filter p ↔ g ∈ l.filter q) :
    l.filter p = l.filter q :=
  List.filter_congr fun g hg => Bool.eq_iff_iff.mpr (by simpa only [List.mem_filter, hg, true_and] using h g)

theorem mem_append_filter_not_contains {α} [BEq α] [LawfulBEq α] {a b : List α} {x : α} :
    x ∈ a ++ b.filter (fun y => !a.contains y) ↔ x ∈ a ∨ x ∈ b := by
  rw [List.mem_append, List.mem_filter, Bool.not_eq_true', List.contains_eq_mem, decide_eq_false_iff_not]
  exact ⟨fun h => h.imp_right And.left, fun h => (Classical.em (x ∈ a)).elim Or.inl fun hx => h.imp_right (⟨·, hx⟩)⟩

/-- `s | {x}` on an insertion-ordered set; `c` is the membership test as the model spells it (`s.contains x`, `x ∈ s`) -/
theorem mem_addNew {α} {s : List α} {x y : α} {c : Prop} [Decidable c] (hc : c ↔ x ∈ s) :
    y ∈ (if c then s else s ++ [x]) ↔ y ∈ s ∨ y = x := by
  split
  · rename_i h
    exact ⟨Or.inl, fun h' => h'.elim id fun e => e ▸ hc.mp h⟩
  · rw [List.mem_append, List.mem_singleton]

theorem nodup_addNew {α} {s : List α} {x : α} {c : Prop} [Decidable c] (hc : c ↔ x ∈ s) (h : s.Nodup) :
    (if c then s else s ++ [x]).Nodup := by
  split
  · exact h
  · rename_i hn
    exact List.nodup_append.mpr ⟨h, List.pairwise_singleton _ x, fun a ha b hb e =>
      hn (hc.mpr (List.mem_singleton.mp hb ▸ e ▸ ha))⟩

theorem nodup_map_of_injOn {α β} {f : α → β} {l : List α} (hl : l.Nodup)
    (hf : ∀ a ∈ l, ∀ b ∈ l, f a = f b → a = b) : (l.map f).Nodup :=
  List.pairwise_map.mpr (hl.imp_of_mem fun ha hb hab e => hab (hf _ ha _ hb e))

theorem nodup_append_singleton {α} {l : List α} {a : α} : (l ++ [a]).Nodup ↔ a ∉ l ∧ l.Nodup :=
  (List.perm_append_singleton a l).nodup_iff.trans List.nodup_cons

theorem eq_singleton_of_nodup {α} {l : List α} {k : α} (hnd : l.Nodup) (h : ∀ x, x ∈ l ↔ x = k) : l = [k] :=
  List.perm_singleton.mp
    ((List.perm_ext_iff_of_nodup hnd (List.pairwise_singleton _ k)).mpr fun x => (h x).trans List.mem_singleton.symm)

theorem eraseDups_length_pos {α} [BEq α] {l : List α} : 0 < l.eraseDups.length ↔ l ≠ [] := by
  cases l with
  | nil => exact ⟨fun h => (nomatch h), fun h => absurd rfl h⟩
  | cons a as => rw [List.eraseDups_cons]; exact ⟨fun _ => List.cons_ne_nil _ _, fun _ => Nat.succ_pos _⟩

theorem nodup_eraseDups {α} [BEq α] [LawfulBEq α] (l : List α) : l.eraseDups.Nodup := by
  generalize hk : l.length = k
  induction k using Nat.strongRecOn generalizing l with
  | _ k ih =>
    cases l with
    | nil => exact List.nodup_nil
    | cons a as =>
      rw [List.eraseDups_cons, List.nodup_cons]
      refine ⟨fun hmem => ?_, ih _ (hk ▸ Nat.lt_succ_of_le (List.length_filter_le _ as)) _ rfl⟩
      have := (List.mem_filter.mp (List.mem_eraseDups.mp hmem)).2
      rw [beq_self_eq_true] at this
      cases this

theorem length_lt_of_subset_of_not_mem {α} {a b : List α} (hnd : a.Nodup) (hsub : ∀ g ∈ a, g ∈ b) {x : α}
    (hxb : x ∈ b) (hxa : x ∉ a) : a.length < b.length :=
  List.Nodup.length_le_of_subset (l₁ := x :: a) (List.nodup_cons.mpr ⟨hxa, hnd⟩)
    (List.forall_mem_cons.mpr ⟨hxb, hsub⟩)

theorem subset_of_nodup_of_length_le {α} {a b : List α} (ha : a.Nodup) (hab : a ⊆ b)
    (hlen : b.length ≤ a.length) : b ⊆ a :=
  fun _ hx => Classical.byContradiction fun hxa =>
    Nat.not_lt.mpr hlen (length_lt_of_subset_of_not_mem ha hab hx hxa)

theorem length_lt_of_subset_of_not_subset {α} {a b : List α} (hnd : a.Nodup) (hsub : ∀ g ∈ a, g ∈ b)
    (hn : ¬ ∀ g ∈ b, g ∈ a) : a.length < b.length :=
  Nat.lt_of_not_le fun h => hn fun _ hg => subset_of_nodup_of_length_le hnd hsub h hg

theorem perm_of_nodup_of_subset_of_length_le {α} {a b : List α} (ha : a.Nodup) (hb : b.Nodup) (hab : a ⊆ b)
    (hlen : b.length ≤ a.length) : a.Perm b :=
  (List.perm_ext_iff_of_nodup ha hb).mpr fun _ => ⟨@hab _, @subset_of_nodup_of_length_le _ _ _ ha hab hlen _⟩

theorem length_le_of_nodup_of_lt {l : List Nat} {n : Nat} (hnd : l.Nodup) (hlt : ∀ x ∈ l, x < n) :
    l.length ≤ n :=
  List.length_range (n := n) ▸ hnd.length_le_of_subset fun x hx => List.mem_range.mpr (hlt x hx)

theorem perm_range_of_nodup {l : List Nat} {n : Nat} (hnd : l.Nodup) (hlt : ∀ x ∈ l, x < n)
    (hlen : n ≤ l.length) : l.Perm (List.range n) :=
  perm_of_nodup_of_subset_of_length_le hnd List.nodup_range (fun x hx => List.mem_range.mpr (hlt x hx))
    (List.length_range ▸ hlen)

theorem length_filter_or_two_le {α} [BEq α] [LawfulBEq α] (p : α → Bool) (a b : α) {l : List α} (hnd : l.Nodup) :
    (l.filter fun k => p k || k == a || k == b).length ≤ (l.filter p).length + 2 := by
  -- the kept elements are distinct members of `l.filter p ++ [a, b]`
  refine Nat.le_trans ((hnd.sublist List.filter_sublist).length_le_of_subset (l₂ := l.filter p ++ [a, b])
    fun k hk => ?_) (Nat.le_of_eq List.length_append)
  obtain ⟨hl, hq⟩ := List.mem_filter.mp hk
  rw [Bool.or_eq_true, Bool.or_eq_true, beq_iff_eq, beq_iff_eq] at hq
  rw [List.mem_append, List.mem_filter, List.mem_cons, List.mem_singleton]
  exact hq.elim (fun h => h.elim (fun hp => Or.inl ⟨hl, hp⟩) fun h => Or.inr (Or.inl h)) fun h => Or.inr (Or.inr h)

/-! ### a permutation `p` of `range n`, read by `p.getD · 0` -/

section
variable {p : List Nat} {n : Nat}

theorem length_of_perm_range (h : p.Perm (List.range n)) : p.length = n := by
  rw [h.length_eq, List.length_range]

theorem mem_of_perm_range (h : p.Perm (List.range n)) {i : Nat} : i ∈ p ↔ i < n := by
  rw [h.mem_iff, List.mem_range]

theorem getD_lt_of_perm_range (h : p.Perm (List.range n)) {k : Nat} (hk : k < n) : p.getD k 0 < n :=
  (mem_of_perm_range h).mp (getD_mem _ _ _ (by rw [length_of_perm_range h]; exact hk))

theorem exists_getD_of_perm_range (h : p.Perm (List.range n)) {i : Nat} (hi : i < n) :
    ∃ k, k < n ∧ p.getD k 0 = i := by
  obtain ⟨k, hk, hki⟩ := List.getElem_of_mem ((mem_of_perm_range h).mpr hi)
  exact ⟨k, by rw [← length_of_perm_range h]; exact hk, (getD_eq_get _ _ _ hk).trans hki⟩

theorem idxOf_getD_of_perm_range (h : p.Perm (List.range n)) {k : Nat} (hk : k < n) : p.idxOf (p.getD k 0) = k := by
  have hl : k < p.length := (length_of_perm_range h).symm ▸ hk
  rw [getD_eq_get _ _ _ hl]
  exact (h.nodup_iff.mpr List.nodup_range).idxOf_getElem k hl

theorem getD_inj_of_perm_range (h : p.Perm (List.range n)) {k k' : Nat} (hk : k < n) (hk' : k' < n)
    (e : p.getD k 0 = p.getD k' 0) : k = k' := by
  rw [← idxOf_getD_of_perm_range h hk, e, idxOf_getD_of_perm_range h hk']

end

theorem map_idxOf_perm_range {α} [BEq α] [LawfulBEq α] {l l' : List α} (hp : l'.Perm l) (hnd : l.Nodup) :
    (l.map l'.idxOf).Perm (List.range l.length) := by
  have hlt : ∀ x ∈ l, l'.idxOf x < l'.length := fun x hx => List.idxOf_lt_length_of_mem (hp.mem_iff.mpr hx)
  refine perm_range_of_nodup (nodup_map_of_injOn hnd fun x hx y hy e => ?_) (fun t ht => ?_)
    (Nat.le_of_eq (List.length_map ..).symm)
  · rw [← List.getElem_idxOf (hlt x hx), ← List.getElem_idxOf (hlt y hy)]
    simp only [e]
  · obtain ⟨x, hx, rfl⟩ := List.mem_map.mp ht
    exact hp.length_eq ▸ hlt x hx

theorem sorted_ext {l₁ l₂ : List Nat} (h₁ : l₁.Pairwise (· < ·)) (h₂ : l₂.Pairwise (· < ·))
    (h : ∀ x, x ∈ l₁ ↔ x ∈ l₂) : l₁ = l₂ :=
  ((List.perm_ext_iff_of_nodup (h₁.imp Nat.ne_of_lt) (h₂.imp Nat.ne_of_lt)).mpr h).eq_of_pairwise
    (fun _ _ _ _ hab hba => absurd hab (Nat.lt_asymm hba)) h₁ h₂

theorem mergeSort_le_eq {e s : List Nat} (hnd : e.Nodup) (hs : s.Pairwise (· < ·))
    (hmem : ∀ g, g ∈ e ↔ g ∈ s) : e.mergeSort (fun a b => decide (a ≤ b)) = s := by
  have hperm := List.mergeSort_perm e (fun a b => decide (a ≤ b))
  have hsorted : (e.mergeSort fun a b => decide (a ≤ b)).Pairwise (fun a b => decide (a ≤ b) = true) :=
    List.pairwise_mergeSort (le := fun a b => decide (a ≤ b))
      (fun _ _ _ hab hbc => decide_eq_true (Nat.le_trans (of_decide_eq_true hab) (of_decide_eq_true hbc)))
      (fun a b => by rw [Bool.or_eq_true, decide_eq_true_eq, decide_eq_true_eq]; exact Nat.le_total a b) e
  refine sorted_ext ((hsorted.and (hperm.nodup_iff.mpr hnd)).imp fun hab => ?_) hs fun x =>
    hperm.mem_iff.trans (hmem x)
  exact Nat.lt_of_le_of_ne (of_decide_eq_true hab.1) hab.2

theorem pairwise_getElem_iff {α} {r : α → α → Prop} (hasymm : ∀ a b, r a b → ¬ r b a) {l : List α}
    (hs : l.Pairwise r) {a b : Nat} (ha : a < l.length) (hb : b < l.length) : r l[a] l[b] ↔ a < b := by
  refine ⟨fun h => Nat.lt_of_not_le fun hba => ?_, List.pairwise_iff_getElem.mp hs a b ha hb⟩
  rcases Nat.lt_or_eq_of_le hba with hlt | rfl
  · exact hasymm _ _ h (List.pairwise_iff_getElem.mp hs b a hb ha hlt)
  · exact hasymm _ _ h h

/-- `srt` is the insertion sort for `le` with insertion function `ins` (stable: a new element goes in front of
    the first element it is `le` to) -/
structure IsInsertionSort {α} (le : α → α → Prop) [DecidableRel le] (ins : α → List α → List α)
    (srt : List α → List α) : Prop where
  ins_nil : ∀ x, ins x [] = [x]
  ins_cons : ∀ x y ys, ins x (y :: ys) = if le x y then x :: y :: ys else y :: ins x ys
  srt_nil : srt [] = []
  srt_cons : ∀ x xs, srt (x :: xs) = ins x (srt xs)

namespace IsInsertionSort
variable {α : Type} {le : α → α → Prop} [DecidableRel le] {ins : α → List α → List α} {srt : List α → List α}

theorem ins_perm (h : IsInsertionSort le ins srt) (x : α) (l : List α) : (ins x l).Perm (x :: l) := by
  induction l with
  | nil => rw [h.ins_nil]
  | cons y ys ih =>
    rw [h.ins_cons]
    split
    · exact List.Perm.refl _
    · exact (ih.cons y).trans (List.Perm.swap x y ys)

theorem perm (h : IsInsertionSort le ins srt) (l : List α) : (srt l).Perm l := by
  induction l with
  | nil => rw [h.srt_nil]
  | cons x xs ih => rw [h.srt_cons]; exact (h.ins_perm x _).trans (ih.cons x)

theorem mem_iff (h : IsInsertionSort le ins srt) (l : List α) (x : α) : x ∈ srt l ↔ x ∈ l := (h.perm l).mem_iff

theorem length_eq (h : IsInsertionSort le ins srt) (l : List α) : (srt l).length = l.length := (h.perm l).length_eq

/-- an insertion sort also sorts by every transitive relation `r` that its comparison refines: `le` only has to
    decide `r` one way (a lexicographic comparison whose first component is what `r` looks at) -/
theorem ins_pairwise (h : IsInsertionSort le ins srt) {r : α → α → Prop} (hle : ∀ a b, le a b → r a b)
    (hnle : ∀ a b, ¬ le a b → r b a) (htr : ∀ a b c, r a b → r b c → r a c) (x : α) (l : List α)
    (hl : l.Pairwise r) : (ins x l).Pairwise r := by
  induction l with
  | nil => rw [h.ins_nil]; exact List.pairwise_singleton _ _
  | cons y ys ih =>
    obtain ⟨hy, hys⟩ := List.pairwise_cons.mp hl
    rw [h.ins_cons]
    by_cases hxy : le x y
    · rw [if_pos hxy]
      refine List.pairwise_cons.mpr ⟨fun z hz => ?_, hl⟩
      rcases List.mem_cons.mp hz with rfl | hz
      · exact hle _ _ hxy
      · exact htr _ _ _ (hle _ _ hxy) (hy z hz)
    · rw [if_neg hxy]
      refine List.pairwise_cons.mpr ⟨fun z hz => ?_, ih hys⟩
      rcases List.mem_cons.mp ((h.ins_perm x ys).mem_iff.mp hz) with rfl | hz
      · exact hnle _ _ hxy
      · exact hy z hz

theorem pairwise (h : IsInsertionSort le ins srt) {r : α → α → Prop} (hle : ∀ a b, le a b → r a b)
    (hnle : ∀ a b, ¬ le a b → r b a) (htr : ∀ a b c, r a b → r b c → r a c) (l : List α) :
    (srt l).Pairwise r := by
  induction l with
  | nil => rw [h.srt_nil]; exact List.Pairwise.nil
  | cons x xs ih => rw [h.srt_cons]; exact h.ins_pairwise hle hnle htr x _ ih

theorem sorted (h : IsInsertionSort le ins srt) (htot : ∀ a b, ¬ le a b → le b a)
    (htr : ∀ a b c, le a b → le b c → le a c) (l : List α) : (srt l).Pairwise le :=
  h.pairwise (fun _ _ hab => hab) htot htr l

theorem eq_of_perm (h : IsInsertionSort le ins srt) (htot : ∀ a b, ¬ le a b → le b a)
    (htr : ∀ a b c, le a b → le b c → le a c) (hanti : ∀ a b, le a b → le b a → a = b) {l l' : List α}
    (hp : l.Perm l') : srt l = srt l' :=
  ((h.perm l).trans (hp.trans (h.perm l').symm)).eq_of_pairwise (fun _ _ _ _ => hanti _ _)
    (h.sorted htot htr l) (h.sorted htot htr l')

theorem sorted_lt {β : Type} {lt : β → β → Prop} {key : α → β} (h : IsInsertionSort le ins srt)
    (htot : ∀ a b, ¬ le a b → le b a) (htr : ∀ a b c, le a b → le b c → le a c)
    {l : List α} (hnd : l.Nodup) (hlt : ∀ a ∈ l, ∀ b ∈ l, le a b → a ≠ b → lt (key a) (key b)) :
    ((srt l).map key).Pairwise lt := by
  rw [List.pairwise_map]
  have hp := h.perm l
  refine List.Pairwise.imp_of_mem ?_ ((h.sorted htot htr l).and (hp.nodup_iff.mpr hnd))
  intro a b ha hb hab
  exact hlt a (hp.mem_iff.mp ha) b (hp.mem_iff.mp hb) hab.1 hab.2

theorem ins_append (h : IsInsertionSort le ins srt) (a : α) (l₁ l₂ : List α)
    (h1 : ∀ b ∈ l₁, ¬ le a b) (h2 : ∀ c ∈ l₂, le a c) : ins a (l₁ ++ l₂) = l₁ ++ a :: l₂ := by
  induction l₁ with
  | nil =>
    cases l₂ with
    | nil => exact h.ins_nil a
    | cons c l₂ => exact (h.ins_cons a c l₂).trans (if_pos (h2 c List.mem_cons_self))
  | cons b l₁ ih =>
    exact (h.ins_cons a b _).trans ((if_neg (h1 b List.mem_cons_self)).trans
      (congrArg (b :: ·) (ih fun x hx => h1 x (List.mem_cons_of_mem _ hx))))

/-- `mergeSort` too puts a new head behind exactly the elements it is not `le` to -/
theorem mergeSort_eq {le : α → α → Bool} {ins : α → List α → List α}
    {srt : List α → List α} (h : IsInsertionSort (fun a b => le a b = true) ins srt)
    (trans : ∀ a b c : α, le a b → le b c → le a c) (total : ∀ a b : α, le a b || le b a) :
    ∀ l : List α, l.mergeSort le = srt l
  | [] => List.mergeSort_nil.trans h.srt_nil.symm
  | a :: l => by
    obtain ⟨l₁, l₂, hal, hl, hlt⟩ := List.mergeSort_cons trans total a l
    have hs := List.pairwise_mergeSort trans total (a :: l)
    rw [hal] at hs ⊢
    rw [h.srt_cons, ← mergeSort_eq h trans total l, hl]
    refine (h.ins_append a l₁ l₂ (fun b hb => ?_) fun c hc => ?_).symm
    · exact Bool.not_eq_true _ ▸ Bool.not_eq_true' _ ▸ hlt b hb
    · exact (List.pairwise_cons.mp (List.pairwise_append.mp hs).2.1).1 c hc

end IsInsertionSort

theorem foldl_inv {σ α : Type} {step : σ → α → σ} {I : σ → Prop} (hstep : ∀ s a, I s → I (step s a))
    (l : List α) (s : σ) (h : I s) : I (l.foldl step s) :=
  List.foldlRecOn l step h fun s hs a _ => hstep s a hs

theorem foldl_iff {σ α} {step : σ → α → σ} {m : σ → Prop} {q : α → Prop}
    (hstep : ∀ s a, m (step s a) ↔ m s ∨ q a) (l : List α) (s : σ) :
    m (l.foldl step s) ↔ m s ∨ ∃ a ∈ l, q a := by
  induction l generalizing s with
  | nil => exact ⟨Or.inl, fun h => h.elim id fun ⟨_, h, _⟩ => nomatch h⟩
  | cons a rest ih =>
    rw [List.foldl_cons, ih, hstep, or_assoc]
    simp only [List.mem_cons, exists_eq_or_imp]

theorem mem_foldl_union {α β} (u : List α → List α → List α) (hu : ∀ a b x, x ∈ u a b ↔ x ∈ a ∨ x ∈ b)
    (f : β → List α) (gs : List β) (acc : List α) (x : α) :
    x ∈ gs.foldl (fun acc g => u acc (f g)) acc ↔ x ∈ acc ∨ ∃ g ∈ gs, x ∈ f g :=
  foldl_iff (m := (x ∈ ·)) (q := fun g => x ∈ f g) (fun s g => hu s (f g) x) gs acc

/-- a loop whose state has a part `proj s` that each step keeps or replaces by the key of the element, never
    going above (in `le`) either: that part ends as a lower bound of its start and of all keys, and is one of them -/
theorem foldl_pick_spec {σ α β} (le : β → β → Prop) (refl : ∀ a, le a a) (trans : ∀ {a b c}, le a b → le b c → le a c)
    (proj : σ → β) (key : α → β) (step : σ → α → σ)
    (hacc : ∀ s a, le (proj (step s a)) (proj s)) (hkey : ∀ s a, le (proj (step s a)) (key a))
    (hsel : ∀ s a, proj (step s a) = proj s ∨ proj (step s a) = key a) (l : List α) (s : σ) :
    le (proj (l.foldl step s)) (proj s) ∧ (∀ a ∈ l, le (proj (l.foldl step s)) (key a)) ∧
      (proj (l.foldl step s) = proj s ∨ ∃ a ∈ l, proj (l.foldl step s) = key a) := by
  induction l generalizing s with
  | nil => exact ⟨refl _, fun _ h => (nomatch h), Or.inl rfl⟩
  | cons a l ih =>
    obtain ⟨h1, h2, h3⟩ := ih (step s a)
    rw [List.foldl_cons]
    refine ⟨trans h1 (hacc s a), fun a' ha' => ?_, ?_⟩
    · rcases List.mem_cons.mp ha' with rfl | ha'
      · exact trans h1 (hkey s a')
      · exact h2 a' ha'
    · rcases h3 with e | ⟨a', ha', e⟩
      · exact (hsel s a).elim (fun e' => Or.inl (e.trans e')) fun e' => Or.inr ⟨a, List.mem_cons_self, e.trans e'⟩
      · exact Or.inr ⟨a', List.mem_cons_of_mem _ ha', e⟩

theorem le_foldl {op : Nat → Nat → Nat} (hl : ∀ a b, a ≤ op a b) (hr : ∀ a b, b ≤ op a b) (l : List Nat) (a : Nat) :
    a ≤ l.foldl op a ∧ ∀ x ∈ l, x ≤ l.foldl op a := by
  induction l generalizing a with
  | nil => exact ⟨Nat.le_refl _, nofun⟩
  | cons y ys ih =>
    obtain ⟨h1, h2⟩ := ih (op a y)
    exact ⟨Nat.le_trans (hl a y) h1, List.forall_mem_cons.mpr ⟨Nat.le_trans (hr a y) h1, h2⟩⟩

theorem le_foldl_max (l : List Nat) (a : Nat) : a ≤ l.foldl max a ∧ ∀ x ∈ l, x ≤ l.foldl max a :=
  le_foldl Nat.le_max_left Nat.le_max_right l a

theorem foldl_update_getD {α} (g : α → α) (d0 : α) :
    ∀ (l : List Nat) (D : List α), l.Nodup → (∀ s ∈ l, s < D.length) →
      (l.foldl (fun d s => d.set s (g (d.getD s d0))) D).length = D.length ∧
      ∀ i, (l.foldl (fun d s => d.set s (g (d.getD s d0))) D).getD i d0
        = if i ∈ l then g (D.getD i d0) else D.getD i d0 := by
  intro l
  induction l with
  | nil => intro D _ _; exact ⟨rfl, fun i => by simp⟩
  | cons s rest ih =>
    intro D hnd hlt
    have hnd' := List.nodup_cons.mp hnd
    have hs : s < D.length := hlt s (List.mem_cons_self ..)
    obtain ⟨ih1, ih2⟩ := ih (D.set s (g (D.getD s d0))) hnd'.2
      (fun x hx => by rw [List.length_set]; exact hlt x (List.mem_cons_of_mem _ hx))
    rw [List.foldl_cons]
    refine ⟨by rw [ih1, List.length_set], fun i => ?_⟩
    rw [ih2 i]
    by_cases his : i = s
    · subst his
      rw [if_neg hnd'.1, if_pos (List.mem_cons_self ..), getD_set_eq _ _ _ _ hs]
    · rw [getD_set_ne _ _ _ _ _ (Ne.symm his)]
      simp only [List.mem_cons, his, false_or]

theorem mapM_eq_pure_map {m : Type _ → Type _} [Monad m] [LawfulMonad m] {α β} {f : α → m β} {g : α → β} (l : List α)
    (h : ∀ x ∈ l, f x = pure (g x)) : l.mapM f = pure (l.map g) := by
  induction l with
  | nil => exact List.mapM_nil
  | cons a as ih =>
    rw [List.mapM_cons, h a List.mem_cons_self, ih fun x hx => h x (List.mem_cons_of_mem _ hx), pure_bind, pure_bind,
      List.map_cons]

/-! ### a dictionary kept as an association list -/

theorem lookup_cons_ite {κ β : Type} [DecidableEq κ] (k : κ) (b : β) (es : List (κ × β)) (a : κ) :
    ((k, b) :: es).lookup a = if k = a then some b else es.lookup a := by
  rw [List.lookup_cons]
  by_cases h : k = a
  · rw [if_pos h, beq_iff_eq.mpr h.symm]
  · rw [if_neg h, beq_eq_false_iff_ne.mpr (Ne.symm h)]

/-- `get` is any function that reads the first match -/
theorem get_of_mem {κ β : Type} [DecidableEq κ] {get : List (κ × β) → κ → Option β}
    (get_cons : ∀ k' v' r j, get ((k', v') :: r) j = if k' = j then some v' else get r j)
    {d : List (κ × β)} {k : κ} {v : β} (hnd : (d.map (·.1)).Nodup) (h : (k, v) ∈ d) : get d k = some v := by
  induction d with
  | nil => exact nomatch h
  | cons p r ih =>
    have hnd' := List.nodup_cons.mp hnd
    rw [get_cons]
    rcases List.mem_cons.mp h with rfl | h'
    · exact if_pos rfl
    · rw [if_neg fun e => hnd'.1 (List.mem_map.mpr ⟨(k, v), h', e.symm⟩)]
      exact ih hnd'.2 h'

/-- `d[k] = v` followed by `d.get(j)`, for any `get` that reads the first match and any `set` that overwrites in
    place or appends: the models' dictionaries (`JV.lookup`/`JV.dictSet`, `alGet`/`alSet`, `List.lookup` with `LC.dset`
    or `Measures.dictSet`) satisfy the three equations by `rfl` or by unfolding `==` -/
theorem get_set {κ β : Type} [DecidableEq κ] {get : List (κ × β) → κ → Option β}
    {set : List (κ × β) → κ → β → List (κ × β)}
    (get_cons : ∀ k' v' r j, get ((k', v') :: r) j = if k' = j then some v' else get r j)
    (set_nil : ∀ k v, set [] k v = [(k, v)])
    (set_cons : ∀ k' v' r k v, set ((k', v') :: r) k v = if k' = k then (k', v) :: r else (k', v') :: set r k v)
    (d : List (κ × β)) (k : κ) (v : β) (j : κ) : get (set d k v) j = if j = k then some v else get d j := by
  induction d with
  | nil => rw [set_nil, get_cons]; exact ite_congr (propext eq_comm) (fun _ => rfl) fun _ => rfl
  | cons p r ih =>
    rw [set_cons]
    split <;> rename_i h <;> rw [get_cons, get_cons] <;> by_cases hj : j = k
    · rw [if_pos hj, if_pos (h.trans hj.symm)]
    · rw [if_neg hj, if_neg fun e => hj (e.symm.trans h), if_neg fun e => hj (e.symm.trans h)]
    · rw [ih, if_pos hj, if_neg fun e => h (e.trans hj), if_pos hj]
    · rw [ih, if_neg hj, if_neg hj]

/-! ### counting: `itertools.combinations` -/

theorem sum_map_add {α} (l : List α) (f g : α → Nat) :
    (l.map fun k => f k + g k).sum = (l.map f).sum + (l.map g).sum := by
  induction l with
  | nil => rfl
  | cons x xs ih =>
    simp only [List.map_cons, List.sum_cons, ih]
    exact Nat.add_add_add_comm ..

/-- the three equations of `itertools.combinations`, as each model writes it down for its element type -/
structure IsCombs {α} (cmb : List α → Nat → List (List α)) : Prop where
  zero : ∀ l, cmb l 0 = [[]]
  nil : ∀ k, cmb [] (k + 1) = []
  cons : ∀ x xs k, cmb (x :: xs) (k + 1) = (cmb xs k).map (x :: ·) ++ cmb xs (k + 1)

theorem IsCombs.mem {α} {cmb : List α → Nat → List (List α)} (H : IsCombs cmb) {l : List α} {k : Nat} {s : List α} :
    s ∈ cmb l k ↔ s.Sublist l ∧ s.length = k := by
  induction l generalizing k s with
  | nil =>
    cases k with
    | zero => rw [H.zero, List.mem_singleton, List.sublist_nil, List.length_eq_zero_iff, and_self]
    | succ k =>
      rw [H.nil, List.sublist_nil]
      exact ⟨fun h => (nomatch h), fun h => nomatch h.1 ▸ h.2⟩
  | cons x xs ih =>
    cases k with
    | zero =>
      rw [H.zero, List.mem_singleton, List.length_eq_zero_iff]
      exact ⟨fun h => ⟨h ▸ List.nil_sublist _, h⟩, fun h => h.2⟩
    | succ k =>
      rw [H.cons, List.mem_append, List.mem_map]
      constructor
      · rintro (⟨s', hs', rfl⟩ | h)
        · exact ⟨(ih.mp hs').1.cons_cons x, congrArg (· + 1) (ih.mp hs').2⟩
        · exact ⟨(ih.mp h).1.cons x, (ih.mp h).2⟩
      · rintro ⟨hsub, hlen⟩
        cases hsub with
        | cons _ h => exact Or.inr (ih.mpr ⟨h, hlen⟩)
        | cons_cons _ h => exact Or.inl ⟨_, ih.mpr ⟨h, Nat.succ.inj hlen⟩, rfl⟩

theorem IsCombs.count {α} {cmb : List α → Nat → List (List α)} (H : IsCombs cmb)
    (xs : List α) (N : Nat) (h : xs.length ≤ N) :
    ((List.range (N + 1)).map fun k => (cmb xs k).length).sum = 2 ^ xs.length := by
  induction xs generalizing N with
  | nil =>
    rw [List.range_succ_eq_map, List.map_cons, List.sum_cons, H.zero, List.map_map,
      List.sum_eq_zero_iff_forall_eq_nat.mpr fun y hy => ?_]
    · rfl
    · obtain ⟨k, _, rfl⟩ := List.mem_map.mp hy
      exact congrArg List.length (H.nil k)
  | cons x xs ih =>
    cases N with
    | zero => exact absurd h (Nat.not_succ_le_zero _)
    | succ M =>
      have h1 := ih M (Nat.le_of_succ_le_succ h)
      have h2 := ih (M + 1) (Nat.le_of_succ_le h)
      rw [List.range_succ_eq_map] at h2 ⊢
      simp only [List.map_cons, List.map_map, Function.comp_def, List.sum_cons, H.zero, H.cons,
        List.length_cons, List.length_nil, List.length_append, List.length_map, Nat.succ_eq_add_one] at h2 ⊢
      rw [sum_map_add, h1, Nat.pow_succ]
      omega

theorem exists_min_measure {α} (μ : α → Nat) {P : α → Prop} {a : α} (ha : P a) :
    ∃ a₀, P a₀ ∧ ∀ b, P b → μ a₀ ≤ μ b := by
  induction hn : μ a using Nat.strongRecOn generalizing a with
  | _ n ih =>
    by_cases h : ∃ b, P b ∧ μ b < n
    · obtain ⟨b, hb, hlt⟩ := h
      exact ih _ hlt hb rfl
    · exact ⟨a, ha, fun b hb => hn ▸ Nat.le_of_not_lt fun hlt => h ⟨b, hb, hlt⟩⟩

end Fca.ListAux
