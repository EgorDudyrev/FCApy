/-
  Whole histories: along every valid history the invariant is kept, the element list evolves as `next` says, and
  the outputs are those of fresh cache-free posets over the current elements.
-/
import Fca.Lemmas.PosetStep
namespace Fca.Poset
open Fca.Poset.Fresh

/-- what `step` shows of an answer that the model gives without touching the state -/
theorem outOf_of_run {α β : Type} {m : M α β} {s : St α} {r : Except PyErr β} (hm : m.run s = (s, r)) (f : β → Out)
    {o : Out} (h : outOf f (m.run s).2 = o) : outOf f r = o := by
  rw [hm] at h
  exact h

theorem InvB.self {α : Type} {leq : α → α → Bool} {E : List α} {c : Bool} {s : St α} (hnd : E.Nodup)
    (h : InvB leq E Ghost.none c s) : s.elems.Nodup ∧ InvB leq s.elems Ghost.none s.useCache s := by
  obtain rfl := h.elems
  obtain rfl := h.flag
  exact ⟨hnd, h⟩

/-- bit masks under inclusion, `a ⊆ b` as `a ∩ b = a`: idempotence, commutativity and associativity of `&&&` -/
theorem po_and_eq (U : Nat → Prop) : PO (fun a b : Nat => (a &&& b) == a) U := by
  refine ⟨fun a _ => ?_, fun a b _ _ h1 h2 => ?_, fun a b c _ _ _ h1 h2 => ?_⟩ <;> simp only [beq_iff_eq] at *
  · exact Nat.and_self a
  · rw [← h1, Nat.and_comm, h2]
  · rw [← h1, Nat.and_assoc, h2]

section
variable {α : Type} [DecidableEq α] {leq : α → α → Bool} {ord : List Nat → List Nat} {U : α → Prop}

def nextAll (E : List α) : List (Op α) → List α
  | [] => E
  | op :: ops => nextAll (next E op) ops

theorem run_spec (hpo : PO leq U) (hord : ∀ l, (ord l).Perm l) {c : Bool} (ops : List (Op α)) {E : List α}
    {s : St α} (hnd : E.Nodup) (hU : ∀ a ∈ E, U a) (h : InvB leq E Ghost.none c s)
    (hin : ∀ op ∈ ops, OpIn U op) (hok : opsOk E c ops = true) :
    InvB leq (nextAll E ops) Ghost.none c (run leq ord s ops).1 ∧ (nextAll E ops).Nodup ∧
      (∀ a ∈ nextAll E ops, U a) ∧ (run leq ord s ops).2 = runFresh leq E ops := by
  induction ops generalizing E s with
  | nil => exact ⟨h, hnd, hU, rfl⟩
  | cons op ops ih =>
    simp only [opsOk, Bool.and_eq_true] at hok
    have hin1 : OpIn U op := hin op List.mem_cons_self
    obtain ⟨hinv, hout⟩ := step_spec_full hpo hord hnd hU h op hok.1 hin1
    obtain ⟨h1, h2, h3, h4⟩ := ih (next_nodup hnd op) (next_U hU op hin1) hinv
      (fun o ho => hin o (List.mem_cons_of_mem _ ho)) hok.2
    exact ⟨h1, h2, h3, congr (congrArg List.cons hout) h4⟩

/-- two states over the same elements answer every history valid for both alike, cached or not -/
theorem run_outputs_eq (hpo : PO leq U) (hord : ∀ l, (ord l).Perm l) {c c' : Bool} (ops : List (Op α)) {E : List α}
    {s t : St α} (hnd : E.Nodup) (hU : ∀ a ∈ E, U a) (hs : InvB leq E Ghost.none c s)
    (ht : InvB leq E Ghost.none c' t) (hin : ∀ op ∈ ops, OpIn U op) (hok : opsOk E c ops = true)
    (hok' : opsOk E c' ops = true) : (run leq ord s ops).2 = (run leq ord t ops).2 :=
  (run_spec hpo hord ops hnd hU hs hin hok).2.2.2.trans (run_spec hpo hord ops hnd hU ht hin hok').2.2.2.symm

/-- only `fill_up_*` asks for the cache flag, and it asserts `use_cache` -/
theorem opsOk_of_uncached {E : List α} {ops : List (Op α)} (c : Bool) (h : opsOk E false ops = true) :
    opsOk E c ops = true := by
  induction ops generalizing E with
  | nil => rfl
  | cons op ops ih =>
    simp only [opsOk, Bool.and_eq_true] at h ⊢
    refine ⟨?_, ih h.2⟩
    cases op <;> first | exact h.1 | exact nomatch h.1

end
end Fca.Poset
