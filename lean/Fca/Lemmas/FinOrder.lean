/-
  Strict orders on the indexes `0 … n-1`, given by a Boolean relation: irreflexive and transitive below `n`, nothing
  else.  No rank is asked for: one run through `0 … n-1` shows that every index lies at or below a maximal one of any
  class, and covers, induction along the order and the greatest element come from that; the reversed order is
  `flipR lt`, so each fact is proved one way round.  Covers are followed through a re-listing of the indexes, a new
  index and an index struck out.  Core only.
-/
namespace Fca.Ord

/-- reducible, so that `flipR L i j` is matched with `L j i` before `L` is unfolded -/
@[reducible] def flipR (L : Nat → Nat → Bool) : Nat → Nat → Bool := fun i j => L j i

structure Strict (n : Nat) (lt : Nat → Nat → Bool) : Prop where
  irrefl : ∀ i, i < n → ¬ lt i i = true
  trans : ∀ i j k, i < n → j < n → k < n → lt i j = true → lt j k = true → lt i k = true

/-- `x` is covered by `k`: strictly below with no index `< n` strictly between.  `x < n ∧ Cover n lt x k` says that
    `x` is a lower cover of `k`, `k < n ∧ Cover n lt x k` that `k` is an upper cover of `x`. -/
def Cover (n : Nat) (lt : Nat → Nat → Bool) (x k : Nat) : Prop :=
  lt x k = true ∧ ∀ z, z < n → lt x z = true → ¬ lt z k = true

/-- `t` is the greatest of the indexes `< n`; the least one is the greatest for `flipR lt` -/
def Greatest (n : Nat) (lt : Nat → Nat → Bool) (t : Nat) : Prop :=
  t < n ∧ ∀ j, j < n → j ≠ t → lt j t = true

variable {n : Nat} {lt : Nat → Nat → Bool}

theorem Greatest.le {t : Nat} (ht : Greatest n lt t) {j : Nat} (hj : j < n) : j = t ∨ lt j t = true :=
  Classical.byCases Or.inl fun e => Or.inr (ht.2 j hj e)

theorem Greatest.congr {lt' : Nat → Nat → Bool} (hL : ∀ i j, i < n → j < n → lt i j = lt' i j) {t : Nat}
    (ht : Greatest n lt t) : Greatest n lt' t :=
  ⟨ht.1, fun j hj hne => hL j t hj ht.1 ▸ ht.2 j hj hne⟩

theorem Greatest.succ {t : Nat} (ht : Greatest n lt t) (hn : lt n t = true) : Greatest (n + 1) lt t :=
  ⟨Nat.lt_succ_of_lt ht.1, fun j hj hne =>
    (Nat.lt_succ_iff_lt_or_eq.mp hj).elim (fun hj => ht.2 j hj hne) fun e => e ▸ hn⟩

theorem cover_flip {x k : Nat} : Cover n (flipR lt) x k ↔ Cover n lt k x :=
  and_congr_right' (forall₂_congr fun _ _ => ⟨fun h a b => h b a, fun h a b => h b a⟩)

theorem cover_succ {x k : Nat} : Cover (n + 1) lt x k ↔ Cover n lt x k ∧ ¬(lt x n = true ∧ lt n k = true) :=
  ⟨fun h => ⟨⟨h.1, fun z hz => h.2 z (Nat.lt_succ_of_lt hz)⟩, fun hh => h.2 n (Nat.lt_succ_self n) hh.1 hh.2⟩,
    fun h => ⟨h.1.1, fun z hz h1 h2 => (Nat.lt_succ_iff_lt_or_eq.mp hz).elim (fun hz => h.1.2 z hz h1 h2)
      fun e => h.2 (e ▸ ⟨h1, h2⟩)⟩⟩

namespace Strict

theorem flip (h : Strict n lt) : Strict n (flipR lt) :=
  ⟨h.irrefl, fun i j k hi hj hk h1 h2 => h.trans k j i hk hj hi h2 h1⟩

theorem asymm (h : Strict n lt) {i j : Nat} (hi : i < n) (hj : j < n) (hij : lt i j = true) : ¬ lt j i = true :=
  fun hji => h.irrefl i hi (h.trans i j i hi hj hi hij hji)

/-- the strict part of a partial order `leq` on the indexes below `n` (`PQ.IsPO`, `Poset.IdxPO`) -/
theorem of_le {leq : Nat → Nat → Bool} (htr : ∀ a b c, a < n → b < n → c < n → leq a b = true → leq b c = true → leq a c = true)
    (has : ∀ a b, a < n → b < n → leq a b = true → leq b a = true → a = b) :
    Strict n (fun a b => leq a b && a != b) := by
  refine ⟨fun i _ hi => by simp at hi, fun i j k hi hj hk h1 h2 => ?_⟩
  simp only [Bool.and_eq_true, bne_iff_ne] at *
  refine ⟨htr i j k hi hj hk h1.1 h2.1, fun e => ?_⟩
  subst e
  exact h1.2 (has i j hi hj h1.1 h2.1)

/-- Every index with `P` is or lies below a maximal one with `P`.  One run through `0 … n-1`: `m` is at or above `c`
    and nothing with `P` among the first `b` indexes is above it; the next index replaces `m` if it has `P` and is
    above `m`. -/
theorem exists_maximal_ge (h : Strict n lt) (P : Nat → Prop) {c : Nat} (hc : c < n) (hP : P c) :
    ∃ m, m < n ∧ P m ∧ (m = c ∨ lt c m = true) ∧ ∀ x, x < n → P x → ¬ lt m x = true := by
  have key : ∀ b, b ≤ n → ∃ m, m < n ∧ P m ∧ (m = c ∨ lt c m = true) ∧ ∀ x, x < b → P x → ¬ lt m x = true := by
    intro b
    induction b with
    | zero => exact fun _ => ⟨c, hc, hP, Or.inl rfl, fun _ hx => absurd hx (Nat.not_lt_zero _)⟩
    | succ b ih =>
      intro hb
      obtain ⟨m, hm, hPm, hcm, hmax⟩ := ih (Nat.le_of_succ_le hb)
      by_cases hmb : P b ∧ lt m b = true
      · refine ⟨b, hb, hmb.1, Or.inr (hcm.elim (fun e => e ▸ hmb.2) fun hcm => h.trans c m b hc hm hb hcm hmb.2),
          fun x hx hPx hbx => ?_⟩
        by_cases e : x = b
        · exact h.irrefl b hb (e ▸ hbx)
        · exact hmax x (Nat.lt_of_le_of_ne (Nat.le_of_lt_succ hx) e) hPx
            (h.trans m b x hm hb (Nat.lt_of_lt_of_le hx hb) hmb.2 hbx)
      · refine ⟨m, hm, hPm, hcm, fun x hx hPx hmx => ?_⟩
        by_cases e : x = b
        · exact hmb ⟨e ▸ hPx, e ▸ hmx⟩
        · exact hmax x (Nat.lt_of_le_of_ne (Nat.le_of_lt_succ hx) e) hPx hmx
  exact key n (Nat.le_refl n)

theorem exists_lower_cover_ge (h : Strict n lt) {k a : Nat} (hk : k < n) (hka : lt k a = true) :
    ∃ b, b < n ∧ Cover n lt b a ∧ (b = k ∨ lt k b = true) :=
  let ⟨b, hb, hba, hkb, hmax⟩ := h.exists_maximal_ge (fun x => lt x a = true) hk hka
  ⟨b, hb, ⟨hba, fun z hz hbz hza => hmax z hz hza hbz⟩, hkb⟩

theorem exists_upper_cover_le (h : Strict n lt) {x k : Nat} (hk : k < n) (hxk : lt x k = true) :
    ∃ b, b < n ∧ Cover n lt x b ∧ (b = k ∨ lt b k = true) :=
  let ⟨b, hb, hc, hbk⟩ := h.flip.exists_lower_cover_ge hk hxk
  ⟨b, hb, cover_flip.mp hc, hbk⟩

/-- a worklist that takes an index once everything below it is done never starves -/
theorem exists_least_open (h : Strict n lt) (V : Nat → Prop) {w : Nat} (hw : w < n) (hV : ¬ V w) :
    ∃ m, m < n ∧ ¬ V m ∧ (m = w ∨ lt m w = true) ∧ ∀ c, c < n → lt c m = true → V c :=
  let ⟨m, hm, hVm, hmw, hmin⟩ := h.flip.exists_maximal_ge (fun x => ¬ V x) hw hV
  ⟨m, hm, hVm, hmw, fun c hc hcm => Classical.byContradiction fun hVc => hmin c hc hVc hcm⟩

theorem induction (h : Strict n lt) {Q : Nat → Prop}
    (step : ∀ k, k < n → (∀ j, j < n → lt j k = true → Q j) → Q k) : ∀ k, k < n → Q k := by
  intro k hk
  apply Classical.byContradiction
  intro hQ
  obtain ⟨m, hm, hQm, _, hmin⟩ := h.exists_least_open Q hk hQ
  exact hQm (step m hm hmin)

theorem greatest_unique (h : Strict n lt) {t t' : Nat} (ht : Greatest n lt t) (ht' : Greatest n lt t') : t' = t :=
  Classical.byContradiction fun e =>
    h.asymm ht'.1 ht.1 (ht.2 t' ht'.1 e) (ht'.2 t ht.1 fun e' => e e'.symm)

theorem greatest_of_unique_maximal (h : Strict n lt) {t : Nat}
    (hu : ∀ m, m < n → (∀ x, x < n → ¬ lt m x = true) → m = t) (hn : 0 < n) : Greatest n lt t := by
  have ht : t < n := by
    obtain ⟨m, hm, _, _, hmax⟩ := h.exists_maximal_ge (fun _ => True) hn trivial
    exact hu m hm (fun x hx => hmax x hx trivial) ▸ hm
  refine ⟨ht, fun j hj hne => ?_⟩
  obtain ⟨m, hm, _, hjm, hmax⟩ := h.exists_maximal_ge (fun _ => True) hj trivial
  have e := hu m hm fun x hx => hmax x hx trivial
  exact (e ▸ hjm).resolve_left fun e' => hne e'.symm

end Strict

theorem cover_relist {L L' : Nat → Nat → Bool} {σ : Nat → Nat} (hσ : ∀ a, a < n → σ a < n)
    (hsurj : ∀ b, b < n → ∃ a, a < n ∧ σ a = b)
    (hL : ∀ a b, a < n → b < n → L' a b = L (σ a) (σ b)) {c x : Nat} (hc : c < n) (hx : x < n) :
    Cover n L' x c ↔ Cover n L (σ x) (σ c) := by
  unfold Cover
  rw [hL x c hx hc]
  refine and_congr_right fun _ => ⟨fun h3 k hk hxk hkc => ?_, fun h3 k hk hxk hkc =>
    h3 (σ k) (hσ k hk) (hL x k hx hk ▸ hxk) (hL k c hk hc ▸ hkc)⟩
  obtain ⟨a, ha, rfl⟩ := hsurj k hk
  exact h3 a ha (hL x a hx ha ▸ hxk) (hL a c ha hc ▸ hkc)

theorem cover_congr {L L' : Nat → Nat → Bool} (hL : ∀ a b, a < n → b < n → L a b = L' a b) {c x : Nat}
    (hx : x < n) (hc : c < n) : Cover n L x c ↔ Cover n L' x c :=
  cover_relist (σ := id) (fun _ h => h) (fun b hb => ⟨b, hb, rfl⟩) hL hc hx

/-- `Cover` with the index `k` left out of account: the covers once `k` is struck out, in the old numbering -/
def CoverBut (n : Nat) (lt : Nat → Nat → Bool) (k x p : Nat) : Prop :=
  lt x p = true ∧ ∀ z, z < n → z ≠ k → lt x z = true → ¬ lt z p = true

theorem cover_erase {m k : Nat} {σ : Nat → Nat} (hσ : ∀ a, a < m → σ a < n ∧ σ a ≠ k)
    (hsurj : ∀ b, b < n → b ≠ k → ∃ a, a < m ∧ σ a = b) {x c : Nat} :
    Cover m (fun a b => lt (σ a) (σ b)) x c ↔ CoverBut n lt k (σ x) (σ c) :=
  and_congr_right fun _ => ⟨fun h z hz hzk h1 h2 => by
      obtain ⟨a, ha, rfl⟩ := hsurj z hz hzk
      exact h a ha h1 h2,
    fun h a ha => h (σ a) (hσ a ha).1 (hσ a ha).2⟩

theorem Strict.coverBut_of_not_cover (h : Strict n lt) {k p x : Nat} (hx : x < n) (hkp : ¬ Cover n lt k p) :
    CoverBut n lt k x p ↔ Cover n lt x p := by
  refine and_congr_right fun _ => ⟨fun h2 z hz hz1 hz2 => ?_, fun h2 z hz _ => h2 z hz⟩
  by_cases e : z = k
  · -- nothing but `k` lies between `x` and `p`, so `k` would be a cover of `p`
    subst e
    exact hkp ⟨hz2, fun w hw hw1 hw2 =>
      h2 w hw (fun e => h.irrefl z hz (e ▸ hw1)) (h.trans x z w hx hz hw hz1 hw1) hw2⟩
  · exact h2 z hz e hz1 hz2

/-- striking out a cover `k` of `p`: the covers of `p` are then the maximal ones among its other covers and the
    covers of `k` -/
theorem Strict.coverBut_patch (h : Strict n lt) {k p : Nat} (hk : k < n) (hp : p < n) (hkp : Cover n lt k p)
    {nc : Nat → Prop}
    (hnc : ∀ c, nc c ↔ ((c < n ∧ Cover n lt c p) ∨ (c < n ∧ Cover n lt c k)) ∧ c ≠ k) (y : Nat) :
    (nc y ∧ ∀ c, nc c → ¬ lt y c = true) ↔ y < n ∧ y ≠ k ∧ CoverBut n lt k y p := by
  have hlt : ∀ c, nc c → c < n ∧ lt c p = true := fun c hc =>
    ((hnc c).mp hc).1.elim (fun hh => ⟨hh.1, hh.2.1⟩) fun hh => ⟨hh.1, h.trans c k p hh.1 hk hp hh.2.1 hkp.1⟩
  constructor
  · rintro ⟨hy, hmax⟩
    obtain ⟨hyn, hyp⟩ := hlt y hy
    refine ⟨hyn, ((hnc y).mp hy).2, hyp, fun z hz hzk hyz hzp => ?_⟩
    -- a cover `b` of `p` at or above `z` is a candidate above `y`; if it is `k`, a cover of `k` at or above `z` is
    obtain ⟨b, hb, hbp, hzb⟩ := h.exists_lower_cover_ge hz hzp
    have above : ∀ {b}, b < n → (b = z ∨ lt z b = true) → lt y b = true := fun hb hzb =>
      hzb.elim (fun e => e ▸ hyz) (h.trans y z _ hyn hz hb hyz)
    by_cases e : b = k
    · subst e
      obtain ⟨b', hb', hbk, hzb'⟩ := h.exists_lower_cover_ge hz (hzb.resolve_left (Ne.symm hzk))
      exact hmax b' ((hnc b').mpr ⟨Or.inr ⟨hb', hbk⟩, fun e' => h.irrefl b hk (e' ▸ hbk.1)⟩) (above hb' hzb')
    · exact hmax b ((hnc b).mpr ⟨Or.inl ⟨hb, hbp⟩, e⟩) (above hb hzb)
  · rintro ⟨hyn, hyk, hyp, hno⟩
    refine ⟨(hnc y).mpr ⟨?_, hyk⟩, fun c hc hyc => hno c (hlt c hc).1 ((hnc c).mp hc).2 hyc (hlt c hc).2⟩
    by_cases hyk' : lt y k = true
    · exact Or.inr ⟨hyn, hyk', fun z hz hyz hzk =>
        hno z hz (fun e => h.irrefl k hk (e ▸ hzk)) hyz (h.trans z k p hz hk hp hzk hkp.1)⟩
    · exact Or.inl ⟨hyn, hyp, fun z hz hyz hzp => hno z hz (fun e => hyk' (e ▸ hyz)) hyz hzp⟩

end Fca.Ord
