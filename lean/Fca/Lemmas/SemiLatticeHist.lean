/-
  Lemmas/SemiLatticeHist — one step of the semilattice machine under `InvTop` alone is in `StepRel` (`stepSL_rel`);
  read off the relation: a refused operation leaves the very same state, a query or a mutation that returns
  re-establishes the invariant over the specified element list.  And what the statements about whole histories are
  written in.
-/
import Fca.Lemmas.SemiLatticeStep
namespace Fca.SemiLattice
open Fca.Poset Fca.Poset.Fresh Fca.SemiLattice.Spec

section
variable {α : Type} {leq : α → α → Bool} {U : α → Prop}

theorem invTop_of_frame {s s' : SL α} (hI : InvTop leq s) (hc : s'.cls = s.cls) (he : s'.p.elems = s.p.elems)
    (hu : s'.p.useCache = s.p.useCache) (hcache : ∀ d, s'.cache d = s.cache d) : InvTop leq s' := by
  refine ⟨fun d hd => ?_⟩
  obtain ⟨t, h1, h2⟩ := hI.ext d (hc ▸ hd)
  exact ⟨t, he ▸ h1, fun h => (hcache d).trans (h2 (hu ▸ h))⟩

theorem opIn_query {o : Op α} (ho : isMutation o = false) : OpIn U o := by
  cases o with
  | add e f => cases ho
  | _ => trivial

end

section
variable {α : Type} [DecidableEq α] {leq : α → α → Bool} {ord : List Nat → List Nat} {U : α → Prop}

def isMutationSL : OpSL α → Bool
  | .op o => isMutation o
  | .extreme _ => false

/-- the elements an operation brings in belong to the universe `U` -/
def OpInSL (U : α → Prop) : OpSL α → Prop
  | .op o => OpIn U o
  | .extreme _ => True

def refusalSL (leq : α → α → Bool) (cls : Cls) (E : List α) : OpSL α → Option PyErr
  | .op o => refusal leq cls E o
  | .extreme _ => none

theorem refusal_query {cls : Cls} {E : List α} {o : Op α} (ho : isMutation o = false) :
    refusal leq cls E o = none := by
  cases o <;> first | rfl | cases ho

theorem next_query {E : List α} {o : Op α} (ho : isMutation o = false) : next E o = E := by
  cases o <;> first | rfl | cases ho

/-- an operation that the class does not override is `POSet`'s, run on the poset part -/
theorem stepSL_query {s : SL α} {o : Op α} (ho : isMutation o = false)
    (hne : ∀ d, o = .extremes d → s.cls.has d = false) :
    stepSL leq ord s (.op o) = ({ s with p := (step leq ord s.p o).1 }, (step leq ord s.p o).2) := by
  cases o with
  | extremes d =>
    simp only [stepSL, extremesSL_not_has (hne d rfl)]
    rfl
  | add _ _ | del _ | remove _ => cases ho
  | _ => rfl

theorem stepSL_rel (hpoU : PO leq U) {s : SL α} (hI : InvTop leq s) (hnd : s.p.elems.Nodup)
    (hU : ∀ a ∈ s.p.elems, U a) (op : OpSL α) (hin : OpInSL U op) :
    StepRel leq ord s op (stepSL leq ord s op) := by
  have hpo : IdxPO leq s.p.elems := idxPO_of hpoU hnd hU
  cases op with
  | extreme d =>
    cases hd : s.cls.has d
    · simp only [stepSL, hd]
      exact .noExtreme hd
    · obtain ⟨t, ht, hc⟩ := hI.ext d hd
      simp only [stepSL, hd, ↓reduceIte, extremeE_run hpo ht hc, outOf]
      exact .extreme hd ((greatest_eq_some_iff hpo).mpr ht)
  | op o =>
    by_cases hx : ∃ d, o = .extremes d ∧ s.cls.has d = true
    · obtain ⟨d, rfl, hd⟩ := hx
      obtain ⟨t, ht, hc⟩ := hI.ext d hd
      simp only [stepSL, extremesSL_run hpo hd ht hc, outOf]
      exact .extremes hd ((greatest_eq_some_iff hpo).mpr ht)
    · cases hm : isMutation o
      · have hne : ∀ d, o = .extremes d → s.cls.has d = false := fun d h =>
          Bool.eq_false_iff.mpr fun hd => hx ⟨d, h, hd⟩
        rw [stepSL_query hm hne]
        exact .query hm hne
      · cases o with
        | add e f => exact addSL_rel hpoU hI hnd hU hin f
        | del k => exact delSL_rel hI hpo k
        | remove e => exact removeSL_rel hI hpo e
        | _ => cases hm

theorem StepRel.eq_of_refused {s : SL α} {o : Op α} {e : PyErr} {res : SL α × Out}
    (h : StepRel leq ord s (.op o) res) (hr : refusal leq s.cls s.p.elems o = some e) : res = (s, .err e) := by
  cases h with
  | extremes hd hg => cases hr
  | query ho hne =>
    rw [refusal_query ho] at hr
    cases hr
  | refused hr' =>
    rw [hr] at hr'
    cases hr'
    rfl
  | raised _ hr' _ | done _ hr' _ =>
    rw [hr] at hr'
    cases hr'

/-- A step re-establishes `InvTop` over the specified element list, unless the `POSet` method inside a mutation
    raises (`hclean` excludes that: a mutation raises its specified refusal only). -/
theorem StepRel.spec {s : SL α} {op : OpSL α} {res : SL α × Out} (h : StepRel leq ord s op res) (hI : InvTop leq s)
    (hclean : isMutationSL op = true → ∀ e, res.2 = .err e → refusalSL leq s.cls s.p.elems op = some e) :
    InvTop leq res.1 ∧ res.1.p.elems = nextSL leq s.cls s.p.elems op ∧ res.1.cls = s.cls ∧
      res.1.p.useCache = s.p.useCache := by
  cases h with
  | extreme _ _ | extremes _ _ | noExtreme _ => exact ⟨hI, rfl, rfl, rfl⟩
  | @query o ho hne =>
    obtain ⟨f1, f2⟩ := step_query_frame (leq := leq) (ord := ord) s.p o ho
    refine ⟨invTop_of_frame hI rfl f1 f2 fun _ => rfl, ?_, rfl, f2⟩
    simp only [nextSL, refusal_query ho, next_query ho]
    exact f1
  | refused hr => exact ⟨hI, by simp only [nextSL, hr], rfl, rfl⟩
  | raised hm hr hb =>
    rw [show refusalSL leq s.cls s.p.elems (.op _) = none from hr] at hclean
    cases hclean hm _ rfl
  | done hm hr hb hp hc he hu hI' => exact ⟨hI', by simp only [nextSL, hr]; exact he, hc, hu⟩

/-- the specified element list after a history -/
def nextsSL (leq : α → α → Bool) (cls : Cls) : List α → List (OpSL α) → List α
  | E, [] => E
  | E, op :: ops => nextsSL leq cls (nextSL leq cls E op) ops

/-- no mutation of the history ends in an exception other than the specified refusal -/
def NoInternalError (leq : α → α → Bool) (ord : List Nat → List Nat) : SL α → List (OpSL α) → Prop
  | _, [] => True
  | s, op :: ops =>
    (isMutationSL op = true → ∀ e, (stepSL leq ord s op).2 = .err e → refusalSL leq s.cls s.p.elems op = some e) ∧
    NoInternalError leq ord (stepSL leq ord s op).1 ops

theorem nextSL_nodup {cls : Cls} {E : List α} (hnd : E.Nodup) (op : OpSL α) : (nextSL leq cls E op).Nodup := by
  cases op with
  | extreme d => exact hnd
  | op o =>
    simp only [nextSL]
    split
    · exact hnd
    · exact next_nodup hnd o

theorem nextSL_U {cls : Cls} {E : List α} (hU : ∀ a ∈ E, U a) (op : OpSL α) (hin : OpInSL U op) :
    ∀ a ∈ nextSL leq cls E op, U a := by
  cases op with
  | extreme d => exact hU
  | op o =>
    simp only [nextSL]
    split
    · exact hU
    · exact next_U hU o hin

end
end Fca.SemiLattice
