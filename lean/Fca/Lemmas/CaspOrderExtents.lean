/-
  `orderExtentsComparisonCode` stage by stage.  On a family of extents that is duplicate-free as sets, closed
  under intersection and whose indexes are below the largest extent length, the code-shaped model succeeds and
  returns the value that the specification-level `orderExtentsComparison` is given BY CONTRACT
  (`id_to_topo_map` a permutation, cover function `Spec.covers` of the re-listed extents).
-/
import Fca.Lemmas.CaspIncl
import Fca.Lemmas.ConstructOE
import Fca.Lemmas.Names
namespace Fca.Casp
open Fca.Spec Fca.Construct

theorem isetToBa_holds {n : Nat} (s : List Nat) (hs : ∀ x ∈ s, x < n) :
    ∀ {bar : Bits} {P : Nat → Prop}, Holds n bar P →
      ∃ b, isetToBa s bar = .ok b ∧ Holds n b fun m => P m ∨ m ∈ s := by
  induction s with
  | nil => exact fun h => ⟨_, rfl, h.congr fun m => by simp⟩
  | cons x s ih =>
    intro bar P h
    have hx := hs x (List.mem_cons_self ..)
    obtain ⟨b, e, hb⟩ := ih (fun y hy => hs y (List.mem_cons_of_mem _ hy)) (h.set hx)
    exact ⟨b, by rw [isetToBa, if_pos (h.length ▸ hx), e], hb.congr fun m => by rw [List.mem_cons, or_assoc]⟩

theorem isets2bas_spec (len : Nat) (cs : List (List Nat)) (h : ∀ e ∈ cs, ∀ x ∈ e, x < len) :
    ∃ bas, isets2bas cs len = .ok bas ∧ bas.length = cs.length ∧ Uniform bas len ∧
      ∀ i m, bit (bas.getD i []) m = true ↔ m ∈ cs.getD i [] := by
  induction cs with
  | nil => exact ⟨[], rfl, rfl, fun _ hit => (nomatch hit), fun i m => ⟨nofun, nofun⟩⟩
  | cons e cs ih =>
    obtain ⟨b, eb, hb⟩ := isetToBa_holds e (h e (List.mem_cons_self ..)) (holds_zeros len)
    obtain ⟨bs, ebs, hls, hu, hbs⟩ := ih (fun e' he' => h e' (List.mem_cons_of_mem _ he'))
    refine ⟨b :: bs, by simp only [isets2bas, eb, ebs], by simp [hls], fun it hit => ?_, fun i m => ?_⟩
    · rcases List.mem_cons.mp hit with rfl | hit
      · exact hb.length
      · exact hu it hit
    · cases i with
      | zero => exact (hb.iff m).trans (or_iff_right id)
      | succ i => exact hbs i m

theorem inRange_elim {cs : List (List Nat)} (h : inRangeB cs = true) :
    ∃ N, maxLen cs = .ok N ∧ cs ≠ [] ∧ ∀ e ∈ cs, ∀ x ∈ e, x < N := by
  cases cs with
  | nil => cases h
  | cons c r => exact ⟨_, rfl, List.cons_ne_nil _ _, fun e he x hx =>
      of_decide_eq_true (List.all_eq_true.mp (List.all_eq_true.mp h e he) x hx)⟩

theorem distinctSets_elim {cs : List (List Nat)} (h : distinctSetsB cs = true) {i j : Nat}
    (hi : i < cs.length) (hj : j < cs.length) (h1 : ∀ x ∈ cs.getD i [], x ∈ cs.getD j [])
    (h2 : ∀ x ∈ cs.getD j [], x ∈ cs.getD i []) : i = j := by
  unfold distinctSetsB at h
  rw [List.all_eq_true] at h
  have := h i (List.mem_range.mpr hi)
  rw [List.all_eq_true] at this
  have := this j (List.mem_range.mpr hj)
  rw [sub_iff.mpr h1, sub_iff.mpr h2] at this
  simpa using this

theorem interClosed_elim {cs : List (List Nat)} (h : interClosedB cs = true) {i j : Nat}
    (hi : i < cs.length) (hj : j < cs.length) :
    ∃ k, k < cs.length ∧ ∀ x, x ∈ cs.getD k [] ↔ (x ∈ cs.getD i [] ∧ x ∈ cs.getD j []) := by
  unfold interClosedB at h
  rw [List.all_eq_true] at h
  have := h i (List.mem_range.mpr hi)
  rw [List.all_eq_true] at this
  have := this j (List.mem_range.mpr hj)
  rw [List.any_eq_true] at this
  obtain ⟨k, hk, hh⟩ := this
  simp only [Bool.and_eq_true, sub_iff, List.all_eq_true, Bool.or_eq_true, Bool.not_eq_true',
    List.contains_eq_mem, decide_eq_true_eq, decide_eq_false_iff_not] at hh
  exact ⟨k, List.mem_range.mp hk, fun x => ⟨fun hx => ⟨hh.1.1 x hx, hh.1.2 x hx⟩,
    fun hx => (hh.2 x hx.1).resolve_left (not_not_intro hx.2)⟩⟩

section
variable {cs : List (List Nat)} {bas : List Bits} (hlen : bas.length = cs.length)
  (hbit : ∀ i m, bit (bas.getD i []) m = true ↔ m ∈ cs.getD i [])
include hlen hbit

theorem nodup_of_distinct (hd : distinctSetsB cs = true) : bas.Nodup := by
  rw [List.Nodup, List.pairwise_iff_getElem]
  intro i j hi hj hij e
  rw [← ListAux.getD_eq_get _ _ [] hi, ← ListAux.getD_eq_get _ _ [] hj] at e
  exact Nat.ne_of_lt hij (distinctSets_elim hd (hlen ▸ hi) (hlen ▸ hj)
    (fun x hx => (hbit j x).mp (e ▸ (hbit i x).mpr hx))
    (fun x hx => (hbit i x).mp (e ▸ (hbit j x).mpr hx)))

theorem closed_of_interClosed {N : Nat} (hu : Uniform bas N) (hc : interClosedB cs = true) : Closed bas := by
  intro a ha b hb
  obtain ⟨i, hi, rfl⟩ := List.getElem_of_mem ha
  obtain ⟨j, hj, rfl⟩ := List.getElem_of_mem hb
  obtain ⟨k, hk, hmeet⟩ := interClosed_elim hc (hlen ▸ hi) (hlen ▸ hj)
  have row : ∀ {i} (hi : i < bas.length), Holds N bas[i] (· ∈ cs.getD i []) := fun hi =>
    ⟨hu _ (List.getElem_mem hi), fun m => by rw [← ListAux.getD_eq_get _ _ [] hi, hbit]⟩
  exact ((row hi).band (row hj)).ext ((row (hlen ▸ hk)).congr fun m => hmeet m) ▸ List.getElem_mem _

end

theorem stableSort_isInsertionSort (asc : Bool) :
    ListAux.IsInsertionSort (fun x y => keyLe asc x y = true) (insertSorted asc) (stableSort asc) :=
  ⟨fun _ => rfl, fun _ _ _ => rfl, rfl, fun _ _ => rfl⟩

theorem stableSort_perm (asc : Bool) (l : List Bits) : (stableSort asc l).Perm l :=
  (stableSort_isInsertionSort asc).perm l

theorem keyLe_count {a b : Bits} : (keyLe true a b = true → count1 a ≤ count1 b) ∧
    (¬ keyLe true a b = true → count1 b ≤ count1 a) := by
  simp only [keyLe, if_true, Bool.or_eq_true, decide_eq_true_eq, Bool.and_eq_true, beq_iff_eq]
  omega

/-- the sort key of `topological_sorting` refines the count, which is all that `check_topologically_sorted` looks at -/
theorem stableSort_check (l : List Bits) : checkTopologicallySorted true (stableSort true l) = true :=
  checkTopologicallySorted_iff.mpr ((stableSort_isInsertionSort true).pairwise
    (fun _ _ => keyLe_count.1) (fun _ _ => keyLe_count.2) (fun _ _ _ => Nat.le_trans) l)

theorem lastIdx?_eq {α : Type} [DecidableEq α] (l : List α) (x : α) : lastIdx? l x = Poset.dictIdx? x l :=
  (Poset.dictIdx?_from (fun _ _ => rfl) (fun _ _ _ _ => by rw [lastIdxFrom]; rfl) l 0 x).trans Option.map_id'

section
variable {α : Type} [DecidableEq α] [BEq α] [LawfulBEq α]

theorem lastIdx?_nodup {l : List α} {x : α} (hnd : l.Nodup) (hx : x ∈ l) :
    lastIdx? l x = some (l.idxOf x) :=
  (lastIdx?_eq l x).trans (Poset.dictIdx?_of_getElem? hnd
    (List.getElem?_eq_some_iff.mpr ⟨List.idxOf_lt_length_of_mem hx, List.getElem_idxOf _⟩))

theorem lookupAll_nodup {l : List α} (hnd : l.Nodup) (xs : List α) (h : ∀ x ∈ xs, x ∈ l) :
    lookupAll l xs = .ok (xs.map l.idxOf) := by
  induction xs with
  | nil => rfl
  | cons x xs ih =>
    simp only [lookupAll, lastIdx?_nodup hnd (h x (List.mem_cons_self ..)),
      ih (fun y hy => h y (List.mem_cons_of_mem _ hy)), List.map_cons]

end

theorem topologicalSorting_nodup {els : List Bits} (hnd : els.Nodup) (asc : Bool) :
    topologicalSorting els asc = .ok (stableSort asc els, els.map (stableSort asc els).idxOf) := by
  have hp := stableSort_perm asc els
  simp only [topologicalSorting, lookupAll_nodup (hp.nodup_iff.mpr hnd) els (fun x hx => hp.mem_iff.mpr hx)]

theorem inverseBad_false (nRows len0 : Nat) (rows : List Bits) : ∀ i0 : Nat,
    Uniform rows nRows → i0 + rows.length ≤ len0 → inverseBad nRows len0 rows i0 = false := by
  induction rows with
  | nil => exact fun _ _ _ => rfl
  | cons row rows ih =>
    intro i0 h hlen
    rw [List.length_cons, ← Nat.succ_add_eq_add_succ] at hlen
    have hi0 : i0 < len0 := Nat.lt_of_lt_of_le (Nat.lt_succ_self i0) (Nat.le_trans (Nat.le_add_right ..) hlen)
    rw [inverseBad, Bool.or_eq_false_iff, List.any_eq_false]
    refine ⟨fun j hj => ?_, ih (i0 + 1) (fun r hr => h r (List.mem_cons_of_mem _ hr)) hlen⟩
    rw [Bool.or_eq_true, decide_eq_true_eq, decide_eq_true_eq]
    exact fun hor => hor.elim (Nat.not_le.mpr (h row (List.mem_cons_self ..) ▸ lt_of_bit (mem_search1.mp hj)))
      (Nat.not_le.mpr hi0)

theorem inverseOrder_spec {order : List Bits} {n : Nat} (hs : Shape order n n) :
    ∃ inv, inverseOrder order = .ok inv ∧ Shape inv n n ∧
      ∀ i j, bit (inv.getD j []) i = true ↔ bit (order.getD i []) j = true := by
  cases order with
  | nil =>
    obtain ⟨rfl, _⟩ := hs
    exact ⟨[], rfl, ⟨rfl, fun r hr => absurd hr (Nat.not_lt_zero r)⟩, fun i j => Iff.rfl⟩
  | cons o0 rest =>
    have h0 : o0.length = n := hs.2 0 (hs.1 ▸ Nat.zero_lt_succ _)
    have hbad : inverseBad (o0 :: rest).length o0.length (o0 :: rest) 0 = false :=
      inverseBad_false _ _ _ 0 (hs.1.symm ▸ hs.uniform) (by rw [h0, hs.1, Nat.zero_add]; exact Nat.le_refl _)
    obtain ⟨s1, s2⟩ := scatter_zero hs
    exact ⟨_, by rw [inverseOrder, hbad, hs.1, h0]; rfl, s1, fun i j => s2 j i⟩

/-- `inverse_order(sort_intents_inclusion(·)[0])` on a closed family: row `t` of the result lists the lower
    covers of `t` within any listing `L` of the sets that the bitarrays stand for -/
theorem lowerCovers_spec {srt : List Bits} {nA : Nat} (hne : srt ≠ []) (hu : Uniform srt nA)
    (hsorted : checkTopologicallySorted true srt = true) (F : Fam srt.length (hasOf srt))
    {L : List (List Nat)} (hlen : L.length = srt.length)
    (hrep : ∀ a, a < srt.length → ∀ m, hasOf srt a m ↔ m ∈ L.getD a []) :
    ∃ st sub, sortIntentsInclusion srt = .ok st ∧ inverseOrder st.1 = .ok sub ∧
      Shape sub srt.length srt.length ∧
      ∀ t, t < srt.length → search1 (sub.getD t []) = Spec.covers L t := by
  obtain ⟨st, est, inv⟩ := sortIntentsInclusion_spec hne hu hsorted F
  obtain ⟨sub, esub, hsub, hsubbit⟩ := inverseOrder_spec inv.shape1
  have hSS : ∀ {a b}, a < srt.length → b < srt.length →
      (SSub (hasOf srt) a b ↔ ssubAt L a b = true) := fun ha hb => by
    unfold SSub Le ssubAt ssub
    rw [Bool.and_eq_true, Bool.not_eq_true', ← Bool.not_eq_true, sub_iff, sub_iff]
    simp only [hrep _ ha, hrep _ hb]
  refine ⟨st, sub, est, esub, hsub, fun t ht => ?_⟩
  rw [search1_eq_filter, hsub.2 t ht, Spec.covers, coversBy, hlen]
  apply List.filter_congr
  intro s hs
  have hs' := List.mem_range.mp hs
  rw [Bool.eq_iff_iff, hsubbit, inv.lat s (Nat.zero_le _) hs' t, and_iff_right ht, UpperCover, hSS hs' ht,
    Bool.and_eq_true, Bool.not_eq_true', ← Bool.not_eq_true, List.any_eq_true]
  refine and_congr_right fun _ => not_congr (exists_congr fun k => ?_)
  rw [List.mem_range, Bool.and_eq_true]
  exact and_congr_right fun hk => and_congr (hSS hs' hk) (hSS hk ht)

theorem translate_eq_lookupAll (p xs : List Nat) : translate p xs = lookupAll p xs := by
  induction xs with
  | nil => rfl
  | cons x xs ih => rw [translate, lookupAll, ih]

theorem finalDict_perm {p : List Nat} {n : Nat} (hnd : p.Nodup) (hmem : ∀ t, t < n → t ∈ p)
    (subs : List Bits) : ∀ i0 : Nat, i0 + subs.length ≤ n → Uniform subs n →
      finalDict p subs i0 = .ok ((List.range subs.length).map fun k =>
        (p.idxOf (i0 + k), (search1 (subs.getD k [])).map p.idxOf)) := by
  induction subs with
  | nil => exact fun _ _ _ => rfl
  | cons row subs ih =>
    intro i0 hlen h
    rw [List.length_cons, ← Nat.succ_add_eq_add_succ] at hlen
    have h1 := lastIdx?_nodup hnd (hmem i0
      (Nat.lt_of_lt_of_le (Nat.lt_succ_self i0) (Nat.le_trans (Nat.le_add_right ..) hlen)))
    have h2 := lookupAll_nodup hnd (search1 row) (fun s hs =>
      hmem s (h row (List.mem_cons_self ..) ▸ lt_of_bit (mem_search1.mp hs)))
    have h3 := ih (i0 + 1) hlen (fun r hr => h r (List.mem_cons_of_mem _ hr))
    simp only [finalDict, h1, translate_eq_lookupAll, h2, h3, List.length_cons, List.range_succ_eq_map,
      List.map_cons, List.map_map, Nat.add_zero, List.getD_cons_zero, Function.comp_def, List.getD_cons_succ,
      Nat.succ_add_eq_add_succ]

theorem orderExtentsComparisonCode_eq (cs : List (List Nat)) (hr : inRangeB cs = true) (hd : distinctSetsB cs = true)
    (hc : interClosedB cs = true) :
    ∃ p, PermOK cs.length p ∧
      orderExtentsComparisonCode cs =
        .ok (orderExtentsComparison cs.length p (Spec.covers (topoList cs p))) := by
  obtain ⟨N, hmax, hne, hrange⟩ := inRange_elim hr
  obtain ⟨bas, ebas, hlen, hu, hbit⟩ := isets2bas_spec N cs hrange
  have hnd := nodup_of_distinct hlen hbit hd
  -- the sorted copy is a closed family as well
  have hp := stableSort_perm true bas
  have hlenT : (stableSort true bas).length = cs.length := hp.length_eq.trans hlen
  have huT : Uniform (stableSort true bas) N := fun it hit => hu it (hp.mem_iff.mp hit)
  have hclT : Closed (stableSort true bas) := fun a ha b hb =>
    hp.mem_iff.mpr (closed_of_interClosed hlen hbit hu hc a (hp.mem_iff.mp ha) b (hp.mem_iff.mp hb))
  have hchk := stableSort_check bas
  have hneT : stableSort true bas ≠ [] := fun e =>
    hne (List.length_eq_zero_iff.mp (hlenT.symm.trans (congrArg List.length e)))
  have F := fam_of_list huT (hp.nodup_iff.mpr hnd) hchk hclT
  obtain ⟨p, hpdef⟩ : ∃ p, bas.map (stableSort true bas).idxOf = p := ⟨_, rfl⟩
  have hperm : PermOK cs.length p := ⟨hpdef ▸ hlen ▸ ListAux.map_idxOf_perm_range hp hnd⟩
  refine ⟨p, hperm, ?_⟩
  have hrow : ∀ i, i < cs.length → (stableSort true bas).getD (p.getD i 0) [] = bas.getD i [] := fun i hi => by
    have hm := List.idxOf_lt_length_of_mem (hp.mem_iff.mpr (ListAux.getD_mem bas i [] (hlen ▸ hi)))
    rw [← hpdef, ListAux.getD_map _ _ _ [] 0 (hlen ▸ hi), ListAux.getD_eq_get _ _ _ hm]
    exact List.getElem_idxOf hm
  -- the sorted copy lists the bitarrays of `topoList cs p`
  obtain ⟨st, sub, est, esub, hsub, hcov⟩ := lowerCovers_spec hneT huT hchk F (L := topoList cs p)
    (by rw [topoList, List.length_map, List.length_range, hlenT])
    (fun a ha m => by
      rw [hlenT] at ha
      rw [hasOf, ← hperm.get_inv ha, hrow _ (hperm.inv_lt ha), hperm.get_inv ha, hbit, topoList,
        ListAux.getD_map_range _ _ _ _ ha])
  rw [hlenT] at hsub hcov
  have hsublen := hsub.1
  have hfin := finalDict_perm (n := cs.length) hperm.nodup (fun t ht => hperm.mem_iff.mpr ht) sub 0
    (by rw [hsublen, Nat.zero_add]; exact Nat.le_refl _) hsub.uniform
  simp only [orderExtentsComparisonCode, hmax, ebas, topologicalSorting_nodup hnd true, hpdef, hchk, est, esub,
    hp.length_eq, bne_self_eq_false, Bool.not_true, Bool.false_eq_true, if_false]
  rw [hfin, hsublen, orderExtentsComparison]
  exact congrArg Except.ok (List.map_congr_left fun t ht => by
    rw [Nat.zero_add, hcov t (List.mem_range.mp ht)])

/-- if some listed extent is at least as long as every object index is large (e.g. the top extent
    `0..G-1` of a complete concept set), the `isets2bas` call cannot fail -/
theorem inRange_of_top {cs : List (List Nat)} {top : List Nat} (ht : top ∈ cs)
    (hfull : ∀ e ∈ cs, ∀ x ∈ e, x < top.length) : inRangeB cs = true := by
  cases cs with
  | nil => cases ht
  | cons c r =>
    obtain ⟨h1, h2⟩ := ListAux.le_foldl_max (r.map List.length) c.length
    rw [List.foldl_map] at h1 h2
    have htop : top.length ≤ r.foldl (fun m e => max m e.length) c.length := by
      rcases List.mem_cons.mp ht with rfl | ht'
      · exact h1
      · exact h2 _ (List.mem_map_of_mem ht')
    simp only [inRangeB, maxLen, List.all_eq_true, decide_eq_true_eq]
    exact fun e he x hx => Nat.lt_of_lt_of_le (hfull e he x hx) htop

end Fca.Casp
