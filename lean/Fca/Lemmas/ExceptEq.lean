/-
  Results of the models are values of `Except`; core Lean has no `DecidableEq` for it.  The closed examples and
  witnesses that compare such results by `decide` take the instance from here.
-/
deriving instance DecidableEq for Except
