/-
  Every backend's model of every table operation computes the value `Spec.Table` assigns to it (property C05),
  on arguments in scope (`Op.Valid`); `FormalContext.__getitem__`, `.T`, `~` on top of that.
-/
import Fca.Spec.Table
import Fca.Lemmas.AllI
namespace Fca
open Spec.Table

def Sel.Valid (s : Sel) (n : Nat) : Prop :=
  match s with
  | .idx xs => ∀ x ∈ xs, x < n
  | .slice _ _ c => c ≠ some 0

def Key.Valid (k : Key) (n : Nat) : Prop :=
  match k with
  | .int i => i < n
  | .sel s => s.Valid n

def Item.Valid (it : Item) (t : Table) : Prop :=
  match it with
  | .one k => k.Valid t.height
  | .two r c => r.Valid t.height ∧ c.Valid t.width

def OptIdx.Valid (sel : Option (List Nat)) (n : Nat) : Prop :=
  ∀ xs, sel = some xs → ∀ x ∈ xs, x < n

def OptIdx.Nodup (sel : Option (List Nat)) : Prop := ∀ xs, sel = some xs → xs.Nodup

/-- the scope of property C05 for one operation on table `t` -/
def Op.Valid (op : Op) (t : Table) : Prop :=
  match op with
  | .getitem it => it.Valid t
  | .all _ r c => OptIdx.Valid r t.height ∧ OptIdx.Valid c t.width
  | .any _ r c => OptIdx.Valid r t.height ∧ OptIdx.Valid c t.width
  | .allI _ r c => OptIdx.Valid r t.height ∧ OptIdx.Valid c t.width
  | .anyI _ r c => OptIdx.Valid r t.height ∧ OptIdx.Valid c t.width
  | .sum _ r c => OptIdx.Valid r t.height ∧ OptIdx.Valid c t.width ∧ OptIdx.Nodup c
  | .and o => o.WF
  | .or o => o.WF
  | .eq _ o => o.WF
  | _ => True

/-- the scope of the context-level part: any item whose integers and index lists are in range
    (slices with a non-zero step), a well-formed second context for `==`. -/
def COp.Valid (op : COp) (t : Table) : Prop :=
  match op with
  | .getitem it => it.Valid t
  | .eq K' => K'.table.WF
  | _ => True

/-- rows of one length (what `_validate_data` accepts) -/
def Rect (rows : List Row) : Prop := ∀ r ∈ rows, r.length = (rows.headD []).length

/-- every query of the history is in scope for the content held when it is asked -/
def HistValid : Table → List Step → Prop
  | _, [] => True
  | t, .query op :: rest => op.Valid t ∧ HistValid t rest
  | _, .setData rows :: rest => Rect rows ∧ HistValid (Table.ofRows rows) rest

/-- context histories: queries in scope; new data of the same shape; new name lists of the right length -/
def CHistValid : Table → List CStep → Prop
  | _, [] => True
  | t, .query op :: rest => op.Valid t ∧ CHistValid t rest
  | t, .setData rows :: rest =>
      Rect rows ∧ (Table.ofRows rows).height = t.height ∧ (Table.ofRows rows).width = t.width ∧
      CHistValid (Table.ofRows rows) rest
  | t, .setObjNames ns :: rest => ns.length = t.height ∧ CHistValid t rest
  | t, .setAttrNames ns :: rest => ns.length = t.width ∧ CHistValid t rest

/-- the offset of the `k`-th element of a `range` of `⌈d / st⌉` elements (none unless `c` holds): `k < ⌈d / st⌉` steps of
    size `st > 0` stay below `d` -/
theorem range_offset_bounds {d st : Int} {k : Nat} (hst : 0 < st) (c : Prop) [Decidable c]
    (hk : k < if c then ((d + st - 1) / st).toNat else 0) : 0 ≤ (k : Int) * st ∧ (k : Int) * st < d := by
  split at hk
  · have h := (Int.le_ediv_iff_mul_le hst).mp (Int.add_one_le_of_lt (Int.lt_toNat.mp hk))
    rw [Int.add_mul, Int.one_mul, Int.sub_eq_add_neg, Int.add_right_comm] at h
    exact ⟨Int.mul_nonneg (Int.natCast_nonneg k) (Int.le_of_lt hst), Int.lt_of_le_sub_one (Int.le_of_add_le_add_right h)⟩
  · exact absurd hk (Nat.not_lt_zero k)

/-- `PySlice_AdjustIndices` moves a bound into `[lower, upper]` -/
theorem clamp_bounds {n lower upper : Int} (hl : lower ≤ 0) (hlu : lower ≤ upper) (hu : n - 1 ≤ upper) (v : Int) :
    lower ≤ (if v < 0 then (if v + n < lower then lower else v + n) else (if v > upper then upper else v)) ∧
    (if v < 0 then (if v + n < lower then lower else v + n) else (if v > upper then upper else v)) ≤ upper := by
  by_cases h1 : v < 0
  · rw [if_pos h1]
    by_cases h2 : v + n < lower
    · rw [if_pos h2]; exact ⟨Int.le_refl _, hlu⟩
    · rw [if_neg h2]
      exact ⟨Int.not_lt.mp h2, Int.le_trans (Int.le_sub_one_of_lt (Int.add_lt_of_lt_sub_right (by rwa [Int.sub_self]))) hu⟩
  · rw [if_neg h1]
    by_cases h2 : v > upper
    · rw [if_pos h2]; exact ⟨hlu, Int.le_refl _⟩
    · rw [if_neg h2]; exact ⟨Int.le_trans hl (Int.not_lt.mp h1), Int.not_lt.mp h2⟩

/-- the elements of `range(s, e, st)` index a sequence of length `n` when `s` and `e` lie in `[0, n]` (`st > 0`),
    in `[-1, n - 1]` (`st < 0`) -/
theorem pyRange_lt {n k : Nat} {s e st lower upper : Int} (h0 : st ≠ 0)
    (hl : lower = if st < 0 then -1 else 0) (hu : upper = if st < 0 then (n : Int) - 1 else n)
    (hs : lower ≤ s ∧ s ≤ upper) (he : lower ≤ e ∧ e ≤ upper)
    (hk : k < if st > 0 then (if s < e then ((e - s + st - 1) / st).toNat else 0)
      else (if e < s then ((s - e + (-st) - 1) / (-st)).toNat else 0)) : (s + (k : Int) * st).toNat < n := by
  by_cases hpos : st > 0
  · rw [if_pos hpos] at hk
    rw [if_neg (Int.not_lt.mpr (Int.le_of_lt hpos))] at hl hu
    obtain ⟨h1, h2⟩ := range_offset_bounds hpos _ hk
    subst hl hu
    exact (Int.toNat_lt (Int.add_nonneg hs.1 h1)).mpr (Int.lt_of_lt_of_le (Int.add_lt_of_lt_sub_left h2) he.2)
  · have hneg : st < 0 := Int.lt_iff_le_and_ne.mpr ⟨Int.not_lt.mp hpos, h0⟩
    rw [if_neg hpos] at hk
    rw [if_pos hneg] at hl hu
    obtain ⟨h1, h2⟩ := range_offset_bounds (Int.neg_pos_of_neg hneg) _ hk
    rw [Int.mul_neg] at h1 h2
    subst hl hu
    exact (Int.toNat_lt (Int.add_one_le_of_lt (Int.lt_of_le_of_lt he.1 (Int.lt_add_of_neg_lt_sub_right h2)))).mpr
      (Int.lt_of_le_sub_one (Int.add_zero ((n : Int) - 1) ▸ Int.add_le_add hs.2 (Int.neg_nonneg.mp h1)))

theorem sliceIndices_lt (a b c : Option Int) (len : Nat) : ∀ x ∈ sliceIndices a b c len, x < len := by
  intro x hx
  unfold sliceIndices at hx
  -- the model's `let`s stay local definitions; then: `clamp` lands in `[lower, upper]` (`clamp_bounds`), a missing bound
  -- is an end of that interval, and a `range` between two such bounds stays below `len` (`pyRange_lt`)
  extract_lets n st lower upper clamp s e cnt at hx
  split at hx
  · cases hx
  · rename_i h0
    obtain ⟨k, hk, rfl⟩ := List.mem_map.mp hx
    have hlu : lower ≤ 0 ∧ lower ≤ upper ∧ n - 1 ≤ upper := by
      simp only [lower, upper]
      by_cases h : st < 0
      · rw [if_pos h, if_pos h]
        exact ⟨by decide, Int.sub_le_sub_right (Int.natCast_nonneg len) 1, Int.le_refl _⟩
      · rw [if_neg h, if_neg h]
        exact ⟨Int.le_refl _, Int.natCast_nonneg len, Int.sub_le_self _ (by decide)⟩
    have hclamp : ∀ v, lower ≤ clamp v ∧ clamp v ≤ upper := clamp_bounds hlu.1 hlu.2.1 hlu.2.2
    refine pyRange_lt (lower := lower) (upper := upper) h0 rfl rfl ?_ ?_ (List.mem_range.mp hk)
    · cases a with
      | none =>
        simp only [s]
        split <;> simp only [Int.le_refl, hlu.2.1, and_self]
      | some v => exact hclamp v
    · cases b with
      | none =>
        simp only [e]
        split <;> simp only [Int.le_refl, hlu.2.1, and_self]
      | some v => exact hclamp v

/-- `slice(0, w)` over a sequence of length `w` is everything (the default column slice of
    `FormalContext.__getitem__`) -/
theorem sliceIndices_full (w : Nat) : sliceIndices (some 0) (some (w : Int)) none w = List.range w := by
  have h1 : ¬ (w : Int) < 0 := Int.not_lt.mpr (Int.natCast_nonneg w)
  simp only [sliceIndices, Option.getD_none, Int.reduceEq, Int.reduceLT, if_false, if_true, h1, Int.lt_irrefl,
    gt_iff_lt, Int.sub_zero, Int.add_sub_cancel, Int.ediv_one, Int.toNat_natCast, Int.mul_one, Int.zero_add]
  split
  · exact List.map_id' _
  · rename_i h
    cases Nat.eq_zero_of_not_pos (mt Int.natCast_pos.mpr h)
    rfl

theorem Sel.resolve_lt {s : Sel} {n : Nat} (h : s.Valid n) : ∀ x ∈ s.resolve n, x < n := by
  cases s with
  | idx xs => exact h
  | slice a b c => exact sliceIndices_lt a b c n

theorem Table.data_eq_cells (t : Table) (h : t.WF) : t.data = cells t (allRows t) (allCols t) :=
  t.data_eq_map_row.trans (Table.map_row t h (fun _ hi => List.mem_range.mp hi) id)

theorem Table.ofRows_data (rows : List Row) : Table.ofRows (Table.ofRows rows).data = Table.ofRows rows := rfl

theorem Table.ofRows_wf {rows : List Row} {w : Nat} (h : ∀ r ∈ rows, r.length = w) : (Table.ofRows rows).WF := by
  intro r hr
  cases rows with
  | nil => cases hr
  | cons r0 rs =>
    simp only [Table.ofRows, List.headD_cons]
    rw [h r hr, h r0 List.mem_cons_self]

theorem Spec.Table.sub_wf (t : Table) (rows cols : List Nat) : (sub t rows cols).WF :=
  Table.ofRows_wf (w := cols.length) fun r hr => by
    obtain ⟨i, _, rfl⟩ := List.mem_map.mp hr
    exact List.length_map _

theorem N.takeRows_data (t : Table) (rs : Sel) : N.takeRows t.data rs = (rs.resolve t.height).map t.row := rfl

theorem N.getColumn_eq (t : Table) (rs : Sel) (j : Nat) : N.getColumn t rs j = colSel t (rs.resolve t.height) j := by
  simp only [N.getColumn, N.takeRows_data, N.col, List.map_map]; rfl

theorem N.getSubtable_some (t : Table) (rs cs : Sel) :
    N.getSubtable t rs (some cs) = sub t (rs.resolve t.height) (cs.resolve t.width) := by
  match rs, cs with
  | .idx rows, .idx cols => rfl
  | .idx rows, .slice a b c => simp only [N.getSubtable, N.takeRows_data, N.takeCols, List.map_map]; rfl
  | .slice a b c, s => simp only [N.getSubtable, N.takeRows_data, N.takeCols, List.map_map]; rfl

section
variable (t : Table) (h : t.WF)
include h

theorem takeSel_row {i : Nat} (hi : i < t.height) (s : Sel) :
    takeSel (t.row i) false s = rowSel t i (s.resolve t.width) := by
  simp only [takeSel, Table.row_length t h hi]; rfl

theorem ofRows_map_row {rs : Sel} (hv : rs.Valid t.height) :
    Table.ofRows ((rs.resolve t.height).map t.row) = sub t (rs.resolve t.height) (allCols t) :=
  congrArg Table.ofRows (Table.map_row t h (Sel.resolve_lt hv) id)

/-- the shared dispatch, given what the backend's four accessors return; without a column selection every backend
    hands out the stored rows, and these are the cells of all columns -/
theorem getitemDispatch_eq {gr : Nat → Option Sel → Row} {gc : Sel → Nat → Row}
    {gs : Sel → Option Sel → Table}
    (hgr0 : ∀ i, gr i none = t.row i)
    (hgr : ∀ i, i < t.height → ∀ cs, gr i (some cs) = rowSel t i (cs.resolve t.width))
    (hgc : ∀ rs j, gc rs j = colSel t (rs.resolve t.height) j)
    (hgs0 : ∀ rs, gs rs none = Table.ofRows ((rs.resolve t.height).map t.row))
    (hgs : ∀ rs, rs.Valid t.height → ∀ cs, gs rs (some cs) = sub t (rs.resolve t.height) (cs.resolve t.width))
    (it : Item) (hv : it.Valid t) : getitemDispatch t.get gr gc gs it = Spec.Table.getitem t it := by
  match it, hv with
  | .one (.int i), hv => exact congrArg Res.bools ((hgr0 i).trans (Table.row_eq_map t h hv))
  | .one (.sel s), hv => exact congrArg Res.table ((hgs0 s).trans (ofRows_map_row t h hv))
  | .two (.int i) (.int j), _ => rfl
  | .two (.int i) (.sel cs), hv => exact congrArg Res.bools (hgr i hv.1 cs)
  | .two (.sel rs) (.int j), _ => exact congrArg Res.bools (hgc rs j)
  | .two (.sel rs) (.sel cs), hv => exact congrArg Res.table (hgs rs hv.1 cs)

theorem B.getRow_some (i : Nat) (hi : i < t.height) (cs : Sel) :
    B.getRow t i (some cs) = rowSel t i (cs.resolve t.width) := by
  cases cs with
  | slice a b c => exact takeSel_row t h hi _
  | idx xs => rfl

theorem B.getSubtable_some (rs : Sel) (hv : rs.Valid t.height) (cs : Sel) :
    B.getSubtable t rs (some cs) = sub t (rs.resolve t.height) (cs.resolve t.width) := by
  cases cs with
  | slice a b c =>
    exact congrArg Table.ofRows (List.map_congr_left fun i hi => takeSel_row t h (Sel.resolve_lt hv i hi) _)
  | idx xs => rfl

theorem run_getitem (b : Backend) (it : Item) (hv : it.Valid t) :
    run b (.getitem it) t = Spec.Table.getitem t it := by
  cases b
  · exact getitemDispatch_eq t h (fun _ => rfl) (fun _ _ _ => rfl) (fun _ _ => rfl) (fun _ => rfl)
      (fun _ _ _ => rfl) it hv
  · exact getitemDispatch_eq t h (fun _ => rfl) (B.getRow_some t h) (fun _ _ => rfl) (fun _ => rfl)
      (B.getSubtable_some t h) it hv
  · exact getitemDispatch_eq t h (fun _ => rfl) (fun i hi => takeSel_row t h hi) (N.getColumn_eq t)
      (fun rs => by cases rs <;> rfl) (fun rs _ => N.getSubtable_some t rs) it hv

end

theorem foldl_modify_succ (S : List Nat) (v : Nat) (vs : List Nat) :
    (S.map Nat.succ).foldl (fun acc j => acc.modify j (· + 1)) (v :: vs)
      = v :: S.foldl (fun acc j => acc.modify j (· + 1)) vs := by
  induction S generalizing vs with
  | nil => rfl
  | cons j S ih =>
    simp only [List.map_cons, List.foldl_cons, Nat.succ_eq_add_one, List.modify_succ_cons]
    exact ih _

/-- `for j in bits.search(1): vals[j] += 1` adds the bit vector to the counters -/
theorem B.bump_eq (vals : List Nat) (bits : List Bool) (hlen : vals.length = bits.length) :
    B.bump vals bits = List.zipWith (fun v b => v + if b then 1 else 0) vals bits := by
  induction bits generalizing vals with
  | nil =>
    cases List.eq_nil_of_length_eq_zero hlen
    rfl
  | cons b bs ih =>
    cases vals with
    | nil => cases hlen
    | cons v vs =>
      have hl : vs.length = bs.length := Nat.succ.inj hlen
      unfold B.bump at *
      rw [search1_cons, List.foldl_append]
      cases b with
      | false =>
        simp only [Bool.false_eq_true, if_false, List.foldl_nil, List.zipWith_cons_cons, Nat.add_zero]
        rw [foldl_modify_succ, ih vs hl]
      | true =>
        simp only [if_true, List.foldl_cons, List.foldl_nil, List.modify_zero_cons, List.zipWith_cons_cons]
        rw [foldl_modify_succ, ih vs hl]

theorem foldl_bump_eq (w : Nat) (rows : List Nat) (bitsOf : Nat → List Bool) (g : Nat → Nat → Bool)
    (hb : ∀ i ∈ rows, bitsOf i = (List.range w).map (g i)) (f : Nat → Nat) :
    rows.foldl (fun vals i => B.bump vals (bitsOf i)) ((List.range w).map f)
      = (List.range w).map fun c => f c + (rows.filter fun i => g i c).length := by
  induction rows generalizing f with
  | nil => simp
  | cons i rest ih =>
    simp only [List.foldl_cons]
    rw [hb i List.mem_cons_self, B.bump_eq _ _ (by simp), zipWith_map_map_self,
      ih (fun k hk => hb k (List.mem_cons_of_mem _ hk))]
    apply List.map_congr_left
    intro c _
    rw [List.filter_cons]
    cases g i c
    · rfl
    · exact Nat.add_right_comm (f c) 1 _

section
variable (t : Table) (h : t.WF)
include h
variable (rows cols : Option (List Nat)) (hr : OptIdx.Valid rows t.height) (hc : OptIdx.Valid cols t.width)
include hr

theorem L.allAll_spec : L.allAll t rows cols
    = Spec.Table.all t (rows.getD (allRows t)) (cols.getD (allCols t)) := by
  have e : L.allAll t rows cols = pyAll (L.allPerRow t rows cols) := by
    cases cols <;> simp only [L.allAll, L.allPerRow, pyAll_map]
  rw [e, L.allPerRow_eq t h rows cols hr, pyAll_map]; rfl

theorem L.anyAny_spec : L.anyAny t rows cols
    = Spec.Table.any t (rows.getD (allRows t)) (cols.getD (allCols t)) := by
  have e : L.anyAny t rows cols = pyAny (L.anyPerRow t rows cols) := by
    cases cols <;> simp only [L.anyAny, L.anyPerRow, pyAny_map]
  rw [e, L.anyPerRow_eq t h rows cols hr, pyAny_map]; rfl

include hc

theorem B.allAll_spec : B.allAll t rows cols
    = Spec.Table.all t (rows.getD (allRows t)) (cols.getD (allCols t)) := by
  have e : B.allAll t rows cols = pyAll (B.allPerRow t rows cols) := by
    cases cols <;> simp only [B.allAll, B.allPerRow, pyAll_map]
  rw [e, B.allPerRow_eq t h rows cols hr hc, pyAll_map]; rfl

theorem B.anyAny_spec : B.anyAny t rows cols
    = Spec.Table.any t (rows.getD (allRows t)) (cols.getD (allCols t)) := by
  have e : B.anyAny t rows cols = pyAny (B.anyPerRow t rows cols) := by
    cases cols <;> simp only [B.anyAny, B.anyPerRow, pyAny_map]
  rw [e, B.anyPerRow_eq t h rows cols hr hc, pyAny_map]; rfl

/-- `(row & mask).count()` counts the selected true cells — needs a duplicate-free column list -/
theorem B.sumPerRow_spec (hnd : OptIdx.Nodup cols) : B.sumPerRow t rows cols
    = Spec.Table.sumPerRow t (rows.getD (allRows t)) (cols.getD (allCols t)) := by
  cases cols with
  | none =>
    exact (Table.map_row t h (OptIdx.getD_lt hr) B.count).trans (by simp only [B.count, countTrue_map]; rfl)
  | some cs =>
    exact (Table.map_row t h (OptIdx.getD_lt hr) fun r => B.count (B.band r (B.maskIn t cs))).trans (by
      simp only [B.band, B.maskIn, zipWith_map_map_self, B.count, countTrue_map,
        filter_mask_length t.width cs (hc cs rfl) (hnd cs rfl)]
      rfl)

theorem B.sumPerColumn_spec : B.sumPerColumn t rows cols
    = Spec.Table.sumPerColumn t (rows.getD (allRows t)) (cols.getD (allCols t)) := by
  have hlt := OptIdx.getD_lt hr
  have e : B.rowsOf t rows = rows.getD (List.range t.height) := rfl
  cases cols with
  | none =>
    simp only [B.sumPerColumn, Spec.Table.sumPerColumn, Option.getD_none, allCols, allRows, e]
    rw [replicate_eq_map_range,
      foldl_bump_eq t.width _ (fun i => t.row i) (fun i c => t.get i c)
        (fun i hi => Table.row_eq_map t h (hlt i hi))]
    simp only [Nat.zero_add]
  | some cs =>
    simp only [B.sumPerColumn, Spec.Table.sumPerColumn, Option.getD_some, allRows, e]
    rw [replicate_eq_map_range,
      foldl_bump_eq t.width _ (fun i => B.band (t.row i) (B.maskIn t cs)) (fun i c => t.get i c && cs.contains c)
        (fun i hi => by
          rw [Table.row_eq_map t h (hlt i hi)]
          simp only [B.band, B.maskIn, zipWith_map_map_self])]
    apply List.map_congr_left
    intro c hcm
    rw [ListAux.getD_map_range _ _ c 0 (hc cs rfl c hcm)]
    simp only [Nat.zero_add, List.contains_eq_mem, hcm, decide_true, Bool.and_true]

omit hc

theorem N.allAll_spec : N.allAll t rows cols
    = Spec.Table.all t (rows.getD (allRows t)) (cols.getD (allCols t)) := by
  simp only [N.allAll, N.slice_eq t h rows cols hr, pyAll, List.all_flatten, List.all_map, Function.comp_def]
  rfl

theorem N.anyAny_spec : N.anyAny t rows cols
    = Spec.Table.any t (rows.getD (allRows t)) (cols.getD (allCols t)) := by
  simp only [N.anyAny, N.slice_eq t h rows cols hr, pyAny, List.any_flatten, List.any_map, Function.comp_def]
  rfl

theorem N.sumAxis1_spec : N.sumAxis t 1 rows cols
    = Spec.Table.sumPerRow t (rows.getD (allRows t)) (cols.getD (allCols t)) := by
  simp only [N.sumAxis, N.slice_eq t h rows cols hr, Nat.one_ne_zero, if_false, List.map_map]
  exact List.map_congr_left fun i _ => countTrue_map _ _

theorem N.sumAxis0_spec : N.sumAxis t 0 rows cols
    = Spec.Table.sumPerColumn t (rows.getD (allRows t)) (cols.getD (allCols t)) := by
  simp only [N.sumAxis, N.slice_eq t h rows cols hr, if_true, N.axis0_cells N.countTrue]
  exact List.map_congr_left fun c _ => countTrue_map _ _

theorem N.sumAll_spec : N.sumAll t rows cols
    = Spec.Table.sum t (rows.getD (allRows t)) (cols.getD (allCols t)) := by
  simp only [N.sumAll, N.slice_eq t h rows cols hr, N.countTrue, List.filter_flatten, List.length_flatten,
    List.map_map]
  exact congrArg List.sum (List.map_congr_left fun i _ => countTrue_map _ _)

end

theorem toList_eq_data (b : Backend) (t : Table) : toList b t = t.data := by
  cases b
  · rfl
  · simp [toList, B.toList]
  · rfl

/-- `init_bintable` hands the table over when the class matches and rebuilds it from its rows otherwise
    (the special case for empty data is what `ofRows` gives anyway) -/
theorem convert_eq (src dst : Backend) (t : Table) :
    convert src dst t = if src = dst then t else Table.ofRows t.data := by
  unfold convert
  split
  · rfl
  · split
    · rename_i h0
      rw [List.eq_nil_of_length_eq_zero h0]; rfl
    · simp only [toList_eq_data]

theorem N.transpose_spec (t : Table) : N.transpose t = Spec.Table.transpose t := by
  simp only [N.transpose, N.transposeArr, Spec.Table.transpose, allCols, allRows]
  rw [Table.data_eq_map_row t]
  simp only [List.map_map]
  rfl

theorem run_transpose (b : Backend) (t : Table) : run b .transpose t = Spec.Table.run .transpose t := by
  cases b
  · rfl
  · rfl
  · exact congrArg Res.table (N.transpose_spec t)

section
variable (t : Table) (h : t.WF)
include h

theorem toList_spec (b : Backend) : toList b t = Spec.Table.toList t := by
  rw [toList_eq_data, Table.data_eq_cells t h]; rfl

theorem map_cells (f : Bool → Bool) :
    (t.data.map fun r => r.map f) = (allRows t).map fun i => (allCols t).map fun j => f (t.get i j) := by
  rw [Table.data_eq_cells t h]
  simp only [cells, List.map_map, Function.comp_def]

theorem run_invert (b : Backend) : run b .invert t = Spec.Table.run .invert t := by
  have hc : Table.ofRows (t.data.map fun r => r.map fun v => !v) = Spec.Table.invert t :=
    congrArg Table.ofRows (map_cells t h fun v => !v)
  cases b <;> exact congrArg Res.table hc

theorem pointwise_cells (f : Bool → Bool → Bool) (o : Table) (ho : o.WF)
    (hs : t.height = o.height ∧ t.width = o.width) :
    List.zipWith (fun ra rb => List.zipWith f ra rb) t.data o.data
      = (allRows t).map fun i => (allCols t).map fun j => f (t.get i j) (o.get i j) := by
  rw [Table.data_eq_cells t h, Table.data_eq_cells o ho]
  simp only [cells, allRows, allCols, ← hs.1, ← hs.2, zipWith_map_map_self]

/-- `&` / `|` of any backend: the shape assertion, then the rows combined cell by cell -/
theorem pointwise_res (f : Bool → Bool → Bool) (o : Table) (ho : o.WF) :
    exceptRes (if t.height = o.height ∧ t.width = o.width then
        .ok (Table.ofRows (List.zipWith (fun ra rb => List.zipWith f ra rb) t.data o.data))
      else .error .AssertionError)
      = if t.height = o.height ∧ t.width = o.width then .table (pointwise f t o) else .err .AssertionError := by
  by_cases hs : t.height = o.height ∧ t.width = o.width
  · simp only [if_pos hs, exceptRes, Spec.Table.pointwise, pointwise_cells t h f o ho hs]
  · simp only [if_neg hs, exceptRes]

theorem run_and (b : Backend) (o : Table) (ho : o.WF) : run b (.and o) t = Spec.Table.run (.and o) t := by
  cases b <;> exact pointwise_res t h (fun a b => a && b) o ho

theorem run_or (b : Backend) (o : Table) (ho : o.WF) : run b (.or o) t = Spec.Table.run (.or o) t := by
  cases b <;> exact pointwise_res t h (fun a b => a || b) o ho

theorem tableEq_spec (b b' : Backend) (o : Table) (ho : o.WF) :
    tableEq b t b' o = Spec.Table.eq t o := by
  unfold tableEq Spec.Table.eq
  by_cases hh : t.height = o.height
  · by_cases hw : t.width = o.width
    · -- same shape: every pair of backends compares the stored rows, and these are the cells
      have hdata : (t.data == o.data)
          = ((allRows t).all fun i => (allCols t).all fun j => t.get i j == o.get i j) := by
        rw [Table.data_eq_cells t h, Table.data_eq_cells o ho, allRows, allCols, allRows, allCols, ← hh, ← hw,
          Bool.eq_iff_iff, beq_iff_eq]
        simp only [cells, List.map_inj_left, List.all_eq_true, beq_iff_eq]
      simp only [hh, hw, ne_eq, not_true_eq_false, if_false, toList_eq_data, ite_self, beq_self_eq_true,
        Bool.true_and, hdata]
    · simp only [ne_eq, hh, hw, not_true_eq_false, not_false_eq_true, if_false, if_true, beq_eq_false_iff_ne.mpr hw,
        Bool.and_false, Bool.false_and]
  · simp only [ne_eq, hh, not_false_eq_true, if_true, beq_eq_false_iff_ne.mpr hh, Bool.false_and]

theorem convert_spec (src dst : Backend) : toList dst (convert src dst t) = Spec.Table.toList t := by
  have hd : (convert src dst t).data = t.data := by rw [convert_eq]; split <;> rfl
  rw [toList_eq_data, hd, Table.data_eq_cells t h]; rfl

end

section
variable (t : Table) (h : t.WF) (b : Backend)
include h
variable (rows cols : Option (List Nat)) (hr : OptIdx.Valid rows t.height) (hc : OptIdx.Valid cols t.width)
include hr hc

theorem allIRes_spec (ax : Int) : allIRes b t ax rows cols = Spec.Table.run (.allI ax rows cols) t := by
  simp only [allIRes, Spec.Table.run, allI_axis0 t h b rows cols hr hc, allI_axis1 t h b rows cols hr hc]
  rfl

theorem anyIRes_spec (ax : Int) : anyIRes b t ax rows cols = Spec.Table.run (.anyI ax rows cols) t := by
  simp only [anyIRes, Spec.Table.run, anyI_axis0 t h b rows cols hr hc, anyI_axis1 t h b rows cols hr hc]
  rfl

theorem run_all (ax : Option Int) : run b (.all ax rows cols) t = Spec.Table.run (.all ax rows cols) t := by
  cases b
  · show L.all t ax rows cols = _
    simp only [L.all, L.allAll_spec t h rows cols hr, L.allPerColumn_eq, L.allPerRow_eq t h rows cols hr]; rfl
  · show B.all t ax rows cols = _
    simp only [B.all, B.allAll_spec t h rows cols hr hc, B.allPerColumn_eq t h rows cols hr hc,
      B.allPerRow_eq t h rows cols hr hc]; rfl
  · show N.all t ax rows cols = _
    simp only [N.all, N.allAll_spec t h rows cols hr, N.allAxis0_eq t h rows cols hr,
      N.allAxis1_eq t h rows cols hr]; rfl

theorem run_any (ax : Option Int) : run b (.any ax rows cols) t = Spec.Table.run (.any ax rows cols) t := by
  cases b
  · show L.any t ax rows cols = _
    simp only [L.any, L.anyAny_spec t h rows cols hr, L.anyPerColumn_eq, L.anyPerRow_eq t h rows cols hr]; rfl
  · show B.any t ax rows cols = _
    simp only [B.any, B.anyAny_spec t h rows cols hr hc, B.anyPerColumn_eq t h rows cols hr hc,
      B.anyPerRow_eq t h rows cols hr hc]; rfl
  · show N.any t ax rows cols = _
    simp only [N.any, N.anyAny_spec t h rows cols hr, N.anyAxis0_eq t h rows cols hr,
      N.anyAxis1_eq t h rows cols hr]; rfl

theorem run_sum (ax : Option Int) (hnd : OptIdx.Nodup cols) :
    run b (.sum ax rows cols) t = Spec.Table.run (.sum ax rows cols) t := by
  cases b
  · show L.sum t ax rows cols = _
    simp only [L.sum, L.sumAll, L.sumPerColumn_eq, L.sumPerRow_eq t h rows cols hr]; rfl
  · show B.sum t ax rows cols = _
    simp only [B.sum, B.sumAll, B.sumPerColumn_spec t h rows cols hr hc, B.sumPerRow_spec t h rows cols hr hc hnd]
    rfl
  · show N.sum t ax rows cols = _
    simp only [N.sum, N.sumAll_spec t h rows cols hr, N.sumAxis0_spec t h rows cols hr,
      N.sumAxis1_spec t h rows cols hr]; rfl

end

theorem obs_mkCtx (b : Backend) (t : Table) (objs attrs : List String) :
    obs (mkCtx b t objs attrs) = mkObs t objs attrs := by
  unfold mkCtx mkObs
  simp only [apply_ite obs]
  rfl

theorem mkCtx_backend (b : Backend) (t : Table) (objs attrs : List String) (K' : Ctx)
    (hk : mkCtx b t objs attrs = .ctx K') : K'.backend = b := by
  unfold mkCtx at hk
  split at hk
  · cases hk
  · split at hk
    · cases hk
    · cases hk; rfl

theorem sliceList_key (ns : List String) (k : Key) (n : Nat) (hn : ns.length = n) :
    sliceList ns k = names ns (keyIdx k n) := by
  match k with
  | .int i => rfl
  | .sel (.idx xs) => rfl
  | .sel (.slice a b c) => simp only [sliceList, takeSel, hn]; rfl

theorem Key.wrapInt_valid {k : Key} {n : Nat} (h : k.Valid n) : k.wrapInt.Valid n := by
  match k, h with
  | .int i, h => intro x hx; simp at hx; subst hx; exact h
  | .sel s, h => exact h

theorem getitem_wrapInt (t : Table) (r c : Key) :
    Spec.Table.getitem t (.two r.wrapInt c.wrapInt) = .table (sub t (keyIdx r t.height) (keyIdx c t.width)) := by
  cases r <;> cases c <;> rfl

theorem Ctx.runC_of_mkCtx (K : Ctx) (op : COp) {T : Table} {objs attrs : List String}
    (h1 : K.runC op = mkCtx K.backend T objs attrs) :
    obs (K.runC op) = mkObs T objs attrs ∧ (∀ K', K.runC op = .ctx K' → K'.backend = K.backend) := by
  rw [h1, obs_mkCtx]
  exact ⟨rfl, fun K' hk => mkCtx_backend _ _ _ _ K' hk⟩

theorem Ctx.transposeC_eq (K : Ctx) :
    K.transposeC = mkCtx K.backend (Spec.Table.transpose K.table) K.attrNames K.objNames := by
  simp only [Ctx.transposeC, run_transpose, Spec.Table.run, Spec.Table.transpose, Table.ofRows_data]

section
variable (K : Ctx) (hwf : K.table.WF)
include hwf

/-- `K[r, c]` with at least one selection among `r`, `c`: the sub-context on the selected objects × attributes -/
theorem Ctx.getitem_sub (hobj : K.objNames.length = K.nObjects) (hattr : K.attrNames.length = K.nAttributes)
    (r c : Key) (hr : r.Valid K.table.height) (hc : c.Valid K.table.width) (hnot : (r.isInt && c.isInt) = false) :
    K.getitem (.two r c) = mkCtx K.backend (sub K.table (keyIdx r K.table.height) (keyIdx c K.table.width))
      (names K.objNames (keyIdx r K.table.height)) (names K.attrNames (keyIdx c K.table.width)) := by
  have hv : (Item.two r.wrapInt c.wrapInt).Valid K.table := ⟨Key.wrapInt_valid hr, Key.wrapInt_valid hc⟩
  -- with two selections the wrapping changes nothing, so the table is indexed with the wrapped keys in every case
  have hdata : (if r.isInt != c.isInt then run K.backend (.getitem (.two r.wrapInt c.wrapInt)) K.table
      else run K.backend (.getitem (.two r c)) K.table)
      = .table (sub K.table (keyIdx r K.table.height) (keyIdx c K.table.width)) := by
    rw [← getitem_wrapInt, ← run_getitem K.table hwf K.backend _ hv]
    cases r <;> cases c <;> first | rfl | cases hnot
  simp only [Ctx.getitem, hdata, sliceList_key K.objNames r K.table.height hobj,
    sliceList_key K.attrNames c K.table.width hattr]

theorem Ctx.invertC_eq :
    K.invertC = mkCtx K.backend (Spec.Table.invert K.table) K.objNames (K.attrNames.map Ctx.toggleNot) := by
  simp only [Ctx.invertC, run_invert K.table hwf K.backend, Spec.Table.run]

end

theorem setData_eq (b : Backend) (rows : List Row) : setData b rows = Table.ofRows rows :=
  (convert_eq .lists b _).trans (ite_self _)

end Fca
