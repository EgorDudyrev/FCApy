/-
  Fca.Lemmas.LatticeQueryClosed — `POSet._closed_relation_cache_by_direct_cache` on a `children_dict` that holds the
  lower covers of a finite order: `closedLoop` refines the work list of Lemmas/ClosureWorklist, so it is empty after
  fewer than `2 ^ n` pops, never meets a stale index, and the resulting dictionary holds, for every element, exactly
  its strict descendants.
-/
import Fca.Lemmas.LatticeQueryDict
import Fca.Lemmas.ClosureWorklist
namespace Fca.LC

structure ClosedSetup (leq : Nat → Nat → Bool) (n : Nat) (μ : Nat → Nat) (direct : Dict) : Prop where
  po : PQ.IsPO leq n
  mono : ∀ a b, a < n → b < n → leq a b = true → a ≠ b → μ a < μ b
  keys : KeysNodup direct
  keysLt : ∀ p ∈ direct, p.1 < n
  children : ∀ i, i < n → ∃ l, dget direct i = some l ∧ ∀ x, x ∈ l ↔ x ∈ PQ.children leq n id i

section
variable {leq : Nat → Nat → Bool} {n : Nat} {μ : Nat → Nat} {direct : Dict}

theorem ClosedSetup.good_children (S : ClosedSetup leq n μ direct) : Good direct n (PQ.children leq n id) :=
  ⟨S.keys, S.keysLt, S.children⟩

theorem ClosedSetup.good_parents (S : ClosedSetup leq n μ direct) :
    Good (transposeHierarchy direct) n (PQ.parents leq n id) :=
  S.good_children.transpose (fun i _ x hx => (PQ.mem_descendants.mp (PQ.children_sub id i x hx)).1) fun _ hv _ =>
    (PQ.mem_parents_iff S.po PQ.isOrder_id).trans (and_congr_right fun _ =>
      ((PQ.mem_children_iff S.po PQ.isOrder_id).trans (and_iff_right hv)).symm)

theorem ClosedSetup.cover (S : ClosedSetup leq n μ direct) {i : Nat} (hi : i < n) :
    ∃ l, dget direct i = some l ∧ ∀ c, c ∈ l ↔ c < n ∧ Ord.Cover n (PQ.slt leq) c i :=
  (S.children i hi).imp fun _ h => ⟨h.1, fun c => (h.2 c).trans (PQ.mem_children_iff S.po PQ.isOrder_id)⟩

/-- the readiness test `direct[el] & visited == direct[el]` -/
def rdy (direct : Dict) (visited : List Nat) (z : Nat) : Bool :=
  ((dget direct z).getD []).all (visited.contains ·)

theorem rdy_iff {visited l : List Nat} {z : Nat} (hl : dget direct z = some l) :
    rdy direct visited z = true ↔ ∀ c ∈ l, c ∈ visited := by
  unfold rdy
  rw [hl]
  simp only [Option.getD_some, List.all_eq_true, List.contains_eq_mem, decide_eq_true_eq]

theorem ancestors_up (leq : Nat → Nat → Bool) (n x : Nat) : (PQ.ancestors leq n x).Nodup ∧
    ∀ a, a ∈ PQ.ancestors leq n x ↔ a < n ∧ PQ.slt leq x a = true :=
  ⟨PQ.descendants_nodup (leq := fun a b => leq b a) x, fun a => by
    rw [PQ.mem_ancestors, PQ.slt_iff]
    exact and_congr_right fun _ => and_congr_right fun _ => ne_comm⟩

theorem ClosedSetup.closedLoop_ok (S : ClosedSetup leq n μ direct) {ord : List Nat → List Nat}
    (hord : ∀ l, (ord l).Perm l) : ∀ (fuel : Nat) (toVisit visited : List Nat) (closed : Dict),
    WL.Inv n (PQ.slt leq) toVisit visited (dget closed) → KeysNodup closed →
    WL.wsum (PQ.ancestors leq n) toVisit < fuel →
    ∃ d, closedLoop direct (transposeHierarchy direct) ord fuel toVisit visited closed = .ok d ∧
      Good d n (PQ.descendants leq n) := by
  intro fuel
  induction fuel with
  | zero => exact fun _ _ _ _ _ h => absurd h (Nat.not_lt_zero _)
  | succ fuel ih =>
    intro toVisit visited closed I hkn hpot
    cases toVisit with
    | nil =>
      exact ⟨closed, rfl, hkn, fun p hp => (I.clOk p.1 p.2 (dget_of_mem hkn hp)).1, fun i hi =>
        (I.final S.po.strict hi).imp fun l h => ⟨h.1, fun x => (h.2 x).trans PQ.mem_descendants_iff.symm⟩⟩
    | cons a r =>
      obtain ⟨j, el, hfind, hel, hrdy⟩ := WL.find_first (find := findReady direct visited) (r := rdy direct visited)
        (a :: r) 0 (fun _ _ _ _ => rfl) ((I.exists_ready S.po.strict).imp fun x h => ⟨h.1,
          let ⟨_, hl, hlc⟩ := S.cover (I.tvLt x h.1)
          (rdy_iff hl).mpr fun c hc => h.2 c ((hlc c).mp hc).1 ((hlc c).mp hc).2⟩)
      have heln : el < n := I.tvLt _ (List.mem_of_getElem? hel)
      unfold closedLoop
      simp only [hfind, Nat.zero_add, List.getD_eq_getElem?_getD, hel, Option.getD_some]
      obtain ⟨rels, hrels, hrelsC⟩ := S.cover heln
      obtain ⟨T, hT, hTmem⟩ := S.good_parents.stores heln
      have hTnd : T.Nodup := by
        have := transposeHierarchy_valsNodup direct el
        rwa [hT] at this
      have hTcov : ∀ p, p ∈ ord T ↔ p < n ∧ Ord.Cover n (PQ.slt leq) el p := fun p =>
        (hord T).mem_iff.trans ((hTmem p).trans (PQ.mem_parents_iff S.po PQ.isOrder_id))
      simp only [hrels, hT, Option.getD_some]
      apply ih
      · exact I.step S.po.strict hel hrelsC ((rdy_iff hrels).mp hrdy) hTcov
          (fun x => mem_addElem.trans Or.comm)
          (ListAux.mem_foldl_union unionInto (fun a b => mem_unionInto b a) _ rels rels) (dget_dset closed el _)
      · exact dset_keysNodup hkn
      · exact Nat.lt_of_lt_of_le (Nat.lt_of_succ_le (WL.wsum_step S.po.strict (ancestors_up leq n) hel heln
          ((hord T).nodup_iff.mpr hTnd) fun p hp => (hTcov p).mp hp)) (Nat.le_of_lt_succ hpot)

theorem two_pow_le_closedFuel : ∀ n, 2 ^ n ≤ closedFuel n
  | 0 => Nat.le_refl _
  | m + 1 => Nat.le_trans (Nat.pow_le_pow_left (Nat.succ_le_succ (Nat.succ_pos m)) (m + 1))
      (Nat.pow_le_pow_right (Nat.succ_pos _) (Nat.le_succ _))

theorem ClosedSetup.closedByDirect_ok (S : ClosedSetup leq n μ direct) {ord : List Nat → List Nat}
    (hord : ∀ l, (ord l).Perm l) {fuel : Nat} (hf : closedFuel n ≤ fuel) :
    ∃ d, closedByDirect direct ord fuel = .ok d ∧ Good d n (PQ.descendants leq n) := by
  unfold closedByDirect
  have hmem : ∀ x, x ∈ (direct.filter fun p => p.2.length == 0).map (·.1) ↔ (x, []) ∈ direct := by
    intro x
    simp only [List.mem_map, List.mem_filter, beq_iff_eq, List.length_eq_zero_iff]
    exact ⟨fun ⟨p, ⟨hp, he⟩, e⟩ => by rw [← e, ← he]; exact hp, fun h => ⟨(x, []), ⟨h, rfl⟩, rfl⟩⟩
  have hnd : ((direct.filter fun p => p.2.length == 0).map (·.1)).Nodup :=
    List.Nodup.sublist (List.Sublist.map _ List.filter_sublist) S.keys
  generalize (direct.filter fun p => p.2.length == 0).map (·.1) = start at hmem hnd
  have hlt : ∀ x ∈ start, x < n := fun x hx => S.keysLt _ ((hmem x).mp hx)
  have hcov : ∀ {x l}, x < n → (x, l) ∈ direct → ∀ c, c ∈ l ↔ c < n ∧ Ord.Cover n (PQ.slt leq) c x := by
    intro x l hx hxl
    obtain ⟨l', hl', hlc⟩ := S.cover hx
    cases (dget_of_mem S.keys hxl).symm.trans hl'
    exact hlc
  refine S.closedLoop_ok hord fuel start [] [] (WL.Inv.start hlt fun x hx hall => ?_) List.nodup_nil ?_
  · obtain ⟨l, hl, _⟩ := S.children x hx
    obtain rfl : l = [] := List.eq_nil_iff_forall_not_mem.mpr fun c hc =>
      have h := (hcov hx (mem_of_dget hl) c).mp hc
      hall c h.1 h.2
    exact (hmem x).mpr (mem_of_dget hl)
  · exact Nat.lt_of_lt_of_le (WL.wsum_start_lt S.po.strict (ancestors_up leq n) hnd hlt
      fun q hq c hc h => nomatch (hcov (hlt q hq) ((hmem q).mp hq) c).mpr ⟨hc, h⟩)
      (Nat.le_trans (two_pow_le_closedFuel n) hf)

theorem cachedExtremes_eq {d : Dict} {R : Nat → List Nat} (g : Good d n R) :
    cachedExtremes d n = (List.range n).filter fun i => (R i).length == 0 := by
  unfold cachedExtremes
  refine List.filter_congr fun i hi => ?_
  obtain ⟨l, hl, hm⟩ := g.stores (List.mem_range.mp hi)
  rw [hl, Option.getD_some, Bool.eq_iff_iff, beq_iff_eq, beq_iff_eq, List.length_eq_zero_iff,
    List.length_eq_zero_iff, List.eq_nil_iff_forall_not_mem, List.eq_nil_iff_forall_not_mem]
  exact forall_congr' fun x => not_congr (hm x)

theorem ClosedSetup.init_ok (S : ClosedSetup leq n μ direct) {ord : List Nat → List Nat}
    (hord : ∀ l, (ord l).Perm l) {fuel : Nat} (hf : closedFuel n ≤ fuel)
    {b t : Nat} (hb : b < n) (hleast : ∀ j, j < n → leq b j = true)
    (ht : t < n) (hgreat : ∀ j, j < n → leq j t = true) :
    ∃ c, initFromChildren direct n ord fuel = .ok c ∧
      Good c.children n (PQ.children leq n id) ∧ Good c.descendants n (PQ.descendants leq n) ∧
      Good c.parents n (PQ.parents leq n id) ∧ Good c.ancestors n (PQ.ancestors leq n) ∧
      c.top = some t ∧ c.bottom = some b := by
  obtain ⟨desc, hdesc, gdesc⟩ := S.closedByDirect_ok hord hf
  have ganc : Good (transposeHierarchy desc) n (PQ.ancestors leq n) := by
    refine gdesc.transpose (fun i _ x hx => (PQ.mem_descendants.mp hx).1) fun v hv x => ?_
    rw [PQ.mem_ancestors, PQ.mem_descendants]
    exact ⟨fun ⟨hx, hle, hne⟩ => ⟨hx, hv, hle, Ne.symm hne⟩, fun ⟨hx, _, hle, hne⟩ => ⟨hx, hle, Ne.symm hne⟩⟩
  have hbots : cachedExtremes desc n = [b] :=
    (cachedExtremes_eq gdesc).trans (PQ.bottoms_eq_of_least S.po hb hleast)
  have htops : cachedExtremes (transposeHierarchy desc) n = [t] :=
    (cachedExtremes_eq ganc).trans (PQ.tops_eq_of_greatest S.po ht hgreat)
  refine ⟨⟨direct, desc, transposeHierarchy direct, transposeHierarchy desc, some t, some b⟩, ?_,
    S.good_children, gdesc, S.good_parents, ganc, rfl, rfl⟩
  unfold initFromChildren
  rw [hdesc]
  simp only [hbots, htops]

end
end Fca.LC
