/-
  The multipartite layout model (`Fca.Model.LayoutMP`): every node's final position is an
  affine image, with a positive factor, of (slot inside its layer, index of its layer); layers are
  ordered by level.  From that: total, injective, strictly antitone in the level.
-/
import Fca.Lemmas.Layout
namespace Fca.Layout

theorem mem_zip_map_range {α β : Type} (layer : List α) (f : Nat → β) (k : Nat) (v : α)
    (h : layer[k]? = some v) : (v, f k) ∈ layer.zip ((List.range layer.length).map f) := by
  obtain ⟨hk, rfl⟩ := List.getElem?_eq_some_iff.mp h
  refine List.mem_iff_getElem?.mpr ⟨k, List.getElem?_zip_eq_some.mpr ⟨h, ?_⟩⟩
  rw [List.getElem?_map, List.getElem?_range hk]
  rfl

theorem idx_lt_of_sorted {ks : List Nat} (h : ks.Pairwise (· < ·)) {a b x y : Nat}
    (ha : ks[a]? = some x) (hb : ks[b]? = some y) (hxy : y < x) : b < a := by
  obtain ⟨ha', rfl⟩ := List.getElem?_eq_some_iff.mp ha
  obtain ⟨hb', rfl⟩ := List.getElem?_eq_some_iff.mp hb
  exact (ListAux.pairwise_getElem_iff (fun _ _ => Nat.lt_asymm) h hb' ha').mp hxy

theorem mpLayerPos_length (W i h : Nat) : (mpLayerPos W i h).length = h := by
  simp [mpLayerPos]

theorem mpLoop_fst (W : Nat) (layers : List (List Nat)) (i : Nat) : (mpLoop W i layers).1 = layers.flatten := by
  induction layers generalizing i with
  | nil => rfl
  | cons layer rest ih => rw [mpLoop, List.flatten_cons, ih]

theorem mpLoop_len (W : Nat) (layers : List (List Nat)) (i : Nat) :
    (mpLoop W i layers).2.length = (mpLoop W i layers).1.length := by
  induction layers generalizing i with
  | nil => rfl
  | cons layer rest ih => rw [mpLoop, List.length_append, List.length_append, mpLayerPos_length, ih]

/-- the raw (unscaled) row of slot `k` of layer number `i` -/
def mpRaw (W i k h : Nat) : Rat × Rat :=
  ((i : Rat) - ((W : Rat) - 1) / 2, (k : Rat) - ((h : Rat) - 1) / 2)

theorem mpLoop_mem (W : Nat) (layers : List (List Nat)) (i j : Nat) (layer : List Nat) (k v : Nat)
    (hj : layers[j]? = some layer) (hk : layer[k]? = some v) :
    (v, mpRaw W (i + j) k layer.length) ∈ (mpLoop W i layers).1.zip (mpLoop W i layers).2 := by
  induction layers generalizing i j with
  | nil => cases hj
  | cons layer0 rest ih =>
    rw [mpLoop, List.zip_append (by rw [mpLayerPos_length])]
    cases j with
    | zero =>
      cases hj
      exact List.mem_append_left _ (mem_zip_map_range layer (fun k => mpRaw W i k layer.length) k v hk)
    | succ j =>
      have := ih (i + 1) j hj
      rw [Nat.add_right_comm] at this
      exact List.mem_append_right _ this

theorem rescaleLayout_affine (ps : List (Rat × Rat)) :
    ∃ s mx my : Rat, 0 < s ∧ rescaleLayout ps = ps.map fun p => ((p.1 - mx) * s, (p.2 - my) * s) := by
  unfold rescaleLayout
  simp only
  generalize meanQ (ps.map (·.1)) = mx
  generalize meanQ (ps.map (·.2)) = my
  split
  · rename_i hlim
    refine ⟨1 / maxAbs (ps.map fun p => (p.1 - mx, p.2 - my)), mx, my, ?_, ?_⟩
    · rw [Rat.div_def, Rat.one_mul]
      exact Rat.inv_pos.mpr hlim
    · rw [List.map_map]
      rfl
  · refine ⟨1, mx, my, by decide, ?_⟩
    apply List.map_congr_left
    intro p _
    simp only [Rat.mul_one]

theorem mpKeys_sorted (l : List Nat) : (mpKeys l).Pairwise (· < ·) :=
  List.Pairwise.filter _ List.pairwise_lt_range

theorem mem_mpKeys (l : List Nat) (v : Nat) (hv : v < l.length) : l.getD v 0 ∈ mpKeys l := by
  rw [mpKeys, List.mem_filter, List.mem_range, List.contains_eq_mem, decide_eq_true_eq]
  exact ⟨getD_lt_foldl_max l hv, ListAux.getD_mem l v 0 hv⟩

theorem mpLayers_nodup (l : List Nat) (ord : List Nat → List Nat) (hord : ∀ g, (ord g).Perm g) :
    (mpLayers l ord).flatten.Nodup := by
  rw [List.Nodup, List.pairwise_flatten]
  constructor
  · intro g hg
    obtain ⟨k, _, rfl⟩ := List.mem_map.mp hg
    exact (hord _).nodup_iff.mpr (mpGroup_nodup l k)
  · rw [mpLayers, List.pairwise_map]
    refine (mpKeys_sorted l).imp fun hab x hx y hy e => ?_
    exact mpGroup_disjoint l (Nat.ne_of_lt hab) x ((hord _).mem_iff.mp hx) ((hord _).mem_iff.mp (e ▸ hy))

theorem mpDict_keys_nodup (l : List Nat) (ord : List Nat → List Nat) (hord : ∀ g, (ord g).Perm g) :
    ((mpDict l ord).map Prod.fst).Nodup := by
  unfold mpDict
  simp only
  have hlen : (mpLoop (mpLayers l ord).length 0 (mpLayers l ord)).1.length ≤
      ((rescaleLayout (mpLoop (mpLayers l ord).length 0 (mpLayers l ord)).2).map fun p => (p.2, p.1)).length := by
    obtain ⟨s, mx, my, _, e⟩ := rescaleLayout_affine (mpLoop (mpLayers l ord).length 0 (mpLayers l ord)).2
    rw [e, List.length_map, List.length_map, mpLoop_len]
    exact Nat.le_refl _
  rw [List.map_fst_zip hlen]
  rw [mpLoop_fst]
  exact mpLayers_nodup l ord hord

theorem sub_sub (a b c : Rat) : a - b - c = a - (b + c) := by
  rw [Rat.sub_eq_add_neg, Rat.sub_eq_add_neg, Rat.sub_eq_add_neg, Rat.neg_add, Rat.add_assoc]

/-- Every node's position: with `i` the index of its level among the occurring levels and `k` its slot in
    the iteration order of its layer, `x = (k − cx)·s`, `y = −(i − cy)·s` for a factor `s > 0` and offsets
    `cy` and `cx` (`cx` depending on the height of the layer only). -/
theorem mpNode_affine (l : List Nat) (ord : List Nat → List Nat) (hord : ∀ g, (ord g).Perm g) :
    ∃ (s cy : Rat) (cx : Nat → Rat), 0 < s ∧ ∀ v, v < l.length →
      ∃ i k : Nat, (mpKeys l)[i]? = some (l.getD v 0) ∧ (ord (mpGroup l (l.getD v 0)))[k]? = some v ∧
        mpNode l ord v =
          (((k : Rat) - cx (ord (mpGroup l (l.getD v 0))).length) * s, -(((i : Rat) - cy) * s)) := by
  obtain ⟨s, mx, my, hs, hr⟩ := rescaleLayout_affine (mpLoop (mpLayers l ord).length 0 (mpLayers l ord)).2
  refine ⟨s, (((mpLayers l ord).length : Rat) - 1) / 2 + mx, fun h => ((h : Rat) - 1) / 2 + my, hs, ?_⟩
  intro v hv
  obtain ⟨i, hi⟩ := List.getElem?_of_mem (mem_mpKeys l v hv)
  have hvm : v ∈ ord (mpGroup l (l.getD v 0)) :=
    (hord _).mem_iff.mpr ((mem_mpGroup l _ v).mpr ⟨hv, rfl⟩)
  obtain ⟨k, hk⟩ := List.getElem?_of_mem hvm
  refine ⟨i, k, hi, hk, ?_⟩
  have hlayer : (mpLayers l ord)[i]? = some (ord (mpGroup l (l.getD v 0))) := by
    rw [mpLayers, List.getElem?_map, hi, Option.map_some]
  have hmem := mpLoop_mem (mpLayers l ord).length (mpLayers l ord) 0 i _ k v hlayer hk
  rw [Nat.zero_add] at hmem
  have hd : (v, ((mpRaw (mpLayers l ord).length i k (ord (mpGroup l (l.getD v 0))).length).2 - my) * s,
      ((mpRaw (mpLayers l ord).length i k (ord (mpGroup l (l.getD v 0))).length).1 - mx) * s) ∈ mpDict l ord := by
    unfold mpDict
    simp only
    rw [hr, List.map_map, List.zip_map_right]
    exact List.mem_map.mpr ⟨_, hmem, rfl⟩
  rw [mpNode, ListAux.get_of_mem (get := fun d v => d.lookup v) (fun _ _ _ _ => ListAux.lookup_cons_ite ..)
    (mpDict_keys_nodup l ord hord) hd, mpRaw, sub_sub, sub_sub]

theorem natCast_sub_mul_lt_iff (a b : Nat) (c s : Rat) (hs : 0 < s) :
    ((a : Rat) - c) * s < ((b : Rat) - c) * s ↔ a < b := by
  rw [Rat.mul_lt_mul_right hs, Rat.sub_eq_add_neg, Rat.sub_eq_add_neg, Rat.add_lt_add_right,
    Rat.natCast_lt_natCast]

theorem mpNode_fst_ne (l : List Nat) (ord : List Nat → List Nat) (hord : ∀ g, (ord g).Perm g) (a b : Nat)
    (ha : a < l.length) (hb : b < l.length) (hab : a ≠ b) (hlv : l.getD a 0 = l.getD b 0) :
    (mpNode l ord a).1 ≠ (mpNode l ord b).1 := by
  obtain ⟨s, cy, cx, hs, hall⟩ := mpNode_affine l ord hord
  obtain ⟨i, k, _, hk, ea⟩ := hall a ha
  obtain ⟨i', k', _, hk', eb⟩ := hall b hb
  rw [ea, eb, ← hlv]
  rw [← hlv] at hk'
  -- equal `x` in one layer: the same slot of that layer
  intro he
  have hkk : k = k' := eq_of_lt_iff (natCast_sub_mul_lt_iff k k' _ s hs) (natCast_sub_mul_lt_iff k' k _ s hs) he
  subst hkk
  rw [hk] at hk'
  exact hab (Option.some.inj hk')

theorem mpNode_snd_lt (l : List Nat) (ord : List Nat → List Nat) (hord : ∀ g, (ord g).Perm g) (a b : Nat)
    (ha : a < l.length) (hb : b < l.length) (hlt : l.getD b 0 < l.getD a 0) :
    (mpNode l ord a).2 < (mpNode l ord b).2 := by
  obtain ⟨s, cy, cx, hs, hall⟩ := mpNode_affine l ord hord
  obtain ⟨i, k, hi, _, ea⟩ := hall a ha
  obtain ⟨i', k', hi', _, eb⟩ := hall b hb
  rw [ea, eb]
  exact Rat.neg_lt_neg ((natCast_sub_mul_lt_iff i' i cy s hs).mpr (idx_lt_of_sorted (mpKeys_sorted l) hi hi' hlt))

end Fca.Layout
