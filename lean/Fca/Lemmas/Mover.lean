/-
  The Mover model: the range invariant `WF`, what each operation does to the state, and induction over
  operations and histories.  Every successful operation is a sequence of swaps of its node with peers followed by
  at most one update of a slot in the node's row, so what these two moves keep, every operation and history keeps.
-/
import Fca.Model.Mover
import Fca.Lemmas.ListAux
import Fca.Lemmas.ExceptAux
namespace Fca.Mover
open Fca.Layout (VErr)

/-- all four state lists are mutually consistent: no read in the model falls outside a list -/
structure WF (m : St) : Prop where
  len_ord : m.peersOrder.length = m.levels.length
  len_lvl : m.posPeers.length = m.posLevels.length
  lvl_lt  : ∀ el, el < m.n → m.lvl el < m.posPeers.length
  ord_lt  : ∀ el, el < m.n → m.ord el < (m.row (m.lvl el)).length

/-- what no operation touches -/
structure Frame (m m' : St) : Prop where
  dir : m'.dir = m.dir
  levels : m'.levels = m.levels
  posLevels : m'.posLevels = m.posLevels

namespace Frame
variable {m m' m'' : St}

theorem refl (m : St) : Frame m m := ⟨rfl, rfl, rfl⟩

theorem trans (h : Frame m m') (h' : Frame m' m'') : Frame m m'' :=
  ⟨h'.dir.trans h.dir, h'.levels.trans h.levels, h'.posLevels.trans h.posLevels⟩

theorem n (h : Frame m m') : m'.n = m.n := by
  rw [St.n, St.n, h.levels]

theorem lvl (h : Frame m m') (el : Nat) : m'.lvl el = m.lvl el := by
  rw [St.lvl, St.lvl, h.levels]

theorem levelCoord (h : Frame m m') (j : Nat) : m'.levelCoord j = m.levelCoord j := by
  rw [St.levelCoord, St.levelCoord, h.lvl, h.posLevels]

theorem peerCoord (h : Frame m m') {j : Nat} (ho : m'.ord j = m.ord j)
    (hr : m'.row (m.lvl j) = m.row (m.lvl j)) : m'.peerCoord j = m.peerCoord j := by
  rw [St.peerCoord, St.peerCoord, h.lvl, ho, hr]

end Frame

theorem row_congr {m m' : St} (h : m'.posPeers = m.posPeers) (l : Nat) : m'.row l = m.row l := by
  rw [St.row, St.row, h]

theorem swapNodes_ok {m m' : St} {a b : Nat} (h : swapNodes m a b = .ok m') :
    a < m.n ∧ b < m.n ∧ m.lvl a = m.lvl b ∧
    m' = { m with peersOrder := (m.peersOrder.set a (m.ord b)).set b (m.ord a) } := by
  rcases ite_eq_cases h with ⟨hab, h⟩ | ⟨_, h⟩
  · rcases ite_eq_cases h with ⟨_, h⟩ | ⟨hl, h⟩
    · cases h
    · cases h
      exact ⟨hab.1, hab.2, Decidable.of_not_not hl, rfl⟩
  · cases h

theorem swapNodes_peers {m : St} {a b : Nat} (ha : a < m.n) (hb : b < m.n) (hl : m.lvl a = m.lvl b) :
    swapNodes m a b = .ok { m with peersOrder := (m.peersOrder.set a (m.ord b)).set b (m.ord a) } := by
  rw [swapNodes, if_pos ⟨ha, hb⟩, if_neg (fun h => h hl)]

theorem swap_posPeers {m m' : St} {a b : Nat} (h : swapNodes m a b = .ok m') : m'.posPeers = m.posPeers := by
  obtain ⟨_, _, _, rfl⟩ := swapNodes_ok h
  rfl

theorem swap_frame {m m' : St} {a b : Nat} (h : swapNodes m a b = .ok m') : Frame m m' := by
  obtain ⟨_, _, _, rfl⟩ := swapNodes_ok h
  exact ⟨rfl, rfl, rfl⟩

theorem swap_ord_a {m m' : St} {a b : Nat} (hw : m.peersOrder.length = m.levels.length)
    (h : swapNodes m a b = .ok m') : m'.ord a = m.ord b := by
  obtain ⟨ha, hb, _, rfl⟩ := swapNodes_ok h
  show ((m.peersOrder.set a (m.ord b)).set b (m.ord a)).getD a 0 = m.ord b
  by_cases hab : a = b
  · subst hab
    exact ListAux.getD_set_eq _ _ _ _ (by rw [List.length_set, hw]; exact ha)
  · rw [ListAux.getD_set_ne _ _ _ _ _ (Ne.symm hab)]
    exact ListAux.getD_set_eq _ _ _ _ (hw ▸ ha)

theorem swap_ord_b {m m' : St} {a b : Nat} (hw : m.peersOrder.length = m.levels.length)
    (h : swapNodes m a b = .ok m') : m'.ord b = m.ord a := by
  obtain ⟨_, hb, _, rfl⟩ := swapNodes_ok h
  exact ListAux.getD_set_eq _ _ _ _ (by rw [List.length_set, hw]; exact hb)

theorem swap_ord_other {m m' : St} {a b j : Nat} (h : swapNodes m a b = .ok m')
    (hja : j ≠ a) (hjb : j ≠ b) : m'.ord j = m.ord j := by
  obtain ⟨_, _, _, rfl⟩ := swapNodes_ok h
  show ((m.peersOrder.set a (m.ord b)).set b (m.ord a)).getD j 0 = m.ord j
  rw [ListAux.getD_set_ne _ _ _ _ _ (Ne.symm hjb), ListAux.getD_set_ne _ _ _ _ _ (Ne.symm hja)]
  rfl

def tr (a b x : Nat) : Nat := if x = a then b else if x = b then a else x

theorem tr_tr (a b x : Nat) : tr a b (tr a b x) = x := by
  unfold tr
  by_cases ha : x = a
  · rw [if_pos ha]
    by_cases hba : b = a
    · rw [if_pos hba, hba, ha]
    · rw [if_neg hba, if_pos rfl, ha]
  · rw [if_neg ha]
    by_cases hb : x = b
    · rw [if_pos hb, if_pos rfl, hb]
    · rw [if_neg hb, if_neg ha, if_neg hb]

/-- a swap renames the nodes by the transposition, which stays inside the level -/
theorem swap_ord_tr {m m' : St} {a b : Nat} (hw : WF m) (h : swapNodes m a b = .ok m') (x : Nat) :
    m'.ord x = m.ord (tr a b x) ∧ m.lvl (tr a b x) = m.lvl x ∧ (x < m.n → tr a b x < m.n) := by
  obtain ⟨ha, hb, hl, _⟩ := swapNodes_ok h
  unfold tr
  by_cases hxa : x = a
  · rw [if_pos hxa, hxa]
    exact ⟨swap_ord_a hw.len_ord h, hl.symm, fun _ => hb⟩
  · rw [if_neg hxa]
    by_cases hxb : x = b
    · rw [if_pos hxb, hxb]
      exact ⟨swap_ord_b hw.len_ord h, hl, fun _ => ha⟩
    · rw [if_neg hxb]
      exact ⟨swap_ord_other h hxa hxb, rfl, id⟩

theorem swap_wf {m m' : St} {a b : Nat} (hw : WF m) (h : swapNodes m a b = .ok m') : WF m' := by
  have hf := swap_frame h
  have hpp := swap_posPeers h
  obtain ⟨_, _, _, hm'⟩ := swapNodes_ok h
  refine ⟨?_, by rw [hpp, hf.posLevels]; exact hw.len_lvl, ?_, ?_⟩
  · rw [hf.levels, hm']; simp only [List.length_set]; exact hw.len_ord
  · intro el hel
    rw [hf.lvl, hpp]
    exact hw.lvl_lt el (hf.n ▸ hel)
  · intro el hel
    obtain ⟨ho, htl, htn⟩ := swap_ord_tr hw h el
    rw [ho, hf.lvl, row_congr hpp, ← htl]
    exact hw.ord_lt _ (htn (hf.n ▸ hel))

theorem swapLoop_cons {m m' : St} {i s : Nat} {ss : List Nat} (h : swapLoop m i (s :: ss) = .ok m') :
    ∃ m1, swapNodes m i s = .ok m1 ∧ swapLoop m1 i ss = .ok m' := by
  simp only [swapLoop] at h
  split at h
  · cases h
  · exact ⟨_, ‹_›, h⟩

theorem swapLoop_induction {P : St → Prop} {i : Nat}
    (hswap : ∀ m1 m2 s, P m1 → swapNodes m1 i s = .ok m2 → P m2) {ns : List Nat} {m m' : St}
    (h0 : P m) (h : swapLoop m i ns = .ok m') : P m' := by
  induction ns generalizing m with
  | nil => cases h; exact h0
  | cons s ss ih =>
    obtain ⟨m1, h1, h⟩ := swapLoop_cons h
    exact ih (hswap _ _ _ h0 h1) h

theorem shiftNode_ok {m m' : St} {i : Nat} {k : Int} (h : shiftNode m i k = .ok m') :
    i < m.n ∧ swapLoop m i (nodesToSwap m i k) = .ok m' :=
  guard_eq_ok_iff.mp h

theorem shift_posPeers {m m' : St} {i : Nat} {k : Int} (h : shiftNode m i k = .ok m') :
    m'.posPeers = m.posPeers :=
  swapLoop_induction (P := fun m1 => m1.posPeers = m.posPeers) (fun _ _ _ a h1 => (swap_posPeers h1).trans a) rfl
    (shiftNode_ok h).2

theorem setRow_row_same (m : St) (l p : Nat) (x : Rat) (hl : l < m.posPeers.length) :
    (setRow m l p x).row l = (m.row l).set p x :=
  ListAux.getD_set_eq _ _ _ _ hl

theorem setRow_row_other (m : St) (l l' p : Nat) (x : Rat) (h : l ≠ l') :
    (setRow m l p x).row l' = m.row l' :=
  ListAux.getD_set_ne _ _ _ _ _ h

theorem setRow_row_length (m : St) (l l' p : Nat) (x : Rat) :
    ((setRow m l p x).row l').length = (m.row l').length := by
  by_cases h : l = l'
  · subst h
    by_cases h2 : l < m.posPeers.length
    · rw [setRow_row_same _ _ _ _ h2, List.length_set]
    · show ((m.posPeers.set l _).getD l []).length = _
      rw [List.set_eq_of_length_le (Nat.le_of_not_lt h2)]
      rfl
  · rw [setRow_row_other _ _ _ _ _ h]

theorem setRow_frame (m : St) (l p : Nat) (x : Rat) : Frame m (setRow m l p x) :=
  ⟨rfl, rfl, rfl⟩

theorem setRow_wf {m : St} (hw : WF m) (l p : Nat) (x : Rat) : WF (setRow m l p x) := by
  refine ⟨hw.len_ord, ?_, ?_, ?_⟩
  · show (m.posPeers.set l _).length = _
    rw [List.length_set]; exact hw.len_lvl
  · intro el hel
    show m.lvl el < (m.posPeers.set l _).length
    rw [List.length_set]; exact hw.lvl_lt el hel
  · intro el hel
    show m.ord el < ((setRow m l p x).row (m.lvl el)).length
    rw [setRow_row_length]; exact hw.ord_lt el hel

/-- `jitter_node` leaves a node in its slot `p` of the row `pp` when it is the outermost node on the side it
    moves to, or when its target `x` does not reach the neighbour on that side -/
def Stays (pp : List Rat) (p : Nat) (x dx : Rat) : Prop :=
  if 0 ≤ dx then p + 1 = pp.length ∨ x < pp.getD (p + 1) 0 else p = 0 ∨ pp.getD (p - 1) 0 < x

instance (pp : List Rat) (p : Nat) (x dx : Rat) : Decidable (Stays pp p x dx) := by
  unfold Stays; exact inferInstance

theorem ite_or_same {α} (a b : Prop) [Decidable a] [Decidable b] (u v : α) :
    (if a then u else if b then u else v) = if a ∨ b then u else v := by
  by_cases ha : a
  · rw [if_pos ha, if_pos (Or.inl ha)]
  · rw [if_neg ha]
    by_cases hb : b
    · rw [if_pos hb, if_pos (Or.inr hb)]
    · rw [if_neg hb, if_neg (fun h => h.elim ha hb)]

/-- `jitter_node` by cases, for the row `pp` and slot `p` of the node and its target coordinate `x`; the tests
    `is_on_border` and `is_preserving_order` are the one condition `Stays` -/
theorem jitterNode_eq (m : St) (i : Nat) (dx : Rat) {pp : List Rat} {p : Nat} {x : Rat}
    (hpp : m.row (m.lvl i) = pp) (hp : m.ord i = p) (hx : m.peerCoord i + dx = x) :
    jitterNode m i dx =
      if i < m.n then
        if Stays pp p x dx then .ok (setRow m (m.lvl i) p x)
        else if x ∈ pp then .error .AssertionError
        else
          (shiftNode m i (if 0 ≤ dx then (((pp.drop (p + 1)).filter (· < x)).length : Int)
            else -(((pp.take p).filter (x < ·)).length : Int))).map fun m1 => setRow m1 (m.lvl i) (m1.ord i) x
      else .error .IndexError := by
  subst hpp hp hx
  have hany : ∀ (l : List Rat) (y : Rat), (l.any (· == y)) = decide (y ∈ l) := by
    intro l y; rw [List.any_beq', List.contains_eq_mem]
  unfold jitterNode Stays St.peerCoord
  by_cases hdx : 0 ≤ dx
  all_goals
    simp only [hdx, ↓reduceIte, hany, beq_iff_eq, decide_eq_true_eq, ite_or_same]
    generalize shiftNode m i _ = r
    cases r <;> rfl

theorem jitterNode_cases {m m' : St} {i : Nat} {dx : Rat} (h : jitterNode m i dx = .ok m')
    {pp : List Rat} {p : Nat} {x : Rat}
    (hpp : m.row (m.lvl i) = pp) (hp : m.ord i = p) (hx : m.peerCoord i + dx = x) :
    i < m.n ∧
    ((Stays pp p x dx ∧ m' = setRow m (m.lvl i) p x) ∨
     (x ∉ pp ∧ ∃ m1,
        shiftNode m i (if 0 ≤ dx then (((pp.drop (p + 1)).filter (· < x)).length : Int)
          else -(((pp.take p).filter (x < ·)).length : Int)) = .ok m1 ∧
        m' = setRow m1 (m.lvl i) (m1.ord i) x)) := by
  rw [jitterNode_eq m i dx hpp hp hx] at h
  rcases ite_eq_cases h with ⟨hi, h⟩ | ⟨_, h⟩
  · refine ⟨hi, ?_⟩
    rcases ite_eq_cases h with ⟨hst, h⟩ | ⟨_, h⟩
    · cases h
      exact .inl ⟨hst, rfl⟩
    · rcases ite_eq_cases h with ⟨_, h⟩ | ⟨hmem, h⟩
      · cases h
      · obtain ⟨m1, hs, rfl⟩ := map_eq_ok h
        exact .inr ⟨hmem, m1, hs, rfl⟩
  · cases h

theorem placeNode_ok {m m' : St} {i : Nat} {x : Rat} (h : placeNode m i x = .ok m') :
    i < m.n ∧ jitterNode m i (x - (posx m).getD i 0) = .ok m' :=
  guard_eq_ok_iff.mp h

def Op.node : Op → Nat
  | .swap a _ => a
  | .shift i _ => i
  | .jitter i _ => i
  | .place i _ => i

theorem step_induction {P : St → Prop} {m m' : St} {o : Op} (h : step m o = .ok m') (h0 : P m)
    (hswap : ∀ m1 m2 s, P m1 → swapNodes m1 o.node s = .ok m2 → P m2)
    (hrow : ∀ m1 p x, P m1 → P (setRow m1 (m.lvl o.node) p x)) : P m' := by
  have hjit : ∀ {i dx}, o.node = i → jitterNode m i dx = .ok m' → P m' := by
    intro i dx hn hj
    subst hn
    obtain ⟨_, ⟨_, rfl⟩ | ⟨_, m1, h1, rfl⟩⟩ := jitterNode_cases hj rfl rfl rfl
    · exact hrow m _ _ h0
    · exact hrow m1 _ _ (swapLoop_induction hswap h0 (shiftNode_ok h1).2)
  cases o with
  | swap a b => exact hswap m m' b h0 h
  | shift i k => exact swapLoop_induction hswap h0 (shiftNode_ok h).2
  | jitter i dx => exact hjit rfl h
  | place i x => exact hjit rfl (placeNode_ok h).2

theorem step_frame {m m' : St} {o : Op} (h : step m o = .ok m') : Frame m m' :=
  step_induction (P := Frame m) h (.refl m) (fun _ _ _ a h1 => a.trans (swap_frame h1))
    (fun _ _ _ a => a.trans (setRow_frame ..))

theorem step_wf {m m' : St} {o : Op} (hw : WF m) (h : step m o = .ok m') : WF m' :=
  step_induction h hw (fun _ _ _ hw h => swap_wf hw h) (fun _ _ _ hw => setRow_wf hw _ _ _)

theorem step_other {m m' : St} {o : Op} (h : step m o = .ok m') (j : Nat)
    (hj : m.lvl j ≠ m.lvl o.node) : m'.ord j = m.ord j ∧ m'.peerCoord j = m.peerCoord j := by
  suffices Frame m m' ∧ m'.ord j = m.ord j ∧ m'.peerCoord j = m.peerCoord j from this.2
  refine step_induction (P := fun m1 => Frame m m1 ∧ m1.ord j = m.ord j ∧ m1.peerCoord j = m.peerCoord j) h
    ⟨.refl m, rfl, rfl⟩ ?_ ?_
  · intro m1 m2 s ⟨hf, ho, hc⟩ h1
    obtain ⟨_, _, hls, _⟩ := swapNodes_ok h1
    have ho2 : m2.ord j = m1.ord j := by
      apply swap_ord_other h1
      · intro e; exact hj (congrArg m.lvl e)
      · intro e; exact hj (e ▸ (hf.lvl s).symm.trans (hls.symm.trans (hf.lvl _)))
    exact ⟨hf.trans (swap_frame h1), ho2.trans ho,
      ((swap_frame h1).peerCoord ho2 (row_congr (swap_posPeers h1) _)).trans hc⟩
  · intro m1 p x ⟨hf, ho, hc⟩
    refine ⟨hf.trans (setRow_frame ..), ho, ((setRow_frame m1 _ p x).peerCoord rfl ?_).trans hc⟩
    exact setRow_row_other _ _ _ _ _ (fun e => hj (e ▸ (hf.lvl j).symm))

theorem run_induction {P : St → Prop} (ops : List Op) (m : St)
    (hstep : ∀ o ∈ ops, ∀ m1 m2, P m1 → step m1 o = .ok m2 → P m2) (h0 : P m) : P (run m ops) := by
  induction ops generalizing m with
  | nil => exact h0
  | cons o os ih =>
    have hos := fun o' ho' => hstep o' (List.mem_cons_of_mem _ ho')
    rw [run]
    split
    · exact ih _ hos (hstep o List.mem_cons_self _ _ h0 ‹_›)
    · exact ih m hos h0

theorem run_frame (ops : List Op) (m : St) : Frame m (run m ops) :=
  run_induction (P := Frame m) ops m (fun _ _ _ _ a h => a.trans (step_frame h)) (.refl m)

theorem run_other (ops : List Op) (m : St) (j : Nat) (hj : ∀ o ∈ ops, m.lvl j ≠ m.lvl o.node) :
    (run m ops).peerCoord j = m.peerCoord j := by
  suffices Frame m (run m ops) ∧ (run m ops).peerCoord j = m.peerCoord j from this.2
  refine run_induction (P := fun m1 => Frame m m1 ∧ m1.peerCoord j = m.peerCoord j) ops m ?_ ⟨.refl m, rfl⟩
  intro o ho m1 m2 ⟨hf, hc⟩ h
  refine ⟨hf.trans (step_frame h), ((step_other h j ?_).2).trans hc⟩
  rw [hf.lvl, hf.lvl]
  exact hj o ho

theorem mem_insertDesc {a x : Rat} {l : List Rat} : a ∈ insertDesc x l ↔ a = x ∨ a ∈ l := by
  induction l with
  | nil => rw [insertDesc, List.mem_singleton, List.mem_nil_iff, or_false]
  | cons y ys ih =>
    rw [insertDesc]
    split
    · rename_i h
      rw [eq_of_beq h]
      exact ⟨Or.inr, fun h => h.elim (fun e => e ▸ List.mem_cons_self) id⟩
    · split
      · exact List.mem_cons
      · rw [List.mem_cons, ih, List.mem_cons]
        exact or_left_comm

theorem mem_sortedSetDesc {a : Rat} {l : List Rat} : a ∈ sortedSetDesc l ↔ a ∈ l := by
  induction l with
  | nil => exact Iff.rfl
  | cons x xs ih => rw [sortedSetDesc, mem_insertDesc, ih, List.mem_cons]

theorem sortByKey_isSort (key : Nat → Rat) :
    ListAux.IsInsertionSort (fun a b => key a ≤ key b) (insertByKey key) (sortByKey key) :=
  ⟨fun _ => rfl, fun _ _ _ => rfl, rfl, fun _ _ => rfl⟩

theorem mem_peersOf {val : List (Rat × Rat)} {levels : List Nat} {l x : Nat} :
    x ∈ peersOf val levels l ↔ x < val.length ∧ levels.getD x 0 = l := by
  rw [peersOf, (sortByKey_isSort _).mem_iff, List.mem_filter, List.mem_range, beq_iff_eq]

theorem peersOf_nodup (val : List (Rat × Rat)) (levels : List Nat) (l : Nat) : (peersOf val levels l).Nodup :=
  ((sortByKey_isSort _).perm _).nodup_iff.mpr (List.Pairwise.filter _ List.nodup_range)

theorem loadState_n (d : Dir) (val : List (Rat × Rat)) : (loadState d val).n = val.length := by
  simp only [loadState, St.n, levelsOf, List.length_map]

theorem loadState_fields (d : Dir) (val : List (Rat × Rat)) :
    ∃ (LC : List Rat) (levels : List Nat),
      (∀ el, el < val.length →
        levels.getD el 0 < LC.length ∧ LC.getD (levels.getD el 0) 0 = (val.getD el (0, 0)).2) ∧
      (loadState d val).peersOrder.length = val.length ∧
      (loadState d val).posLevels = LC ∧ (loadState d val).posPeers.length = LC.length ∧
      (∀ el, (loadState d val).lvl el = levels.getD el 0) ∧
      (∀ el, el < val.length →
        (loadState d val).ord el = (peersOf val levels (levels.getD el 0)).idxOf el) ∧
      (∀ l, l < LC.length → (loadState d val).row l = (peersOf val levels l).map (keyOf val)) ∧
      (∀ l, LC.length ≤ l → (loadState d val).row l = []) := by
  generalize hLC : sortedSetDesc (val.map (·.2)) = LC
  generalize hlevels : levelsOf LC val = levels
  have hlev : ∀ el, el < val.length →
      levels.getD el 0 < LC.length ∧ LC.getD (levels.getD el 0) 0 = (val.getD el (0, 0)).2 := by
    intro el hel
    have hmem : (val.getD el (0, 0)).2 ∈ LC := by
      rw [← hLC]
      exact mem_sortedSetDesc.mpr (List.mem_map.mpr ⟨_, ListAux.getD_mem val el _ hel, rfl⟩)
    rw [← hlevels, levelsOf, ListAux.getD_map (fun p : Rat × Rat => LC.idxOf p.2) val el (0, 0) 0 hel]
    exact ⟨List.idxOf_lt_length_iff.mpr hmem, ListAux.getD_idxOf_self _ _ _ hmem⟩
  obtain ⟨hF1, hF2, hF4⟩ : (loadState d val).levels = levels ∧
      (loadState d val).peersOrder = (List.range val.length).map (fun el =>
        (((List.range LC.length).map (peersOf val levels)).getD (levels.getD el 0) []).idxOf el) ∧
      (loadState d val).posPeers =
        ((List.range LC.length).map (peersOf val levels)).map fun ps => ps.map (keyOf val) := by
    simp only [loadState, hLC, hlevels, and_self]
  refine ⟨LC, levels, hlev, ?_, by simp only [loadState, hLC], ?_, fun el => by rw [St.lvl, hF1], ?_, ?_, ?_⟩
  · rw [hF2, List.length_map, List.length_range]
  · rw [hF4, List.length_map, List.length_map, List.length_range]
  · intro el hel
    rw [St.ord, hF2, ListAux.getD_map_range _ _ _ _ hel, ListAux.getD_map_range _ _ _ _ (hlev el hel).1]
  · intro l hl
    rw [St.row, hF4, List.map_map, ListAux.getD_map_range _ _ _ _ hl]
    rfl
  · intro l hl
    rw [St.row, hF4]
    exact ListAux.getD_of_ge _ _ _ (by rw [List.length_map, List.length_map, List.length_range]; exact hl)

theorem loadState_spec (d : Dir) (val : List (Rat × Rat)) :
    WF (loadState d val) ∧
    ∀ el, el < val.length →
      (loadState d val).peerCoord el = (val.getD el (0, 0)).1 ∧
      (loadState d val).levelCoord el = (val.getD el (0, 0)).2 := by
  obtain ⟨LC, levels, hlev, hno, hpl, hppl, hlvl, hord, hrow, _⟩ := loadState_fields d val
  have hn := loadState_n d val
  have hmem : ∀ el, el < val.length → el ∈ peersOf val levels (levels.getD el 0) :=
    fun el hel => mem_peersOf.mpr ⟨hel, rfl⟩
  constructor
  · refine ⟨hno.trans hn.symm, by rw [hppl, hpl], ?_, ?_⟩
    · intro el hel
      rw [hlvl, hppl]
      exact (hlev el (hn ▸ hel)).1
    · intro el hel
      have hel' : el < val.length := hn ▸ hel
      rw [hord el hel', hlvl, hrow _ (hlev el hel').1, List.length_map]
      exact List.idxOf_lt_length_iff.mpr (hmem el hel')
  · intro el hel
    constructor
    · rw [St.peerCoord, hord el hel, hlvl, hrow _ (hlev el hel).1,
        ListAux.getD_map (keyOf val) _ _ 0 0 (List.idxOf_lt_length_iff.mpr (hmem el hel)),
        ListAux.getD_idxOf_self _ _ _ (hmem el hel)]
      rfl
    · rw [St.levelCoord, hlvl, hpl]
      exact (hlev el hel).2

theorem setPos_ok (d : Dir) {value : List (Rat × Rat)} (hne : value ≠ []) :
    setPos d value = .ok (loadState d (value.map (orient d))) := by
  rw [setPos, if_neg (fun h => hne (List.isEmpty_iff.mp h))]

theorem orient_back (d : Dir) (p : Rat × Rat) :
    (match d with
      | .v => ((orient d p).1, (orient d p).2)
      | .h => (-(orient d p).2, (orient d p).1)) = p := by
  cases d
  · rfl
  · simp only [orient]
    rw [Rat.neg_neg]

theorem orient_injective (d : Dir) (p q : Rat × Rat) (h : orient d p = orient d q) : p = q :=
  (orient_back d p).symm.trans (h ▸ orient_back d q)

end Fca.Mover
