/-
  Fca.Lemmas.Lindig — `lindig_algorithm`, what holds whatever the order in which concepts are processed:
  every listed pair is a formal concept, the `index` dictionary keeps the list duplicate-free, the queue
  holds valid ids.
-/
import Fca.Lemmas.CbOTable
namespace Fca.LindigL
open Fca.Spec

section
variable (t : Table) (intention extension : List Nat → List Nat)

/-- the two derivation operators the run uses are those of the table `t` (the context's table, or its
    transpose when `iterate_extents = False`) -/
structure Ops : Prop where
  intention_eq : ∀ A, (∀ g ∈ A, g < t.height) → intention A = intAll t A
  extension_eq : ∀ B, (∀ a ∈ B, a < t.width) → extension B = extAll t B

structure LInv (s : LindigSt) : Prop where
  conc : ∀ c ∈ s.concepts, isConcept t c.1 c.2 = true
  nodup : (s.concepts.map (·.1)).Nodup
  qlt : ∀ i ∈ s.queue, i < s.concepts.length

variable {t intention extension}

theorem LInv.snoc {s s' : LindigSt} (h : LInv t s) {x : List Nat × List Nat} (hx : isConcept t x.1 x.2 = true)
    (hm : x.1 ∉ s.concepts.map (·.1)) (hc : s'.concepts = s.concepts ++ [x])
    (hq : s'.queue = s.queue ++ [s.concepts.length]) : LInv t s' := by
  refine ⟨?_, ?_, ?_⟩
  · rw [hc]
    exact List.forall_mem_append.mpr ⟨h.conc, List.forall_mem_singleton.mpr hx⟩
  · rw [hc, List.map_append]
    exact ListAux.nodup_append_singleton.mpr ⟨hm, h.nodup⟩
  · rw [hc, hq, List.length_append]
    exact List.forall_mem_append.mpr ⟨fun i hi => Nat.lt_add_right _ (h.qlt i hi),
      List.forall_mem_singleton.mpr (Nat.lt_succ_self _)⟩

/-- at most `2^n` extents: the bound behind the fuel -/
theorem concepts_length_le (s : LindigSt) (h : LInv t s) : s.concepts.length ≤ 2 ^ t.height := by
  have hsub : (s.concepts.map (·.1)) ⊆ sublists (List.range t.height) := by
    intro e he
    obtain ⟨c, hc, rfl⟩ := List.mem_map.mp he
    rw [← ((isConcept_iff t).mp (h.conc c hc)).1]
    exact filter_mem_sublists _ _
  have := List.Nodup.length_le_of_subset h.nodup hsub
  rwa [List.length_map, length_sublists, List.length_range] at this

theorem sortIdx_eq_self_of_isConcept {c : List Nat × List Nat} (h : isConcept t c.1 c.2 = true) :
    sortIdx c.1 = c.1 ∧ sortIdx c.2 = c.2 :=
  ⟨sortIdx_eq_self_of_sorted (isConcept_extent_sorted h), sortIdx_eq_self_of_sorted (isConcept_intent_sorted h)⟩

theorem dsupLoop_sound (ops : Ops t intention extension) (extent : List Nat)
    (hext : ∀ g ∈ extent, g < t.height) :
    ∀ (gs reps : List Nat) (nb : List (List Nat × List Nat)), (∀ g ∈ gs, g < t.height) →
      (∀ x ∈ nb, isConcept t x.1 x.2 = true) →
      ∀ x ∈ dsupLoop intention extension extent gs reps nb, isConcept t x.1 x.2 = true := by
  intro gs
  induction gs with
  | nil => exact fun _ _ _ hnb => hnb
  | cons g gs ih =>
    intro reps nb hgs hnb x hx
    unfold dsupLoop at hx
    simp only at hx
    have hgs' : ∀ g ∈ gs, g < t.height := fun y hy => hgs y (List.mem_cons_of_mem _ hy)
    split at hx
    · refine ih reps _ hgs' (fun y hy => ?_) x hx
      rcases List.mem_append.mp hy with h | h
      · exact hnb y h
      · -- `(X'', X')` for `X = extent ∪ {g}`
        have hX : ∀ z ∈ extent ++ [g], z < t.height :=
          List.forall_mem_append.mpr ⟨hext, List.forall_mem_singleton.mpr (hgs g List.mem_cons_self)⟩
        rw [List.mem_singleton.mp h]
        show isConcept t (extension (intention (extent ++ [g]))) (intention (extent ++ [g])) = true
        rw [ops.intention_eq _ hX, ops.extension_eq _ (intAll_lt t)]
        exact isConcept_of_objs t hX
    · exact ih _ nb hgs' hnb x hx

theorem dsups_sound (ops : Ops t intention extension) (ord : List Nat → List Nat)
    (hord : ∀ l, (ord l).Perm l) (extent : List Nat) (hext : ∀ g ∈ extent, g < t.height) :
    ∀ x ∈ directSuperConcepts t.height intention extension ord extent, isConcept t x.1 x.2 = true :=
  dsupLoop_sound ops extent hext _ _ _
    (fun _ hg => List.mem_range.mp (List.mem_filter.mp ((hord _).mem_iff.mp hg)).1) (fun _ hx => nomatch hx)

theorem lindigIndex_eq (cs : List (List Nat × List Nat)) (G : List Nat) :
    lindigIndex cs G = cs.findIdx? fun c => sortIdx c.1 == sortIdx G := by
  rw [List.findIdx?_eq_guard_findIdx_lt, lindigIndex, Option.guard]
  simp only [decide_eq_true_eq]

theorem lindigIndex_isSome_iff {concepts : List (List Nat × List Nat)} {G : List Nat}
    (hc : ∀ c ∈ concepts, sortIdx c.1 = c.1) (hG : sortIdx G = G) :
    (lindigIndex concepts G).isSome ↔ G ∈ concepts.map (·.1) := by
  rw [lindigIndex_eq, List.findIdx?_isSome, List.any_eq_true, List.mem_map]
  exact exists_congr fun c => and_congr_right fun hcm => by rw [beq_iff_eq, hc c hcm, hG]

theorem addSups_cons (cId : Nat) {x : List Nat × List Nat} (xs : List (List Nat × List Nat)) {s : LindigSt}
    (h : LInv t s) (hx : isConcept t x.1 x.2 = true) :
    ∃ s₁ e₁, lindigAddSups cId (x :: xs) s = lindigAddSups cId xs s₁ ∧ LInv t s₁ ∧
      s₁.concepts = s.concepts ++ e₁ ∧ s₁.queue = s.queue ++ List.range' s.concepts.length e₁.length ∧
      x.1 ∈ s₁.concepts.map (·.1) := by
  have hiff := lindigIndex_isSome_iff (fun c hc => (sortIdx_eq_self_of_isConcept (h.conc c hc)).1)
    (sortIdx_eq_self_of_isConcept hx).1
  rw [lindigAddSups]
  cases hidx : lindigIndex s.concepts x.1 with
  | some i =>
    exact ⟨_, [], rfl, ⟨h.conc, h.nodup, h.qlt⟩, (List.append_nil _).symm, (List.append_nil _).symm,
      hiff.mp (hidx ▸ rfl)⟩
  | none =>
    exact ⟨_, [x], rfl, h.snoc hx (fun hm => (nomatch hidx ▸ hiff.mpr hm)) rfl rfl, rfl, rfl,
      List.mem_map.mpr ⟨x, List.mem_append_right _ List.mem_cons_self, rfl⟩⟩

theorem addSups_spec (cId : Nat) : ∀ (xs : List (List Nat × List Nat)) (s : LindigSt), LInv t s →
    (∀ x ∈ xs, isConcept t x.1 x.2 = true) →
    LInv t (lindigAddSups cId xs s) ∧
    (∃ extra, (lindigAddSups cId xs s).concepts = s.concepts ++ extra ∧
      (lindigAddSups cId xs s).queue = s.queue ++ List.range' s.concepts.length extra.length) ∧
    ∀ x ∈ xs, x.1 ∈ (lindigAddSups cId xs s).concepts.map (·.1) := by
  intro xs
  induction xs with
  | nil => exact fun s h _ => ⟨h, ⟨[], (List.append_nil _).symm, (List.append_nil _).symm⟩, fun _ hx => nomatch hx⟩
  | cons x xs ih =>
    intro s h hxs
    obtain ⟨s₁, e₁, heq, hinv₁, hc₁, hq₁, hx₁⟩ := addSups_cons cId xs h (hxs x List.mem_cons_self)
    rw [heq]
    obtain ⟨hinv, ⟨e, hc, hq⟩, hlisted⟩ := ih s₁ hinv₁ fun y hy => hxs y (List.mem_cons_of_mem _ hy)
    refine ⟨hinv, ⟨e₁ ++ e, by rw [hc, hc₁, List.append_assoc], ?_⟩, fun y hy => ?_⟩
    · rw [hq, hq₁, hc₁, List.length_append, List.length_append, List.append_assoc, List.range'_append_1]
    · rcases List.mem_cons.mp hy with rfl | hy
      · rw [hc, List.map_append]; exact List.mem_append_left _ hx₁
      · exact hlisted y hy

theorem init_inv (ops : Ops t intention extension) :
    LInv t ⟨[(extension (List.range t.width), List.range t.width)], [0], [(0, [])], []⟩ := by
  refine ⟨fun c hc => ?_, List.pairwise_singleton _ _, fun i hi => List.mem_singleton.mp hi ▸ Nat.zero_lt_one⟩
  rw [List.mem_singleton.mp hc, ops.extension_eq _ (fun a ha => List.mem_range.mp ha), isConcept_iff]
  exact ⟨rfl, intAll_extAll_range t⟩

end

theorem ops_direct (K : Ctx) (hwf : K.table.WF) :
    Ops K.table (fun A => K.intentionI A none) (fun B => K.extensionI B none) where
  intention_eq := fun _ hA => K.intentionI_none hwf hA
  extension_eq := fun _ hB => K.extensionI_none hwf hB

theorem ops_swapped (K : Ctx) (hwf : K.table.WF) :
    Ops (transpose K.table) (fun A => K.extensionI A none) (fun B => K.intentionI B none) where
  intention_eq := fun A hA => (K.extensionI_none hwf (transpose_height K.table ▸ hA)).trans
    (intAll_transpose K.table hwf A).symm
  extension_eq := fun B hB => (K.intentionI_none hwf hB).trans (extAll_transpose K.table B).symm

end Fca.LindigL
