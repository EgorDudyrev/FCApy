/-
  Fca.Bridge.MathlibConcept — spec adequacy: the list-level specification used by every
  property (`Spec.extAll`, `Spec.intAll`, `Spec.isConcept`) is the textbook notion, i.e.
  Mathlib's `lowerPolar` / `upperPolar` / `Concept` of the incidence relation of the table.
-/
import Mathlib.Order.Concept
import Fca.Lemmas.Galois
namespace Fca.Bridge
open Fca Fca.Spec

/-- the incidence relation of a table between its objects and attributes -/
def rel (t : Table) : Fin t.height → Fin t.width → Prop := fun g a => t.get g.val a.val = true

def objSet (t : Table) (A : List Nat) : Set (Fin t.height) := {g | g.val ∈ A}
def attrSet (t : Table) (B : List Nat) : Set (Fin t.width) := {a | a.val ∈ B}

theorem intAll_eq_upperPolar (t : Table) (A : List Nat) (hA : ∀ g ∈ A, g < t.height) :
    attrSet t (intAll t A) = upperPolar (rel t) (objSet t A) := by
  ext a
  simp only [attrSet, Set.mem_ofPred_eq, mem_intAll, mem_upperPolar_iff, objSet, rel]
  constructor
  · rintro ⟨_, h⟩ g hg; exact h g.val hg
  · intro h
    exact ⟨a.isLt, fun g hg => h (a := ⟨g, hA g hg⟩) hg⟩

theorem extAll_eq_lowerPolar (t : Table) (B : List Nat) (hB : ∀ a ∈ B, a < t.width) :
    objSet t (extAll t B) = lowerPolar (rel t) (attrSet t B) := by
  ext g
  simp only [objSet, Set.mem_ofPred_eq, mem_extAll, mem_lowerPolar_iff, attrSet, rel]
  constructor
  · rintro ⟨_, h⟩ a ha; exact h a.val ha
  · intro h
    exact ⟨g.isLt, fun a ha => h (b := ⟨a, hB a ha⟩) ha⟩

/-- a pair accepted by `isConcept` is a Mathlib `Concept` with that extent and intent -/
theorem isConcept_to_concept (t : Table) (A B : List Nat) (h : isConcept t A B = true) :
    ∃ c : Concept (Fin t.height) (Fin t.width) (rel t),
      c.extent = objSet t A ∧ c.intent = attrSet t B := by
  obtain ⟨he, hi⟩ := (isConcept_iff t).mp h
  refine ⟨⟨objSet t A, attrSet t B, ?_, ?_⟩, rfl, rfl⟩
  · rw [← intAll_eq_upperPolar t A (isConcept_extent_lt h), hi]
  · rw [← extAll_eq_lowerPolar t B (isConcept_intent_lt h), he]

theorem exists_list {n : Nat} (S : Set (Fin n)) :
    ∃ L : List Nat, L.Pairwise (· < ·) ∧ (∀ g ∈ L, g < n) ∧ {g : Fin n | g.val ∈ L} = S := by
  classical
  refine ⟨(List.range n).filter fun g => decide (∃ h : g < n, (⟨g, h⟩ : Fin n) ∈ S),
    List.pairwise_lt_range.filter _, fun g hg => List.mem_range.mp (List.mem_filter.mp hg).1, ?_⟩
  ext g
  simp only [Set.mem_ofPred_eq, List.mem_filter, List.mem_range, decide_eq_true_eq]
  exact ⟨fun ⟨_, _, hm⟩ => hm, fun hm => ⟨g.isLt, g.isLt, hm⟩⟩

theorem mem_of_set_eq {n : Nat} {X Y : List Nat} (hX : ∀ g ∈ X, g < n)
    (h : {g : Fin n | g.val ∈ X} = {g : Fin n | g.val ∈ Y}) : ∀ g ∈ X, g ∈ Y := fun g hg =>
  (h ▸ (show (⟨g, hX g hg⟩ : Fin n) ∈ {g : Fin n | g.val ∈ X} from hg) : _ ∈ {g : Fin n | g.val ∈ Y})

/-- conversely every Mathlib concept of the incidence relation is listed by `isConcept`
    (with its extent and intent written as ascending lists) -/
theorem concept_to_isConcept (t : Table) (c : Concept (Fin t.height) (Fin t.width) (rel t)) :
    ∃ A B : List Nat, isConcept t A B = true ∧ c.extent = objSet t A ∧ c.intent = attrSet t B := by
  obtain ⟨A, hAs, hA, (hAset : objSet t A = c.extent)⟩ := exists_list c.extent
  obtain ⟨B, hBs, hB, (hBset : attrSet t B = c.intent)⟩ := exists_list c.intent
  refine ⟨A, B, (isConcept_iff t).mpr ⟨?_, ?_⟩, hAset.symm, hBset.symm⟩
  · -- both sides are ascending lists; as sets they are the extent of `c`
    have hset : objSet t (extAll t B) = objSet t A := by
      rw [extAll_eq_lowerPolar t B hB, hBset, hAset, c.lowerPolar_intent]
    exact ListAux.sorted_ext (extAll_sorted t B) hAs fun g =>
      ⟨mem_of_set_eq (extAll_lt t) hset g, mem_of_set_eq hA hset.symm g⟩
  · have hset : attrSet t (intAll t A) = attrSet t B := by
      rw [intAll_eq_upperPolar t A hA, hAset, hBset, c.upperPolar_extent]
    exact ListAux.sorted_ext (intAll_sorted t A) hBs fun a =>
      ⟨mem_of_set_eq (intAll_lt t) hset a, mem_of_set_eq hB hset.symm a⟩

end Fca.Bridge
