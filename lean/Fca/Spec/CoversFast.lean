/-
  Fca.Spec.CoversFast — a fast executable version of `Fca.Spec.Covers` for the driver (concept lists with
  1000+ members, extents over 1000+ objects).

  `Spec.covers` is cubic in the number of concepts, walks `List.getD` for every look-up and compares extents
  by `List.contains`.  Here every extent is packed once into an *unbounded* bit set (a `Nat`: there is no word
  size, object 64 / 128 / 1000 is a bit like any other), the strict-inclusion relation is tabulated as one bit
  row per concept, and the covers of `i` are "row `i` minus the union of the rows of the members of row `i`"
  (one big-number `or` per member instead of one pass over the whole list).
  `Fca.C12.fast_oracle_exact` (over `Fca/Lemmas/ConstructFast.lean`) proves `coversDictFast`, `upperCoversDictFast`,
  `topFast`, `bottomFast` EQUAL to their `Spec` counterparts, so the driver may answer with either.
  No Mathlib import (linked into the native driver).
-/
import Fca.Spec.Covers
namespace Fca.Spec.Fast

/-- the bit set of a list of indexes -/
def maskOf (l : List Nat) : Nat := l.foldl (fun m x => m ||| (1 <<< x)) 0

/-- `a ⊆ b` on bit sets -/
def subM (a b : Nat) : Bool := a &&& b == a

/-- `a ⊂ b` on bit sets -/
def ssubM (a b : Nat) : Bool := subM a b && !(subM b a)

/-- the extents of the list, packed -/
def masksOf (cs : List (List Nat)) : Array Nat := (cs.map maskOf).toArray

/-- the indexes `j < n` with `R j i`, as a list and as a bit set -/
def listOf (n : Nat) (R : Nat → Nat → Bool) (i : Nat) : List Nat := (List.range n).filter fun j => R j i

/-- the union of the rows of the members of `l` -/
def unionRows (rows : Array Nat) (l : List Nat) : Nat := l.foldl (fun acc k => acc ||| rows.getD k 0) 0

/-- members of `l` (= row `i` as a list) that are in no row of a member of `l` -/
def coversByRows (rows : Array Nat) (l : List Nat) : List Nat :=
  let u := unionRows rows l
  l.filter fun j => !(u.testBit j)

/-- `i ↦ coversBy n R i` for all `i < n` at once: tabulate the rows, then reduce every row -/
def coversTable (n : Nat) (R : Nat → Nat → Bool) : List (List Nat) :=
  let lists := (List.range n).map (listOf n R)
  let rows := (lists.map maskOf).toArray
  lists.map (coversByRows rows)

/-- strict inclusion of the packed extents at indexes `j`, `i` -/
def ssubAtM (ms : Array Nat) (j i : Nat) : Bool := ssubM (ms.getD j 0) (ms.getD i 0)

/-- `Spec.coversDict`, fast -/
def coversDictFast (cs : List (List Nat)) : List (List Nat) :=
  let n := cs.length
  coversTable n (ssubAtM (masksOf cs))

/-- `Spec.upperCoversDict`, fast -/
def upperCoversDictFast (cs : List (List Nat)) : List (List Nat) :=
  let n := cs.length
  let ms := masksOf cs
  coversTable n (fun i j => ssubAtM ms j i)

def isTopFast (n : Nat) (ms : Array Nat) (t : Nat) : Bool :=
  decide (t < n) && (List.range n).all fun j => j == t || ssubAtM ms j t

def isBottomFast (n : Nat) (ms : Array Nat) (b : Nat) : Bool :=
  decide (b < n) && (List.range n).all fun j => j == b || ssubAtM ms b j

/-- `(List.range n).find? (Spec.isTopB cs)`, fast -/
def topFast (cs : List (List Nat)) : Option Nat :=
  let ms := masksOf cs
  (List.range cs.length).find? (isTopFast cs.length ms)

/-- `(List.range n).find? (Spec.isBottomB cs)`, fast -/
def bottomFast (cs : List (List Nat)) : Option Nat :=
  let ms := masksOf cs
  (List.range cs.length).find? (isBottomFast cs.length ms)

end Fca.Spec.Fast
