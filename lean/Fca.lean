import Fca.Model.Basic
import Fca.Model.BinTable
import Fca.Model.Context
import Fca.Spec.Galois
import Fca.Spec.Concepts
import Fca.Lemmas.BinTable
import Fca.Lemmas.FinOrder
import Fca.Lemmas.SharedLoops
import Fca.Lemmas.ExceptAux
import Fca.Lemmas.TransposeHierarchy
import Fca.Lemmas.ClosureWorklist
import Fca.Lemmas.ChainWalk
import Fca.Lemmas.AllI
import Fca.Lemmas.Names
import Fca.Lemmas.Galois
import Fca.Bridge.MathlibConcept
import Fca.Lemmas.SemiLatticeDic
import Fca.Lemmas.LatticeQueryC04
import Fca.Spec.C04Diagram
import Fca.Gen.Rt
import Fca.Gen.RtLemmas
import Fca.Gen.Generated
import Fca.Gen.Equiv
import Fca.Gen.RtCtx
import Fca.Gen.GeneratedCtx
import Fca.Gen.EquivCtx
import Fca.Props.C01
import Fca.Props.C20
import Fca.Model.DualityStore
import Fca.Spec.DualityBig
import Fca.Lemmas.DualityStore
import Fca.Props.C06
import Fca.Props.C16
import Fca.Props.C08
import Fca.Gen.RtPS
import Fca.Gen.GeneratedPS
import Fca.Gen.EquivPS
import Fca.Props.C13
import Fca.Lemmas.CodecMVCxt
import Fca.Lemmas.CodecPConcept
import Fca.Lemmas.CodecHist
import Fca.Lemmas.CodecFloatLit
import Fca.Props.C07
import Fca.Props.C14
import Fca.Props.C18
import Fca.Model.RFTree
import Fca.Lemmas.RFTree
import Fca.Props.C15
import Fca.Props.C03
import Fca.Props.C04
import Fca.Props.C02
import Fca.Lemmas.MoverSorted
import Fca.Model.LayoutMP
import Fca.Lemmas.LayoutMP
import Fca.Props.C19
import Fca.Gen.EquivOps
import Fca.Props.C05
import Fca.Lemmas.PosetAdd
import Fca.Lemmas.PosetStep
import Fca.Lemmas.PosetInitLoop
import Fca.Lemmas.PosetInit
import Fca.Gen.RtPoset
import Fca.Gen.GeneratedPoset
import Fca.Gen.EquivPoset
import Fca.Lemmas.PosetRun
import Fca.Props.C09
import Fca.Spec.TraceMV
import Fca.Lemmas.TraceMV
import Fca.Props.C17
import Fca.Props.C12
import Fca.Model.SemiLattice
import Fca.Spec.SemiLattice
import Fca.Lemmas.SemiLatticeSpec
import Fca.Lemmas.SemiLatticeFrame
import Fca.Lemmas.SemiLatticeStep
import Fca.Lemmas.SemiLatticeHist
import Fca.Lemmas.SemiLatticeAdd
import Fca.Lemmas.SemiLatticeFull
import Fca.Props.C11
import Fca.Model.PosetAlgebra
import Fca.Lemmas.PosetAlgebraIdx
import Fca.Lemmas.PosetAList
import Fca.Lemmas.PosetAlgebraLoop
import Fca.Lemmas.PosetAlgebra
import Fca.Props.C10
import Fca.Model.Caspailleur
import Fca.Lemmas.CaspBits
import Fca.Lemmas.CaspIncl
import Fca.Lemmas.CaspOrderExtents
